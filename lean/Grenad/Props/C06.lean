/-
  C06 — The k-way merger yields the grouped union of its sources.

  `Merger.run mf sources` (the heap-driven loop of `src/merger.rs`) is compared with
  `Spec.mergeSpec` / `Spec.group` (grouping of the concatenated sources): same output, same merge
  calls in the same order with the same value order, errors exactly when a call of the fault-free
  run fails.  Sources are arbitrary in number, may be empty, and are strictly ascending.
-/
import Grenad.Proofs.MergeProofs
import Grenad.Proofs.Wave3Sorter
import Grenad.Proofs.BinHeapProofs

namespace Grenad.Props.C06

open Grenad Grenad.Merger

/-- A merge function that never fails. -/
def total (mf' : Bytes → List Bytes → Bytes) : MergeFn := fun k vs => some (mf' k vs)

/-- Any never-failing `MergeFn` is of the form `total mf'`. -/
theorem total_of_isSome (mf : MergeFn) (hmf : ∀ k vs, (mf k vs).isSome) :
    mf = total (fun k vs => (mf k vs).get (hmf k vs)) := by
  funext k vs; simp [total]

/-! ### The general statement (any merge function) -/

/-- Output and calls of `Merger.run` for an arbitrary (possibly failing) merge function:
    the output is `mergeAll` over the groups (`none` as soon as a call fails) and the calls are
    the groups up to and including the first failing one. -/
theorem C06_run (mf : MergeFn) (sources : List (List Entry))
    (hasc : ∀ s ∈ sources, StrictAsc s) :
    (run mf sources).1 = mergeAll mf (Spec.group sources.flatten) ∧
    (run mf sources).2.calls.reverse = callsSpec mf (Spec.group sources.flatten) :=
  run_spec mf sources hasc

/-- The k-way merge equals the grouped union. -/
theorem C06_merge (mf' : Bytes → List Bytes → Bytes) (sources : List (List Entry))
    (hasc : ∀ s ∈ sources, StrictAsc s) :
    (run (total mf') sources).1 = some (Spec.mergeSpec mf' sources) :=
  run_total mf' sources hasc

/-- The same for a `MergeFn` that is only known never to fail. -/
theorem C06_merge' (mf : MergeFn) (hmf : ∀ k vs, (mf k vs).isSome) (sources : List (List Entry))
    (hasc : ∀ s ∈ sources, StrictAsc s) :
    (run mf sources).1 = some (Spec.mergeSpec (fun k vs => (mf k vs).get (hmf k vs)) sources) := by
  have h := C06_merge (fun k vs => (mf k vs).get (hmf k vs)) sources hasc
  rw [← total_of_isSome mf hmf] at h
  exact h

/-- The merge function is called once per distinct key, in ascending key order, with the values
    in the order their sources were added (singletons included). -/
theorem C06_calls (mf' : Bytes → List Bytes → Bytes) (sources : List (List Entry))
    (hasc : ∀ s ∈ sources, StrictAsc s) :
    (run (total mf') sources).2.calls.reverse = Spec.group sources.flatten := by
  rw [(run_spec _ sources hasc).2]
  exact callsSpec_total mf' _

theorem C06_calls' (mf : MergeFn) (hmf : ∀ k vs, (mf k vs).isSome) (sources : List (List Entry))
    (hasc : ∀ s ∈ sources, StrictAsc s) :
    (run mf sources).2.calls.reverse = Spec.group sources.flatten := by
  have h := C06_calls (fun k vs => (mf k vs).get (hmf k vs)) sources hasc
  rw [← total_of_isSome mf hmf] at h
  exact h

/-! ### What `Spec.group` is -/

/-- The values of key `k` are `(l.filter (·.1 = k)).map (·.2)`; no group is empty. -/
theorem group_values (l : List Entry) (k : Bytes) (vs : List Bytes) :
    (k, vs) ∈ Spec.group l ↔
      vs = (l.filter (fun e => decide (e.1 = k))).map (·.2) ∧ vs ≠ [] := mem_group l k vs

theorem mergeSpec_keys (mf' : Bytes → List Bytes → Bytes) (sources : List (List Entry)) :
    (Spec.mergeSpec mf' sources).map (·.1) = (Spec.group sources.flatten).map (·.1) := by
  simp [Spec.mergeSpec, List.map_map, Function.comp_def]

/-- The output is strictly ascending and its keys are exactly the union of the sources' keys. -/
theorem C06_sorted (mf' : Bytes → List Bytes → Bytes) (sources : List (List Entry))
    (hasc : ∀ s ∈ sources, StrictAsc s) :
    ∃ out, (run (total mf') sources).1 = some out ∧ StrictAsc out ∧
      ∀ k, k ∈ out.map (·.1) ↔ ∃ s ∈ sources, k ∈ s.map (·.1) := by
  refine ⟨_, C06_merge mf' sources hasc, ?_, ?_⟩
  · have := Grenad.group_keys_asc sources.flatten
    rw [← mergeSpec_keys mf', List.pairwise_map] at this
    exact this
  · intro k
    rw [mergeSpec_keys, mem_group_keys]
    simp only [List.mem_map, List.mem_flatten]
    constructor
    · rintro ⟨e, ⟨s, hs, he⟩, rfl⟩; exact ⟨s, hs, e, he, rfl⟩
    · rintro ⟨s, hs, e, he, rfl⟩; exact ⟨e, ⟨s, hs, he⟩, rfl⟩

/-- With a merge function that is the identity on singletons, a key present in exactly one
    source maps to that source's value (and to nothing else). -/
theorem C06_lone (mf' : Bytes → List Bytes → Bytes) (hid : ∀ k v, mf' k [v] = v)
    (pre post : List (List Entry)) (s : List Entry)
    (hasc : ∀ t ∈ pre ++ s :: post, StrictAsc t)
    (k v : Bytes) (hm : (k, v) ∈ s)
    (hpre : ∀ t ∈ pre, ∀ e ∈ t, e.1 ≠ k) (hpost : ∀ t ∈ post, ∀ e ∈ t, e.1 ≠ k) :
    ∃ out, (run (total mf') (pre ++ s :: post)).1 = some out ∧ (k, v) ∈ out ∧
      ∀ v', (k, v') ∈ out → v' = v := by
  refine ⟨_, C06_merge mf' _ hasc, ?_, ?_⟩
  all_goals
    have hs : StrictAsc s := hasc s (by simp)
    have hvals : valsOf k (pre ++ s :: post).flatten = [v] := by
      rw [List.flatten_append, List.flatten_cons, valsOf_append, valsOf_append,
        valsOf_of_mem_asc hs hm]
      have h1 : valsOf k pre.flatten = [] := by
        rw [valsOf_eq_nil]; intro e he
        obtain ⟨t, ht, het⟩ := List.mem_flatten.mp he
        exact hpre t ht e het
      have h2 : valsOf k post.flatten = [] := by
        rw [valsOf_eq_nil]; intro e he
        obtain ⟨t, ht, het⟩ := List.mem_flatten.mp he
        exact hpost t ht e het
      rw [h1, h2]; rfl
  · simp only [Spec.mergeSpec, List.mem_map]
    refine ⟨(k, [v]), (mem_group _ _ _).mpr ⟨hvals.symm, by simp⟩, ?_⟩
    simp [hid]
  · intro v' hv'
    simp only [Spec.mergeSpec, List.mem_map] at hv'
    obtain ⟨⟨k', vs⟩, hg, heq⟩ := hv'
    simp only [Prod.mk.injEq] at heq
    obtain ⟨rfl, rfl⟩ := heq
    have := ((mem_group _ _ _).mp hg).1
    rw [hvals] at this
    rw [this, hid]

/-- `Merger.run` fails exactly when one of the calls of the fault-free run fails. -/
theorem C06_merge_err (mf : MergeFn) (sources : List (List Entry))
    (hasc : ∀ s ∈ sources, StrictAsc s) :
    (run mf sources).1 = none ↔ ∃ g ∈ Spec.group sources.flatten, mf g.1 g.2 = none := by
  rw [(run_spec mf sources hasc).1]
  exact mergeAll_eq_none mf _

/-- When it fails, the recorded calls are the groups up to and including the first failing one;
    when it does not, all of them. -/
theorem C06_calls_err (mf : MergeFn) (sources : List (List Entry))
    (hasc : ∀ s ∈ sources, StrictAsc s) :
    (run mf sources).2.calls.reverse = callsSpec mf (Spec.group sources.flatten) :=
  (run_spec mf sources hasc).2

/-- Four sources (one empty); key `[1]` is in sources 0 and 2, key `[3]` in 0 and 3, `[2]` alone. -/
def exSources : List (List Entry) :=
  [ [([1], [10]), ([3], [30])], [], [([1], [11]), ([2], [20])], [([3], [31]), ([4, 0], [40])] ]

def exConcat : Bytes → List Bytes → Bytes := fun _ vs => vs.flatten

/-- Fails on key `[3]`. -/
def exFail : MergeFn := fun k vs => if k = [3] then none else some vs.flatten

instance (es : List Entry) : Decidable (StrictAsc es) := by unfold StrictAsc; infer_instance

theorem exAsc : ∀ s ∈ exSources, StrictAsc s := by decide

theorem exGroups : Spec.group exSources.flatten =
    [([1], [[10], [11]]), ([2], [[20]]), ([3], [[30], [31]]), ([4, 0], [[40]])] := by decide +kernel

theorem exMerged : Spec.mergeSpec exConcat exSources =
    [([1], [10, 11]), ([2], [20]), ([3], [30, 31]), ([4, 0], [40])] := by
  simp only [Spec.mergeSpec, exGroups]; rfl

example : (run (total exConcat) exSources).1 =
    some [([1], [10, 11]), ([2], [20]), ([3], [30, 31]), ([4, 0], [40])] := by
  rw [C06_merge exConcat exSources exAsc, exMerged]

example : (run (total exConcat) exSources).2.calls.reverse =
    [([1], [[10], [11]]), ([2], [[20]]), ([3], [[30], [31]]), ([4, 0], [[40]])] := by
  rw [C06_calls exConcat exSources exAsc, exGroups]

example : ∀ k v, exConcat k [v] = v := by intro k v; simp [exConcat]

example : ∃ out, (run (total exConcat) exSources).1 = some out ∧ StrictAsc out ∧
    ∀ k, k ∈ out.map (·.1) ↔ ∃ s ∈ exSources, k ∈ s.map (·.1) :=
  C06_sorted exConcat exSources exAsc

/-- Key `[2]` occurs only in source 2. -/
example : ∃ out, (run (total exConcat) exSources).1 = some out ∧ (([2], [20]) : Entry) ∈ out ∧
    ∀ v', (([2], v') : Entry) ∈ out → v' = [20] :=
  C06_lone exConcat (by intro k v; simp [exConcat])
    [[([1], [10]), ([3], [30])], []] [[([3], [31]), ([4, 0], [40])]] [([1], [11]), ([2], [20])]
    exAsc [2] [20] (by decide +kernel) (by decide +kernel) (by decide +kernel)

example : (run exFail exSources).1 = none :=
  (C06_merge_err exFail exSources exAsc).mpr ⟨([3], [[30], [31]]), by rw [exGroups]; decide, rfl⟩

example : (run exFail exSources).2.calls.reverse =
    [([1], [[10], [11]]), ([2], [[20]]), ([3], [[30], [31]])] := by
  rw [C06_calls_err exFail exSources exAsc, exGroups]; rfl

end Grenad.Props.C06

section Axioms
open Grenad.Props.C06
#print axioms C06_run
#print axioms C06_merge
#print axioms C06_merge'
#print axioms C06_calls
#print axioms C06_calls'
#print axioms C06_sorted
#print axioms C06_lone
#print axioms C06_merge_err
#print axioms C06_calls_err
#print axioms group_values
end Axioms

/-!
  ## The merger between files; the heap's shape

  `Wave3.Admissible`, `Wave3.SizesOk`, `Wave3.RoundTrips`, `Wave3.yielded`: see
  Grenad/Proofs/Wave3Sorter.lean (`RoundTrips cd cfg es` is the conclusion of `C01_roundtrip`).
  `scanForward`, `reader`: the byte-level reader of Grenad/Props/C01.lean.
-/
namespace Grenad.Props.C06

open Grenad Grenad.Merger Grenad.Wave3 Grenad.Assembly Grenad.Props.C01

/-- The merged output is strictly ascending (whatever the sources). -/
theorem mergeSpec_asc (mf' : Bytes → List Bytes → Bytes) (sources : List (List Entry)) :
    StrictAsc (Spec.mergeSpec mf' sources) := by
  rw [mergeSpec_eq_G]; exact G_asc mf' _

/-- Sizes of the merged output: keys are source keys, values are outputs of the merge function
    on the groups, and there are at most as many pairs as in all sources together. -/
theorem mergeSpec_sizes (mf' : Bytes → List Bytes → Bytes) (sources : List (List Entry))
    (hk : ∀ s ∈ sources, ∀ e ∈ s, e.1.length < 2 ^ 32)
    (hv : ∀ g ∈ Spec.group sources.flatten, (mf' g.1 g.2).length < 2 ^ 32)
    (hn : totalLen sources < 2 ^ 64) : SizesOk (Spec.mergeSpec mf' sources) := by
  refine sizes_of_keys (kvs := sources.flatten) (mergeSpec_asc mf' sources) ?_ ?_ ?_ ?_
  · intro k hk'
    rw [mergeSpec_keys, mem_group_keys] at hk'
    exact hk'
  · intro e he
    obtain ⟨s, hs, hes⟩ := List.mem_flatten.mp he
    exact hk s hs e hes
  · intro e he
    simp only [Spec.mergeSpec, List.mem_map] at he
    obtain ⟨g, hg, rfl⟩ := he
    exact hv g hg
  · rw [List.length_flatten]; exact hn

/-- **C06_into_writer.**  Streaming the merger into a writer produces a file with exactly the
    merged content.  Sources strictly ascending, merge function total; the writer configuration
    is any one admitted by `C01_roundtrip` (lawful codec with id ≤ 5, any block size, at most 255
    index levels, interval ≥ 1); source keys and MERGED values shorter than `2^32` bytes, fewer
    than `2^64` pairs in all.  Then the merger returns `out = Spec.mergeSpec mf' sources`, `out`
    is strictly ascending, `W.run cd wcfg out` succeeds, and — under the two output-size side
    conditions of `C01_roundtrip` — the file opens with `count = out.length` and its forward
    scan returns exactly `out` (then `None`). -/
theorem C06_into_writer (mf' : Bytes → List Bytes → Bytes) (sources : List (List Entry))
    (hasc : ∀ s ∈ sources, StrictAsc s)
    (hk : ∀ s ∈ sources, ∀ e ∈ s, e.1.length < 2 ^ 32)
    (hv : ∀ g ∈ Spec.group sources.flatten, (mf' g.1 g.2).length < 2 ^ 32)
    (hn : totalLen sources < 2 ^ 64)
    (cd : Codec) (wcfg : WCfg) (hlaw : cd.Lawful) (hid : cd.id ≤ 5) (hlv : wcfg.levels ≤ 255)
    (hiv : 1 ≤ wcfg.interval) :
    ∃ out, (run (total mf') sources).1 = some out ∧ out = Spec.mergeSpec mf' sources ∧
      StrictAsc out ∧
      ∃ file log, W.run cd wcfg out = .ok (file, log) ∧
        (file.length < 2 ^ 64 → (∀ e ∈ log, e.raw.length < 2 ^ 32) →
          ∃ m, Meta.parse file = .ok m ∧ m.count = out.length ∧ m.codec = cd.id ∧
            scanForward cd file (out.length + 1) (RC.new m) =
              out.map (fun e => Res.ok (some e)) ++ [Res.ok none] ∧
            yielded (scanForward cd file (out.length + 1) (RC.new m)) = out) := by
  refine ⟨_, C06_merge mf' sources hasc, rfl, mergeSpec_asc mf' sources, ?_⟩
  obtain ⟨file, log, hrun, h⟩ := roundTrips ⟨hlaw, hid, hlv, hiv⟩ (mergeSpec_asc mf' sources)
    (mergeSpec_sizes mf' sources hk hv hn)
  refine ⟨file, log, hrun, fun h1 h2 => ?_⟩
  obtain ⟨m, hm, g1, g2, g3, -, g5⟩ := h h1 h2
  exact ⟨m, hm, g1, g2, g3, g5⟩

/-- The same with the packaged conclusion (backward scan included) and the size hypotheses on the
    output itself. -/
theorem C06_into_writer' (mf' : Bytes → List Bytes → Bytes) (sources : List (List Entry))
    (hasc : ∀ s ∈ sources, StrictAsc s) (hs : SizesOk (Spec.mergeSpec mf' sources))
    (cd : Codec) (wcfg : WCfg) (A : Admissible cd wcfg) :
    (run (total mf') sources).1 = some (Spec.mergeSpec mf' sources) ∧
      RoundTrips cd wcfg (Spec.mergeSpec mf' sources) :=
  ⟨C06_merge mf' sources hasc, roundTrips A (mergeSpec_asc mf' sources) hs⟩

/-- A source of the merger as it exists on disk: the bytes `file` written by `W.run cd cfg es`
    (with the block log), under all the hypotheses of C01 (`Assembly.Setting`). -/
structure SourceFile where
  cd : Codec
  cfg : WCfg
  es : List Entry
  file : Bytes
  log : List Emitted
  setting : Setting cd cfg es file log

/-- **C06_sources_are_lists.**  Each source file opens, and `next()` on its fresh byte-level
    cursor yields exactly the entries it was written from, in order, then `None`
    (`C01_roundtrip_of_run`); these lists are strictly ascending.  This is what justifies
    modelling a merger source as the list its cursor yields: the merger over the files' cursors
    is `Merger.run` over `fs.map (·.es)`, whose output is the grouped union. -/
theorem C06_sources_are_lists (fs : List SourceFile) :
    (∀ f ∈ fs, ∃ m, Meta.parse f.file = .ok m ∧ m.count = f.es.length ∧
        scanForward f.cd f.file (f.es.length + 1) (RC.new m) =
          f.es.map (fun e => Res.ok (some e)) ++ [Res.ok none] ∧
        yielded (scanForward f.cd f.file (f.es.length + 1) (RC.new m)) = f.es) ∧
    (∀ s ∈ fs.map (·.es), StrictAsc s) ∧
    ∀ mf', (run (total mf') (fs.map (·.es))).1 = some (Spec.mergeSpec mf' (fs.map (·.es))) := by
  have hasc : ∀ s ∈ fs.map (·.es), StrictAsc s := by
    intro s hs
    obtain ⟨f, -, rfl⟩ := List.mem_map.mp hs
    exact f.setting.H.asc
  exact ⟨fun f _ => setting_yields f.setting, hasc, fun mf' => C06_merge mf' _ hasc⟩

/-- **From files to a file.**  Merging written files and streaming the result into a writer:
    `C06_sources_are_lists` and `C06_into_writer` chained (the source keys are shorter than
    `2^32` because the files were written). -/
theorem C06_files_into_writer (mf' : Bytes → List Bytes → Bytes) (fs : List SourceFile)
    (hv : ∀ g ∈ Spec.group (fs.map (·.es)).flatten, (mf' g.1 g.2).length < 2 ^ 32)
    (hn : totalLen (fs.map (·.es)) < 2 ^ 64) (cd : Codec) (wcfg : WCfg) (A : Admissible cd wcfg) :
    (run (total mf') (fs.map (·.es))).1 = some (Spec.mergeSpec mf' (fs.map (·.es))) ∧
      RoundTrips cd wcfg (Spec.mergeSpec mf' (fs.map (·.es))) := by
  obtain ⟨-, hasc, -⟩ := C06_sources_are_lists fs
  refine C06_into_writer' mf' _ hasc (mergeSpec_sizes mf' _ ?_ hv hn) cd wcfg A
  intro s hs e he
  obtain ⟨f, -, rfl⟩ := List.mem_map.mp hs
  exact (f.setting.H.lens e he).1

/-- **C06_heap_shape_irrelevant.**  The model selects the next head with `heapMin` over a list in
    arbitrary order.  `MergerIter::next` is invariant under permutation of that list: two mergers
    whose heaps hold the same entries (with pairwise distinct `(key, idx)` pairs) in any two
    orders return the same result, record the same call, and their new heaps again hold the same
    entries.  This is the formal content of "the binary heap's internal shape is unobservable". -/
theorem C06_heap_shape_irrelevant (mf : MergeFn) (m m' : Merger)
    (hne : m.heap.Pairwise (fun a b => (a.key, a.idx) ≠ (b.key, b.idx)))
    (hp : m.heap.Perm m'.heap) (hc : m.calls = m'.calls) :
    (next mf m).2 = (next mf m').2 ∧
    (next mf m).1.heap.Perm (next mf m').1.heap ∧
    (next mf m).1.calls = (next mf m').1.calls :=
  next_perm mf m m' ((keyIdxNe_iff _).mpr hne) hp hc

/-- The hypothesis is an invariant of every run: after any number of `next` calls from
    `Merger.start sources` (any sources, any merge function) the heap entries have pairwise
    distinct source indices, hence pairwise distinct `(key, idx)` pairs. -/
theorem C06_heap_distinct (mf : MergeFn) (sources : List (List Entry)) (n : Nat) :
    (nextN mf n (start sources)).heap.Pairwise (fun a b => a.idx ≠ b.idx) ∧
    (nextN mf n (start sources)).heap.Pairwise (fun a b => (a.key, a.idx) ≠ (b.key, b.idx)) :=
  ⟨(run_keyIdxNe mf sources n).1, (keyIdxNe_iff _).mp (run_keyIdxNe mf sources n).2⟩

/-- Whole runs: draining a merger whose heap is ANY permutation of the initial heap gives the
    output and the calls of `Merger.run`. -/
theorem C06_heap_shape_irrelevant_run (mf : MergeFn) (sources : List (List Entry)) (m' : Merger)
    (hp : (start sources).heap.Perm m'.heap) (hc : m'.calls = []) :
    (Merger.collect mf (totalLen sources + 1) m' []).1 = (run mf sources).1 ∧
    (Merger.collect mf (totalLen sources + 1) m' []).2.calls = (run mf sources).2.calls := by
  have := collect_perm mf (totalLen sources + 1) (start sources) m' [] (start_idxNe sources) hp
    (by rw [hc]; rfl)
  exact ⟨this.1.symm, this.2.symm⟩

def exWCfg : WCfg := { blockSize := 0, minBlock := 28, interval := 2, levels := 2 }

/-- `C06_into_writer` on `exSources` / `exConcat`: the hypotheses are satisfiable. -/
example : ∃ out, (run (total exConcat) exSources).1 = some out ∧
    out = [([1], [10, 11]), ([2], [20]), ([3], [30, 31]), ([4, 0], [40])] ∧ StrictAsc out ∧
    ∃ file log, W.run Codec.none exWCfg out = .ok (file, log) := by
  obtain ⟨out, h1, h2, h3, file, log, h4, -⟩ := C06_into_writer exConcat exSources exAsc
    (by decide +kernel) (by decide +kernel) (by decide +kernel) Codec.none exWCfg (fun _ => rfl) (by decide +kernel) (by decide +kernel)
    (by decide +kernel)
  exact ⟨out, h1, h2.trans exMerged, h3, file, log, h4⟩

/-- The file of the C01 instance (twelve entries, eight blocks) as a merger source. -/
def exSrcFile : SourceFile :=
  ⟨Codec.none, Grenad.Props.C01.exCfg, exEs, exFile, exLog, exSetting⟩

/-- `C06_sources_are_lists` / `C06_files_into_writer` on an instance: the file merged with
    itself (every key twice, values concatenated) and streamed into a writer. -/
example : RoundTrips Codec.none exWCfg (Spec.mergeSpec exConcat [exEs, exEs]) :=
  (C06_files_into_writer exConcat [exSrcFile, exSrcFile] (by decide +kernel) (by decide +kernel) Codec.none exWCfg
    ⟨fun _ => rfl, by decide +kernel, by decide +kernel, by decide +kernel⟩).2

example : ∃ m, Meta.parse exFile = .ok m ∧
    yielded (scanForward Codec.none exFile 13 (RC.new m)) = exEs := by
  obtain ⟨m, hm, -, -, h⟩ := (C06_sources_are_lists [exSrcFile]).1 exSrcFile (by simp)
  exact ⟨m, hm, h⟩

/-- Two orders of the same heap. -/
def exHeapA : List MSrc :=
  [⟨0, [([1], [10]), ([3], [30])]⟩, ⟨2, [([1], [11]), ([2], [20])]⟩, ⟨3, [([3], [31])]⟩]
def exHeapB : List MSrc :=
  [⟨3, [([3], [31])]⟩, ⟨2, [([1], [11]), ([2], [20])]⟩, ⟨0, [([1], [10]), ([3], [30])]⟩]

example : (next (total exConcat) ⟨exHeapA, []⟩).2 = (next (total exConcat) ⟨exHeapB, []⟩).2 :=
  (C06_heap_shape_irrelevant (total exConcat) ⟨exHeapA, []⟩ ⟨exHeapB, []⟩ (by decide) (by decide)
    rfl).1

/-- The hypothesis cannot be dropped: with two heads carrying the same `(key, idx)` the popped
    order — hence the value order handed to the merge function — depends on the list order. -/
example : (next (total exConcat) ⟨[⟨0, [([1], [10])]⟩, ⟨0, [([1], [11])]⟩], []⟩).2 ≠
    (next (total exConcat) ⟨[⟨0, [([1], [11])]⟩, ⟨0, [([1], [10])]⟩], []⟩).2 := by decide +kernel

end Grenad.Props.C06

section AxiomsWave3
open Grenad.Props.C06
#print axioms mergeSpec_sizes
#print axioms C06_into_writer
#print axioms C06_into_writer'
#print axioms C06_sources_are_lists
#print axioms C06_files_into_writer
#print axioms C06_heap_shape_irrelevant
#print axioms C06_heap_distinct
#print axioms C06_heap_shape_irrelevant_run
end AxiomsWave3

/-!
  ## The binary heap itself (reduction of the trusted base)

  `Grenad.Model.Merger` replaces `std::collections::BinaryHeap` by its specification (a list with
  `heapMin` / `heapPop`).  `Grenad.Model.BinHeap` models the data structure — the backing array,
  `push` = append + `sift_up`, `pop` = take the last item, exchange it with the root,
  `sift_down_to_bottom` + `sift_up` (the std algorithm), `peek` = `data[0]` — and `MergerH`, the
  merger of `src/merger.rs` over it.  Here: the binary heap implements the specification, and
  `MergerH.runH` has the output and the calls of `Merger.run`, so every C06 theorem holds for it.
  Helper lemmas: Grenad/Proofs/BinHeapProofs.lean (namespace `Grenad.BinHeapP`).
-/
namespace Grenad.Props.C06

set_option autoImplicit false

open Grenad Grenad.Merger Grenad.MergerH Grenad.Wave3

/-! ### The data structure against its specification -/

/-- `push` keeps the heap order and adds exactly the pushed element (any heap, any element). -/
theorem C06_binary_heap_push (h : BinHeap) (x : MSrc) (ho : BinHeapP.HeapOrdered h) :
    BinHeapP.HeapOrdered (h.push x) ∧ (h.push x).toList.Perm (x :: h.toList) :=
  ⟨BinHeapP.push_ordered ho x, BinHeapP.push_perm h x⟩

/-- `pop` on an ordered heap (no distinctness needed): `none` exactly on the empty heap; otherwise
    the root, which pops no later than every element, and an ordered heap holding the others. -/
theorem C06_binary_heap_pop_ordered (h : BinHeap) (ho : BinHeapP.HeapOrdered h) :
    (h.pop = none ↔ h.toList = []) ∧
    ∀ m h', h.pop = some (m, h') →
      h.peek = some m ∧ h.toList.Perm (m :: h'.toList) ∧ BinHeapP.HeapOrdered h' ∧
      ∀ x ∈ h.toList, x.before m = false := by
  refine ⟨BinHeapP.pop_eq_none, fun m h' hp => ?_⟩
  obtain ⟨h1, h2, h3⟩ := BinHeapP.pop_some ho hp
  exact ⟨h1, h2, h3, (BinHeapP.peek_le ho h1).2⟩

/-- **`peek` = `heapMin`** on an ordered heap with pairwise distinct `(key, idx)` pairs. -/
theorem C06_binary_heap_peek (h : BinHeap) (ho : BinHeapP.HeapOrdered h)
    (hne : h.toList.Pairwise (fun a b => (a.key, a.idx) ≠ (b.key, b.idx))) :
    h.peek = heapMin h.toList :=
  BinHeapP.peek_eq_heapMin ho ((keyIdxNe_iff _).mpr hne)

/-- **`pop` = `heapPop`** on an ordered heap with pairwise distinct `(key, idx)` pairs: both
    return `none`, or `pop` returns the very element `heapPop` selects on the element list and an
    ordered heap whose elements are a permutation of `heapPop`'s remainder. -/
theorem C06_binary_heap_pop (h : BinHeap) (ho : BinHeapP.HeapOrdered h)
    (hne : h.toList.Pairwise (fun a b => (a.key, a.idx) ≠ (b.key, b.idx))) :
    (h.pop = none ∧ heapPop h.toList = none) ∨
    ∃ m h' r, h.pop = some (m, h') ∧ heapPop h.toList = some (m, r) ∧ h'.toList.Perm r ∧
      BinHeapP.HeapOrdered h' := by
  rcases BinHeapP.binheap_pop_spec ho ((keyIdxNe_iff _).mpr hne) with h1 | ⟨m, h', r, h1, h2, h3, h4, -⟩
  · exact Or.inl h1
  · exact Or.inr ⟨m, h', r, h1, h2, h3, h4⟩

/-- The distinctness hypothesis cannot be dropped: with two entries carrying the same
    `(key, idx)` pair the binary heap and `heapPop` may select different ones. -/
example : ∃ h : BinHeap, BinHeapP.HeapOrdered h ∧
    (h.pop).map (·.1) ≠ (heapPop h.toList).map (·.1) := by
  refine ⟨(BinHeap.empty.push ⟨0, [([1], [10])]⟩).push ⟨0, [([1], [11])]⟩, ?_, by decide⟩
  exact BinHeapP.push_ordered (BinHeapP.push_ordered BinHeapP.empty_ordered _) _

/-! ### The merger on the binary heap -/

/-- One step: `MergerIter::next` on the binary heap against `Merger.next` on a list heap holding
    the same entries (pairwise distinct `(key, idx)` pairs): same result, same calls, the new
    binary heap is ordered and again holds the entries of the new list heap. -/
theorem C06_binary_heap_step (mf : MergeFn) (mh : MergerH) (m : Merger)
    (ho : BinHeapP.HeapOrdered mh.heap)
    (hne : m.heap.Pairwise (fun a b => (a.key, a.idx) ≠ (b.key, b.idx)))
    (hp : mh.heap.toList.Perm m.heap) (hc : mh.calls = m.calls) :
    (nextH mf mh).2 = (next mf m).2 ∧
    BinHeapP.HeapOrdered (nextH mf mh).1.heap ∧
    (nextH mf mh).1.heap.toList.Perm (next mf m).1.heap ∧
    (nextH mf mh).1.calls = (next mf m).1.calls :=
  BinHeapP.nextH_sim mf mh m ho ((keyIdxNe_iff _).mpr hne) hp hc

/-- **C06_binary_heap_refines.**  For ALL sources (sorted or not, empty or not) and every merge
    function (failing or not), the merger running on the array-based binary heap returns the
    output of `Merger.run` and records the same merge calls.  (Simulation: the binary heap's
    element list is always a permutation of the list-model heap, whose entries have pairwise
    distinct source indices: `C06_heap_distinct`, `C06_heap_shape_irrelevant`.) -/
theorem C06_binary_heap_refines (mf : MergeFn) (sources : List (List Entry)) :
    (runH mf sources).1 = (run mf sources).1 ∧
    (runH mf sources).2.calls = (run mf sources).2.calls :=
  BinHeapP.runH_eq_run mf sources

theorem C06_run_binary_heap (mf : MergeFn) (sources : List (List Entry))
    (hasc : ∀ s ∈ sources, StrictAsc s) :
    (runH mf sources).1 = mergeAll mf (Spec.group sources.flatten) ∧
    (runH mf sources).2.calls.reverse = callsSpec mf (Spec.group sources.flatten) := by
  rw [(C06_binary_heap_refines mf sources).1, (C06_binary_heap_refines mf sources).2]
  exact C06_run mf sources hasc

/-- **C06_merge_binary_heap.**  The k-way merge on the binary heap equals the grouped union. -/
theorem C06_merge_binary_heap (mf' : Bytes → List Bytes → Bytes) (sources : List (List Entry))
    (hasc : ∀ s ∈ sources, StrictAsc s) :
    (runH (total mf') sources).1 = some (Spec.mergeSpec mf' sources) := by
  rw [(C06_binary_heap_refines _ sources).1]
  exact C06_merge mf' sources hasc

theorem C06_calls_binary_heap (mf' : Bytes → List Bytes → Bytes) (sources : List (List Entry))
    (hasc : ∀ s ∈ sources, StrictAsc s) :
    (runH (total mf') sources).2.calls.reverse = Spec.group sources.flatten := by
  rw [(C06_binary_heap_refines _ sources).2]
  exact C06_calls mf' sources hasc

theorem C06_merge_err_binary_heap (mf : MergeFn) (sources : List (List Entry))
    (hasc : ∀ s ∈ sources, StrictAsc s) :
    (runH mf sources).1 = none ↔ ∃ g ∈ Spec.group sources.flatten, mf g.1 g.2 = none := by
  rw [(C06_binary_heap_refines mf sources).1]
  exact C06_merge_err mf sources hasc

/-- A concrete merge evaluated on the binary heap (four sources, one empty). -/
example : (runH (total exConcat) exSources).1 =
    some [([1], [10, 11]), ([2], [20]), ([3], [30, 31]), ([4, 0], [40])] := by decide +kernel

example : (runH (total exConcat) exSources).2.calls.reverse =
    [([1], [[10], [11]]), ([2], [[20]]), ([3], [[30], [31]]), ([4, 0], [[40]])] := by decide +kernel

example : (runH (total exConcat) exSources).1 =
    some [([1], [10, 11]), ([2], [20]), ([3], [30, 31]), ([4, 0], [40])] := by
  rw [C06_merge_binary_heap exConcat exSources exAsc, exMerged]

/-- Unsorted sources with a failing merge function: still the same as `Merger.run`. -/
example : (runH exFail [[([3], [1]), ([1], [2])], [([3], [4])]]).1 =
    (run exFail [[([3], [1]), ([1], [2])], [([3], [4])]]).1 :=
  (C06_binary_heap_refines _ _).1

/-- Seven pushes (descending keys, so every push sifts up to the root), then pops: the heap is
    ordered throughout and pops in `(key, idx)` order. -/
def exBinHeap : BinHeap :=
  [6, 5, 4, 3, 2, 1, 0].foldl (fun h (i : Nat) => h.push ⟨i, [([UInt8.ofNat i], [])]⟩) BinHeap.empty

example : exBinHeap.toList.map (·.idx) = [0, 3, 1, 6, 4, 5, 2] := by decide +kernel

theorem exBinHeap_ordered : BinHeapP.HeapOrdered exBinHeap := by
  unfold exBinHeap
  simp only [List.foldl_cons, List.foldl_nil]
  repeat apply BinHeapP.push_ordered
  exact BinHeapP.empty_ordered

example : BinHeapP.HeapOrdered exBinHeap := exBinHeap_ordered

example : exBinHeap.pop.map (fun p => (p.1.idx, p.2.toList.map (·.idx))) =
    some (0, [1, 3, 2, 6, 4, 5]) := by decide +kernel

example : exBinHeap.peek = heapMin exBinHeap.toList :=
  C06_binary_heap_peek _ exBinHeap_ordered (by decide +kernel)

end Grenad.Props.C06

section AxiomsBinHeap
open Grenad.Props.C06
#print axioms C06_binary_heap_push
#print axioms C06_binary_heap_pop_ordered
#print axioms C06_binary_heap_peek
#print axioms C06_binary_heap_pop
#print axioms C06_binary_heap_step
#print axioms C06_binary_heap_refines
#print axioms C06_run_binary_heap
#print axioms C06_merge_binary_heap
#print axioms C06_calls_binary_heap
#print axioms C06_merge_err_binary_heap
end AxiomsBinHeap
