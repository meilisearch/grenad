/-
  C08 — resource bounds of the sorter: the data held in memory since the last spill stays within
  twice the budget (within the budget itself, rounded up to 16, when reallocation is disabled),
  the number of live chunk handles never exceeds `max_nb_chunks + 2`, and every chunk comes from
  a `ChunkCreator::create` made by a spill or a chunk merge.

  `T := cfg.budget = max threshold MIN_SORTER_MEMORY`, `cap0 cfg` = the first capacity,
  `Reach mf cfg P s sp mg` = "`s` is reached by `new cfg` and successful inserts of entries
  satisfying `P`, `sp` of which spilled and `mg` of which also merged the chunks".
  Nothing is assumed of the merge function.
-/
import Grenad.Proofs.SorterSortedRun

namespace Grenad.Props.C08

open Grenad Grenad.Sorter Grenad.Entries

/-- **C08, volume (general form).**  If every inserted entry needs at most half the budget
    (`2 · (16 + |k| + |v|) ≤ T`), the buffer — hence the data inserted since the last spill — never
    exceeds the larger of the first allocation and `2·T`. -/
theorem C08_volume_general {mf : MergeFn} {cfg : SCfg} {s : Sorter} {sp mg : Nat}
    (r : Reach mf cfg (fun k v => 2 * entrySize k v ≤ cfg.budget) s sp mg) :
    s.entries.bufLen ≤ max (roundUp (cap0 cfg)) (2 * cfg.budget) ∧
    s.entries.entriesLen + 16 * s.entries.boundsCount ≤ s.entries.bufLen ∧
    s.entries.entriesLen = itemsSize s.entries.items := by
  have i := r.core.1.inv
  refine ⟨?_, i.room, i.sum⟩
  refine r.buf (by omega) (by omega) ?_
  intro k v h; omega

/-- **C08, volume.**  With a first capacity within the budget (true for the real constants as
    soon as the threshold is at least 128 KiB, and always when reallocation is disabled) the bytes
    of keys and values inserted since the last spill never exceed twice the budget; neither does
    the allocation. -/
theorem C08_volume {mf : MergeFn} {cfg : SCfg} {s : Sorter} {sp mg : Nat}
    (hcap : cap0 cfg ≤ cfg.budget) (hT : 16 ≤ cfg.budget)
    (r : Reach mf cfg (fun k v => 2 * entrySize k v ≤ cfg.budget) s sp mg) :
    s.entries.entriesLen ≤ 2 * cfg.budget ∧ itemsSize s.entries.items ≤ 2 * cfg.budget ∧
    s.entries.bufLen ≤ 2 * cfg.budget := by
  obtain ⟨h1, h2, h3⟩ := C08_volume_general r
  have := roundUp_lt (cap0 cfg)
  rw [← h3]
  omega

/-- The same under the hypothesis of the property's text: entries of at most a quarter of the
    budget. -/
theorem C08_volume_quarter {mf : MergeFn} {cfg : SCfg} {s : Sorter} {sp mg : Nat}
    (hcap : cap0 cfg ≤ cfg.budget) (hT : 16 ≤ cfg.budget)
    (r : Reach mf cfg (fun k v => entrySize k v ≤ cfg.budget / 4) s sp mg) :
    s.entries.entriesLen ≤ 2 * cfg.budget ∧ itemsSize s.entries.items ≤ 2 * cfg.budget ∧
    s.entries.bufLen ≤ 2 * cfg.budget :=
  C08_volume hcap hT (r.mono (fun k v h => by omega))

/-- **C08, volume with reallocation disabled.**  If no entry needs more than the budget, the
    buffer keeps the size `roundUp T < T + 16` of its only allocation, and the data inserted since
    the last spill (entry bytes plus 16 bytes per entry) stays within it. -/
theorem C08_volume_noRealloc {mf : MergeFn} {cfg : SCfg} {s : Sorter} {sp mg : Nat}
    (hr : cfg.allowRealloc = false)
    (r : Reach mf cfg (fun k v => entrySize k v ≤ cfg.budget) s sp mg) :
    s.entries.bufLen = roundUp cfg.budget ∧ roundUp cfg.budget < cfg.budget + 16 ∧
    s.entries.entriesLen + 16 * s.entries.boundsCount ≤ roundUp cfg.budget ∧
    allocSizes s.events = [roundUp cfg.budget] := by
  have h := r.noRealloc hr (fun k v h => Nat.le_trans h (le_roundUp _))
  have i := r.core.1.inv
  exact ⟨h.1, roundUp_lt _, by rw [← h.1]; exact i.room, h.2⟩

/-- **C08, chunks.**  Between public calls at most `max (max_nb_chunks - 1) 1` chunks exist, and
    at every point of the event sequence the number of live chunk handles (creates minus drops)
    is between 0 and `max_nb_chunks + 2`. -/
theorem C08_chunks {mf : MergeFn} {cfg : SCfg} {P : Bytes → Bytes → Prop} {s : Sorter}
    {sp mg : Nat} (r : Reach mf cfg P s sp mg) :
    s.chunks.length ≤ max (cfg.maxNb - 1) 1 ∧
    ∀ p, p <+: s.events →
      creates p ≤ drops p + (cfg.maxNb + 2) ∧ drops p ≤ creates p := by
  have ⟨c, hl, _⟩ := r.core
  refine ⟨hl, ?_⟩
  intro p hp
  have := (chunkRun_prefix c.chunk (by omega)).2 p hp
  omega

/-- The same across the final `finishChunks`, which adds one chunk. -/
theorem C08_chunks_finish {mf : MergeFn} {cfg : SCfg} {P : Bytes → Bytes → Prop} {s s' : Sorter}
    {sp mg : Nat} (r : Reach mf cfg P s sp mg) (h : finishChunks mf s = .ok s') :
    s'.chunks.length ≤ max (cfg.maxNb - 1) 1 + 1 ∧
    ∀ p, p <+: s'.events →
      creates p ≤ drops p + (cfg.maxNb + 2) ∧ drops p ≤ creates p := by
  have ⟨c, hl, _⟩ := r.core
  have f := finishChunks_post c (by omega) h
  refine ⟨by omega, ?_⟩
  intro p hp
  have := (chunkRun_prefix f.2.2.2.1 (by omega)).2 p hp
  omega

/-- **C08, creator.**  The `create` events are exactly the spills plus the chunk merges, and the
    chunks held are the created ones that have not been dropped. -/
theorem C08_creator {mf : MergeFn} {cfg : SCfg} {P : Bytes → Bytes → Prop} {s : Sorter}
    {sp mg : Nat} (r : Reach mf cfg P s sp mg) :
    creates s.events = sp + mg ∧ s.chunks.length + drops s.events = creates s.events ∧
    s.chunks.length ≤ creates s.events := by
  have ⟨c, _, hc⟩ := r.core
  have := (chunkRun_prefix c.chunk (by omega)).1
  omega

/-- After `finishChunks`: one more create (the final spill). -/
theorem C08_creator_finish {mf : MergeFn} {cfg : SCfg} {P : Bytes → Bytes → Prop}
    {s s' : Sorter} {sp mg : Nat} (r : Reach mf cfg P s sp mg)
    (h : finishChunks mf s = .ok s') :
    creates s'.events = sp + mg + 1 ∧ s'.chunks.length + drops s'.events = creates s'.events := by
  have ⟨c, hl, hc⟩ := r.core
  have f := finishChunks_post c (by omega) h
  have := (chunkRun_prefix f.2.2.2.1 (by omega)).1
  omega

/-- The counters `sp`, `mg` of `Reach` count what they say: an insert from a state satisfying the
    buffer invariant takes the `write_chunk` branch iff `spills` holds and calls `merge_chunks`
    iff `merges` holds. -/
theorem C08_counters_meaning {mf : MergeFn} {s s' : Sorter} {k v : Bytes} (hinv : Inv s.entries)
    (h : Sorter.insert mf s k v = .ok s') :
    (spills s k v = false ∧ ∃ j, s' = plainStep s k v j) ∨
    (spills s k v = true ∧ merges s k v = false ∧ ∃ chunk calls j,
       s' = spillStep s chunk calls k v j) ∨
    (spills s k v = true ∧ merges s k v = true ∧ ∃ chunk calls j merged calls',
       s' = mergeStep (spillStep s chunk calls k v j) merged calls') := by
  rcases insert_cases hinv h with ⟨h1, j, _, e⟩ | ⟨h1, chunk, calls, j, _, hm⟩
  · exact .inl ⟨h1, j, e⟩
  · rcases hm with ⟨h2, e⟩ | ⟨h2, merged, calls', e⟩
    · exact .inr (.inl ⟨h1, h2, chunk, calls, j, e⟩)
    · exact .inr (.inr ⟨h1, h2, chunk, calls, j, merged, calls', e⟩)

def mfC : MergeFn := fun _ vs => some vs.flatten

/-- Budget 1024 bytes, first buffer 64 bytes, at most 2 chunks. -/
def cfgC : SCfg :=
  { threshold := 1024, minMemory := 1024, initialSize := 64, allowRealloc := true, maxChunks := 2 }

/-- `n` entries of `16 + 1 + len` bytes each, keys in increasing order. -/
def kvs (n len : Nat) : List Entry :=
  (List.range n).map (fun i => ([i.toUInt8], List.replicate len 0))

private theorem run_reach {mf : MergeFn} {cfg : SCfg} {P : Bytes → Bytes → Prop}
    {l : List Entry} {α : Type} [DecidableEq α] (f : Sorter → α) (a : α) (hs : KeySorted l)
    (hl : ∀ kv ∈ l, P kv.1 kv.2)
    (v : (programW mf cfg l false).toOption.map f = some a) :
    ∃ s sp mg, Reach mf cfg P s sp mg ∧ f s = a := by
  obtain ⟨s, _, ⟨sp, mg, r⟩, hf⟩ := reach_of_programW f a hs hl v
  exact ⟨s, sp, mg, r, hf⟩

/-- The ten 256-byte entries of the instances arrive in key order. -/
private theorem kvs10_sorted : KeySorted (kvs 10 239) := by unfold KeySorted; decide +kernel

/-- The hypotheses of `C08_volume` are satisfiable: ten 256-byte entries (a quarter of the
    budget each) force four doublings, two spills and a merge, and end with 480 bytes pending in
    a 1024-byte buffer and one chunk. -/
example : cap0 cfgC ≤ cfgC.budget ∧ 16 ≤ cfgC.budget ∧
    ∃ s sp mg, Reach mfC cfgC (fun k v => entrySize k v ≤ cfgC.budget / 4) s sp mg ∧
      (s.entries.bufLen, s.entries.entriesLen, s.chunks.length, creates s.events) =
        (1024, 480, 1, 3) := by
  refine ⟨by decide, by decide, ?_⟩
  refine run_reach (l := kvs 10 239) _ _ kvs10_sorted ?_
    (by decide +kernel)
  show ∀ kv ∈ kvs 10 239, entrySize kv.1 kv.2 ≤ cfgC.budget / 4
  decide +kernel

/-- The bound `max_nb_chunks + 2` on live chunk handles is attained when `max_nb_chunks = 1`:
    the second spill creates a chunk beside the previous one, and the merge creates its output
    while both are alive. -/
example :
    let cfg : SCfg := { cfgC with maxChunks := 1 }
    ∃ s sp mg, Reach mfC cfg (fun _ _ => True) s sp mg ∧
      ∃ p, p <+: s.events ∧ creates p = drops p + (cfg.maxNb + 2) := by
  intro cfg
  obtain ⟨s, sp, mg, r, hs⟩ := run_reach (mf := mfC) (cfg := cfg) (P := fun _ _ => True)
    (l := kvs 10 239) (fun s => s.events)
    [.alloc 64, .alloc 128, .dealloc 64, .alloc 256, .dealloc 128, .alloc 512, .dealloc 256,
     .alloc 1024, .dealloc 512, .create, .create, .dropChunk, .create, .create, .dropChunk,
     .dropChunk]
    kvs10_sorted (fun _ _ => trivial) (by decide +kernel)
  refine ⟨s, sp, mg, r, ?_⟩
  rw [hs]
  exact ⟨[.alloc 64, .alloc 128, .dealloc 64, .alloc 256, .dealloc 128, .alloc 512, .dealloc 256,
     .alloc 1024, .dealloc 512, .create, .create, .dropChunk, .create, .create],
    by decide +kernel, by decide +kernel⟩

/-- Reallocation disabled, budget 1024: the hypotheses of `C08_volume_noRealloc` are satisfiable
    (ten 256-byte entries, three spills), the buffer stays at 1024 bytes. -/
example :
    let cfg : SCfg := { cfgC with allowRealloc := false, maxChunks := 25 }
    cfg.allowRealloc = false ∧
    ∃ s sp mg, Reach mfC cfg (fun k v => entrySize k v ≤ cfg.budget) s sp mg ∧
      (s.entries.bufLen, s.chunks.length, allocSizes s.events) = (1024, 2, [1024]) := by
  intro cfg
  refine ⟨rfl, ?_⟩
  refine run_reach (l := kvs 10 239) _ _ kvs10_sorted ?_
    (by decide +kernel)
  show ∀ kv ∈ kvs 10 239, entrySize kv.1 kv.2 ≤ cfg.budget
  decide +kernel

/-- The size hypothesis cannot be dropped: with reallocation *disabled* and a budget of 1024
    bytes, one entry of 1100 bytes makes `Entries::insert` double the buffer to 2048 bytes (the
    spill that precedes it does not help, the emptied buffer is still too small). -/
example :
    let cfg : SCfg := { cfgC with allowRealloc := false }
    ∃ s sp mg, Reach mfC cfg (fun _ _ => True) s sp mg ∧
      (s.entries.bufLen, allocSizes s.events) = (2048, [1024, 2048]) := by
  intro cfg
  exact run_reach (l := kvs 1 1083) _ _ (by unfold KeySorted; decide +kernel)
    (fun _ _ => trivial) (by decide +kernel)

/-- Likewise with reallocation allowed: entries larger than half the budget can push the buffer
    beyond twice the budget (here 4096 > 2·1024 for one entry of 2100 bytes). -/
example : ∃ s sp mg, Reach mfC cfgC (fun _ _ => True) s sp mg ∧ s.entries.bufLen = 4096 :=
  run_reach (l := kvs 1 2083) _ _ (by unfold KeySorted; decide +kernel)
    (fun _ _ => trivial) (by decide +kernel)

end Grenad.Props.C08
