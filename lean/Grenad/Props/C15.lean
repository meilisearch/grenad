/-
  C15 — Blocks are cut at the configured size.

  `B := cfg.clamped = max cfg.minBlock cfg.blockSize`.  The size estimate of a block writer holding
  `items` with an offset table of `n` slots is `est items n` (= `BW.sizeEstimate`, and also the
  length of the bytes `BW.finish` writes).  For every successful run, every data block and every
  index block more than one level below the root
    * was below `B` (or empty) before its final entry was inserted, and
    * if it was emitted during an `insert` (a cut, not `finish`), is at least `B` with it.
  Index list positions 0 (root) and 1 are never cut by `Writer::insert` (in the Rust code the loop
  runs over `index_block_writers[1..]` and looks the parent up *inside that slice*), so the index
  block directly below the root grows without bound and the root always holds a single entry;
  see the level-3 block in the `example` below.
-/
import Grenad.Proofs.WriterInv
import Grenad.Generated.Constants

namespace Grenad.Props.C15

open Grenad

/-- The size estimate (`current_size_estimate`) of a block writer holding `items` with an offset
    table of `offsetsLen` slots. -/
def est (items : List Entry) (offsetsLen : Nat) : Nat :=
  (items.map frameOf).flatten.length + offsetsLen * 8 + 4

theorem est_eq_sizeEstimate {iv : Nat} {w : BW} (h : BW.Reach iv w) :
    est w.items w.offsets.length = w.sizeEstimate := by
  rw [est, BW.sizeEstimate, h.buffer_eq]

/-- Levels subject to cutting: data blocks, and index blocks more than one level below the root
    (the root has level `cfg.levels + 1`). -/
def Cuttable (cfg : WCfg) (e : Emitted) : Prop :=
  e.level = 0 ∨ (1 ≤ e.level ∧ e.level + 2 ≤ cfg.levels + 1)

/-- Block `e` is the `finish` of the block writer state `bw`, which was obtained from the state `p`
    (reachable from the empty writer by successful inserts) by inserting the final entry `(k, v)`. -/
structure LastInsert (cfg : WCfg) (e : Emitted) (p bw : BW) (k v : Bytes) : Prop where
  reach  : BW.Reach cfg.interval p
  ins    : p.insert k v = .ok bw
  items  : e.items = p.items ++ [(k, v)]
  raw    : e.raw = bw.finish
  rawLen : e.raw.length = est e.items bw.offsets.length
  grow   : est e.items bw.offsets.length ≤ est p.items p.offsets.length + (BW.frame k v).length + 8

theorem lastInsert_of_goodPred {cfg : WCfg} {e : Emitted} {bw : BW}
    (hit : e.items = bw.items) (hraw : e.raw = bw.finish)
    (hg : GoodPred cfg.interval cfg.clamped bw) :
    ∃ p k v, LastInsert cfg e p bw k v ∧ (p.items = [] ∨ est p.items p.offsets.length < cfg.clamped) := by
  obtain ⟨p, k, v, hp, hins, hpend⟩ := hg
  have hbw : BW.Reach cfg.interval bw := BW.Reach.step hp hins
  have hitems : e.items = p.items ++ [(k, v)] := by rw [hit, BW.insert_items hins]
  have hlen : e.raw.length = est e.items bw.offsets.length := by
    rw [hraw, BW.finish_length, hit, est_eq_sizeEstimate hbw]
  refine ⟨p, k, v, ⟨hp, hins, hitems, hraw, hlen, ?_⟩, ?_⟩
  · rw [hit, est_eq_sizeEstimate hbw, est_eq_sizeEstimate hp]
    exact (BW.sizeEstimate_insert hins).2
  · rcases hpend with h | h
    · exact .inl h
    · exact .inr (by rw [est_eq_sizeEstimate hp]; exact h)

/-- **C15 (cut rule).**  For a successful run, split the log into the blocks emitted while
    inserting (`w.log`, where `w` is the writer after the last insert) and those emitted by
    `finish` (`tl`).  Every block on a cuttable level has a last insert `p —(k,v)→ bw` whose
    predecessor state was empty or had a size estimate `< B`; every block emitted while inserting
    has a size estimate (= raw length) `≥ B`. -/
theorem C15_cut (cd : Codec) (cfg : WCfg) (kvs : List Entry) (file : Bytes) (log : List Emitted)
    (h : W.run cd cfg kvs = .ok (file, log)) :
    ∃ w tl, W.run.go cd (W.new cfg) kvs = .ok w ∧ W.finish cd w = .ok (file, log) ∧
      log = w.log ++ tl ∧
      (∀ e ∈ log, Cuttable cfg e → ∃ p bw k v, LastInsert cfg e p bw k v ∧
          (p.items = [] ∨ est p.items p.offsets.length < cfg.clamped)) ∧
      (∀ e ∈ w.log, cfg.clamped ≤ e.raw.length) := by
  have hspec := W.run_spec cd cfg kvs
  rw [h] at hspec
  obtain ⟨w, tl, hgo, hfin, hcfg, hI, hlog, hok, _⟩ := hspec
  refine ⟨w, tl, hgo, hfin, hlog, ?_, fun e he => hcfg ▸ (hI.logok e he).2⟩
  intro e he hc
  obtain ⟨bw, _, hit, hraw, hg⟩ := hok e he
  have hc' : e.level = 0 ∨ e.level + 2 ≤ cfg.levels + 1 := by
    rcases hc with hc | hc
    · exact .inl hc
    · exact .inr hc.2
  obtain ⟨p, k, v, hli, hp⟩ := lastInsert_of_goodPred hit hraw (hg hc')
  exact ⟨p, bw, k, v, hli, hp⟩

/-- The empty block writer has size estimate 12 (one offset slot and the 4-byte count), so as soon
    as `B > 12` — always, with the default `MIN_BLOCK_SIZE = 1024` — the predecessor state is
    below `B` without exception. -/
theorem C15_cut_strict (cd : Codec) (cfg : WCfg) (kvs : List Entry) (file : Bytes) (log : List Emitted)
    (h : W.run cd cfg kvs = .ok (file, log)) (hB : 12 < cfg.clamped) :
    ∀ e ∈ log, Cuttable cfg e → ∃ p bw k v, LastInsert cfg e p bw k v ∧
      est p.items p.offsets.length < cfg.clamped := by
  obtain ⟨w, tl, _, _, _, hall, _⟩ := C15_cut cd cfg kvs file log h
  intro e he hc
  obtain ⟨p, bw, k, v, hli, hp⟩ := hall e he hc
  refine ⟨p, bw, k, v, hli, ?_⟩
  rcases hp with hp | hp
  · have : p = BW.new cfg.interval := hli.reach.eq_new_of_items_nil hp
    rw [this]
    exact hB
  · exact hp

/-- **C15 (size bound).**  On the cuttable levels a block exceeds the block size by at most its
    final entry's frame plus one offset slot.  (`max (B - 1) 12` is `B - 1` as soon as `B > 12`.) -/
theorem C15_bound (cd : Codec) (cfg : WCfg) (kvs : List Entry) (file : Bytes) (log : List Emitted)
    (h : W.run cd cfg kvs = .ok (file, log)) :
    ∀ e ∈ log, Cuttable cfg e → ∃ ini last, e.items = ini ++ [last] ∧
      e.raw.length ≤ max (cfg.clamped - 1) 12 + (frameOf last).length + 8 := by
  obtain ⟨w, tl, _, _, _, hall, _⟩ := C15_cut cd cfg kvs file log h
  intro e he hc
  obtain ⟨p, bw, k, v, hli, hp⟩ := hall e he hc
  refine ⟨p.items, (k, v), hli.items, ?_⟩
  have h1 := hli.rawLen
  have h2 := hli.grow
  have h3 : est p.items p.offsets.length ≤ max (cfg.clamped - 1) 12 := by
    rcases hp with hp | hp
    · have : p = BW.new cfg.interval := hli.reach.eq_new_of_items_nil hp
      rw [this]
      exact Nat.le_max_right _ _
    · have : est p.items p.offsets.length ≤ cfg.clamped - 1 := by omega
      exact Nat.le_trans this (Nat.le_max_left _ _)
  show e.raw.length ≤ max (cfg.clamped - 1) 12 + (BW.frame k v).length + 8
  omega

theorem C15_bound_strict (cd : Codec) (cfg : WCfg) (kvs : List Entry) (file : Bytes)
    (log : List Emitted) (h : W.run cd cfg kvs = .ok (file, log)) (hB : 12 < cfg.clamped) :
    ∀ e ∈ log, Cuttable cfg e → ∃ ini last, e.items = ini ++ [last] ∧
      e.raw.length ≤ (cfg.clamped - 1) + (frameOf last).length + 8 := by
  intro e he hc
  obtain ⟨ini, last, h1, h2⟩ := C15_bound cd cfg kvs file log h e he hc
  refine ⟨ini, last, h1, ?_⟩
  have : max (cfg.clamped - 1) 12 = cfg.clamped - 1 := Nat.max_eq_left (by omega)
  rw [this] at h2
  exact h2

/-- After any number of inserts no pending writer on a cuttable position is left at or above the
    block size: the data block and the index writers at list index `≥ 2` are empty or below `B`. -/
theorem C15_pending (cd : Codec) (cfg : WCfg) (kvs : List Entry) (w : W)
    (h : W.run.go cd (W.new cfg) kvs = .ok w) :
    (w.bw.items = [] ∨ w.bw.sizeEstimate < cfg.clamped) ∧
    ∀ j b, w.idx[j]? = some b → 2 ≤ j → (b.items = [] ∨ b.sizeEstimate < cfg.clamped) := by
  have hgo := W.go_spec cd kvs (W.new cfg) (W.inv_new cfg)
  rw [h] at hgo
  obtain ⟨hcfg, hI, _⟩ := hgo
  have hcfg' : w.cfg = cfg := hcfg
  have h1 := hI.bwP
  have h2 := hI.idxP
  rw [hcfg'] at h1 h2
  exact ⟨h1, h2⟩

/-- **C15 (clamp).**  The effective block size is `max MIN_BLOCK_SIZE size`. -/
theorem C15_clamp (cfg : WCfg) : cfg.clamped = max cfg.minBlock cfg.blockSize := rfl

/-- With the default `MIN_BLOCK_SIZE = 1024`, requested sizes up to 1024 give 1024. -/
theorem C15_clamp_default (b iv lv : Nat) (hb : b ≤ 1024) :
    ({ blockSize := b, interval := iv, levels := lv } : WCfg).clamped = 1024 := by
  show max 1024 b = 1024
  omega

theorem C15_clamp_default_ge (b iv lv : Nat) (hb : 1024 ≤ b) :
    ({ blockSize := b, interval := iv, levels := lv } : WCfg).clamped = b := by
  show max 1024 b = b
  omega

/-- Behaviourally: a requested block size below `MIN_BLOCK_SIZE` produces exactly the same file
    (and log) as `MIN_BLOCK_SIZE` itself; with the default 1024, every request `≤ 1024` behaves as
    1024. -/
theorem C15_clamp_behaviour (cd : Codec) (cfg : WCfg) (kvs : List Entry)
    (hb : cfg.blockSize ≤ cfg.minBlock) :
    W.run cd cfg kvs = W.run cd { cfg with blockSize := cfg.minBlock } kvs := by
  apply W.run_cfg_indep
  · show max cfg.minBlock cfg.blockSize = max cfg.minBlock cfg.minBlock
    omega
  · rfl
  · rfl

theorem C15_clamp_behaviour_default (cd : Codec) (b iv lv : Nat) (kvs : List Entry) (hb : b ≤ 1024) :
    W.run cd { blockSize := b, interval := iv, levels := lv } kvs
      = W.run cd { blockSize := 1024, interval := iv, levels := lv } kvs :=
  C15_clamp_behaviour cd { blockSize := b, interval := iv, levels := lv } kvs hb

def key (n : Nat) : Bytes := [UInt8.ofNat (n / 256), UInt8.ofNat (n % 256)]
def kvs (n : Nat) : List Entry := (List.range n).map (fun i => (key i, [UInt8.ofNat i, 7, 7, 7]))
def cfg : WCfg := { blockSize := 0, minBlock := 32, interval := 2, levels := 3 }

/-- (level, number of items, raw length) of every emitted block. -/
def summ (r : Except Trap (Bytes × List Emitted)) : Except Trap (List (Nat × Nat × Nat)) :=
  match r with
  | .ok (_, log) => .ok (log.map (fun e => (e.level, e.items.length, e.raw.length)))
  | .error t => .error t

theorem summ_kvs40 : summ (W.run Codec.none cfg (kvs 40)) = .ok
    [(0, 3, 44), (0, 3, 44), (1, 2, 36), (0, 3, 44), (0, 3, 44), (1, 2, 36), (2, 2, 36),
     (0, 3, 44), (0, 3, 44), (1, 2, 36), (0, 3, 44), (0, 3, 44), (1, 2, 36), (2, 2, 36),
     (0, 3, 44), (0, 3, 44), (1, 2, 36), (0, 3, 44), (0, 3, 44), (1, 2, 36), (2, 2, 36),
     (0, 3, 44), (0, 1, 20), (1, 2, 36), (2, 1, 24), (3, 4, 68), (4, 1, 24)] :=
  eq_ok_of_toOption (by decide +kernel)

theorem run_ok_of_summ {r : Except Trap (Bytes × List Emitted)} {l : List (Nat × Nat × Nat)}
    (h : summ r = .ok l) : ∃ file log, r = .ok (file, log) := by
  cases r with
  | error t => cases h
  | ok p => exact ⟨p.1, p.2, rfl⟩

/-- `B = 32`, 3 index levels, 40 entries: data blocks are cut at 44 bytes (3 entries: 12 + 2·8
    after the second entry is 28 < 32), level-1 and level-2 index blocks at 36 bytes (2 entries);
    the level-3 block (list index 1, directly below the root) is never cut and reaches 68 bytes;
    the last five blocks and the partial blocks before them come from `finish`. -/
example : summ (W.run Codec.none cfg (kvs 40)) = .ok
    [(0, 3, 44), (0, 3, 44), (1, 2, 36), (0, 3, 44), (0, 3, 44), (1, 2, 36), (2, 2, 36),
     (0, 3, 44), (0, 3, 44), (1, 2, 36), (0, 3, 44), (0, 3, 44), (1, 2, 36), (2, 2, 36),
     (0, 3, 44), (0, 3, 44), (1, 2, 36), (0, 3, 44), (0, 3, 44), (1, 2, 36), (2, 2, 36),
     (0, 3, 44), (0, 1, 20), (1, 2, 36), (2, 1, 24), (3, 4, 68), (4, 1, 24)] := summ_kvs40

example : cfg.clamped = 32 := rfl

/-- The hypotheses of `C15_cut` / `C15_cut_strict` / `C15_bound_strict` are satisfiable. -/
example : ∃ file log, W.run Codec.none cfg (kvs 40) = .ok (file, log) ∧ 12 < cfg.clamped := by
  obtain ⟨file, log, h⟩ := run_ok_of_summ summ_kvs40
  exact ⟨file, log, h, by decide⟩

/-- Hypothesis of `C15_clamp_behaviour`. -/
example : cfg.blockSize ≤ cfg.minBlock := by decide

end Grenad.Props.C15

namespace Grenad.Props.C15

/-- The minimum and the default block size extracted from /repo's current sources
    (`Generated.Constants`) are the model's. -/
theorem C15_constants_from_source :
    Grenad.Generated.minBlockSize = 1024 ∧
    Grenad.Generated.minBlockSize = ({ blockSize := 0 } : Grenad.WCfg).minBlock ∧
    Grenad.Generated.defaultBlockSize = 8192 := by decide

end Grenad.Props.C15
