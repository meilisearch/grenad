/-
  C09, specification decoder without the per-block hypothesis: T-block (`parse_built`,
  `BlockOf.entryAt_lt/_end`) supplies it for blocks shorter than `2^32` bytes.
-/
import Grenad.Props.C09
import Grenad.Proofs.WriterTreeDecodeTB

namespace Grenad.Props.C09

open Grenad

/-- On every file produced by the writer from sorted input, the independent decoder returns the
    inserted entries — provided every emitted block is shorter than `2^32` bytes (T-block's
    footer assumption) and `index_key_interval ≥ 1`. -/
theorem C09_spec_decoder_small {cd : Codec} {cfg : WCfg} {es : List Entry}
    (H : WriterHyps cd cfg es) (hiv : 1 ≤ cfg.interval) {file : Bytes} {log : List Emitted}
    (hrun : W.run cd cfg es = .ok (file, log))
    (hfile : file.length < 2 ^ 64) (hcount : es.length < 2 ^ 64) (hid : cd.id ≤ 5)
    (hsmall : ∀ e ∈ log, e.raw.length < 2 ^ 32) :
    SpecDecode.entries cd file = some es := by
  obtain ⟨-, -, -, hmade, -⟩ := T_writer_bytes H hrun hfile
  exact C09_spec_decoder H hrun hfile hcount hid (BlocksDecode.of_small hiv hmade hsmall)

/-- Size checks on a run result, as a Boolean. -/
def sizesOK (r : Except Trap (Bytes × List Emitted)) : Bool :=
  match r with
  | .ok (f, log) => decide (f.length < 2 ^ 64) && log.all (fun e => decide (e.raw.length < 2 ^ 32))
  | .error _ => false

/-- The hypotheses are satisfiable (instance of `Props/C09.lean`). -/
example : ∃ file log, W.run Codec.none cfgX esX = .ok (file, log) ∧
    SpecDecode.entries Codec.none file = some esX := by
  obtain ⟨file, log, hrun⟩ := T_writer_ok hypsX
  have hlen : file.length = 454 := length_of_shapeX hrun
  have hfile : file.length < 2 ^ 64 := by rw [hlen]; decide
  obtain ⟨root, hwf⟩ := C09_conforms hypsX hrun hfile (by decide) (by decide)
  refine ⟨file, log, hrun,
    C09_spec_decoder_small hypsX (by decide) hrun hfile (by decide) (by decide) ?_⟩
  intro e he
  have := hwf.raw_le e he
  omega

end Grenad.Props.C09

section Audit
open Grenad.Props.C09
#print axioms C09_spec_decoder_small
end Audit
