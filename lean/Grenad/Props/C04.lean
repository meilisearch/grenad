/-
  C04 — Range iteration yields exactly the entries whose key lies in the range, in ascending
  order (`RangeIter`) or descending order (`RevRangeIter`), for every pair of bounds (inverted
  and empty ranges included).

  Layer: the iterator algorithms of `Grenad.Model.Iter`, run over a cursor that refines the
  specification cursor `Spec.step es` (that the byte-level cursor does so is C02/C03).
  * `C04_range`, `C04_range_rev`: over `Spec.stepTotal es`, from position `fresh`.
  * `C04_range_refines`, `C04_range_rev_refines`: over ANY cursor `step'` related to the
    specification cursor by a simulation `Sim es step' R` (results agree wherever `Spec.step`
    determines them; nothing assumed where it does not), from any position.  No side condition is
    needed: the range iterators never issue a call whose result the specification leaves open
    (they stop at the first `None`).
-/
import Grenad.Proofs.IterMain

namespace Grenad.Props.C04

open Grenad Grenad.IterP

theorem C04_range (es : List Entry) (hasc : StrictAsc es) (lo hi : Bound) (fuel : Nat)
    (hfuel : fuel > es.length) :
    collect (RangeIter.next (Spec.stepTotal es)) fuel
        { cursor := .fresh, lo := lo, hi := hi } [] =
      some (Spec.range es lo hi) :=
  range_collect (sim_stepTotal es) hasc .fresh .fresh rfl lo hi fuel hfuel

theorem C04_range_rev (es : List Entry) (hasc : StrictAsc es) (lo hi : Bound) (fuel : Nat)
    (hfuel : fuel > es.length) :
    collect (RangeIter.nextRev (Spec.stepTotal es)) fuel
        { cursor := .fresh, lo := lo, hi := hi } [] =
      some (Spec.range es lo hi).reverse :=
  range_collect_rev (sim_stepTotal es) hasc .fresh .fresh rfl lo hi fuel hfuel

/-- C04, forward, over any cursor that simulates the specification cursor, from any position
    (`pos0` need not be `fresh`: a freshly built range iterator re-seeks). -/
theorem C04_range_refines {γ : Type} (es : List Entry) (hasc : StrictAsc es)
    (step' : γ → Op → γ × Res) (R : γ → Spec.Pos → Prop) (hsim : Sim es step' R)
    (c0 : γ) (pos0 : Spec.Pos) (hR : R c0 pos0) (lo hi : Bound) (fuel : Nat)
    (hfuel : fuel > es.length) :
    collect (RangeIter.next step') fuel { cursor := c0, lo := lo, hi := hi } [] =
      some (Spec.range es lo hi) :=
  range_collect hsim hasc c0 pos0 hR lo hi fuel hfuel

/-- C04, backward, over any cursor that simulates the specification cursor, from any position. -/
theorem C04_range_rev_refines {γ : Type} (es : List Entry) (hasc : StrictAsc es)
    (step' : γ → Op → γ × Res) (R : γ → Spec.Pos → Prop) (hsim : Sim es step' R)
    (c0 : γ) (pos0 : Spec.Pos) (hR : R c0 pos0) (lo hi : Bound) (fuel : Nat)
    (hfuel : fuel > es.length) :
    collect (RangeIter.nextRev step') fuel { cursor := c0, lo := lo, hi := hi } [] =
      some (Spec.range es lo hi).reverse :=
  range_collect_rev hsim hasc c0 pos0 hR lo hi fuel hfuel

/-- The simple form of the refinement hypothesis (same state space, `R := Eq`): `step'` moves to
    the same position as `Spec.step` and returns its result whenever that is specified. -/
theorem sim_of_agree (es : List Entry) (step' : Spec.Pos → Op → Spec.Pos × Res)
    (h : ∀ pos op, (step' pos op).1 = (Spec.step es pos op).1 ∧
      match (Spec.step es pos op).2 with
      | some r => (step' pos op).2 = .ok r
      | none => True) :
    Sim es step' Eq := by
  intro c pos op hc
  subst hc
  refine ⟨(h c op).1, ?_⟩
  have := (h c op).2
  cases hs : (Spec.step es c op).2 with
  | none => trivial
  | some r => rw [hs] at this; exact this

/-- Four entries, strictly ascending. -/
def es4 : List Entry :=
  [([1], [10]), ([2, 0], [20]), ([2, 7], [30]), ([9], [40])]

theorem es4_asc : StrictAsc es4 := by unfold StrictAsc es4; decide

-- excluded lower bound present in the list (one extra `next`), included upper bound
example :
    collect (RangeIter.next (Spec.stepTotal es4)) 5
        { cursor := .fresh, lo := .excluded [2, 0], hi := .included [9] } [] =
      some [([2, 7], [30]), ([9], [40])] := by decide +kernel

example :
    collect (RangeIter.next (Spec.stepTotal es4)) 5
        { cursor := .fresh, lo := .excluded [2, 0], hi := .included [9] } [] =
      some (Spec.range es4 (.excluded [2, 0]) (.included [9])) :=
  C04_range es4 es4_asc _ _ 5 (by decide)

-- excluded upper bound present in the list (one extra `prev`), backward
example :
    collect (RangeIter.nextRev (Spec.stepTotal es4)) 5
        { cursor := .fresh, lo := .unbounded, hi := .excluded [2, 7] } [] =
      some [([2, 0], [20]), ([1], [10])] := by decide +kernel

example :
    collect (RangeIter.nextRev (Spec.stepTotal es4)) 5
        { cursor := .fresh, lo := .unbounded, hi := .excluded [2, 7] } [] =
      some (Spec.range es4 .unbounded (.excluded [2, 7])).reverse :=
  C04_range_rev es4 es4_asc _ _ 5 (by decide)

-- inverted range: empty in both directions
example :
    collect (RangeIter.next (Spec.stepTotal es4)) 5
        { cursor := .fresh, lo := .included [9], hi := .included [2] } [] = some [] := by decide

example :
    collect (RangeIter.nextRev (Spec.stepTotal es4)) 5
        { cursor := .fresh, lo := .included [9], hi := .included [2] } [] = some [] := by decide

example : Spec.range es4 (.included [9]) (.included [2]) = [] := by decide

-- degenerate range `(k, k)` on a present key
example :
    collect (RangeIter.next (Spec.stepTotal es4)) 5
        { cursor := .fresh, lo := .excluded [2, 0], hi := .excluded [2, 0] } [] = some [] := by
  decide

-- the generalised theorem is applicable: `Spec.stepTotal` is one simulating cursor
example : Sim es4 (Spec.stepTotal es4) Eq := sim_stepTotal es4

end Grenad.Props.C04
