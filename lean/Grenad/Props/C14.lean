/-
  C14 — Key and value lengths from 0 to 2^32-1 are framed losslessly.
-/
import Grenad.Proofs.Frame

namespace Grenad.Props.C14

open Grenad Grenad.Varint

/-- Every length `v < 2^32` encodes to 1..5 bytes that decode back to `v`, consuming exactly the
    encoded bytes, whatever follows them. -/
theorem C14_roundtrip (v : Nat) (hv : v < 2^32) (rest : Bytes) :
    decode32 (encode32 v ++ rest) = some (v, (encode32 v).length)
    ∧ 1 ≤ (encode32 v).length ∧ (encode32 v).length ≤ 5 :=
  ⟨decode_encode v hv rest, encode32_length_bounds v⟩

/-- The width changes exactly at the framing boundaries 2^7, 2^14, 2^21, 2^28. -/
theorem C14_width (v : Nat) :
    (encode32 v).length =
      if v < 2^7 then 1 else if v < 2^14 then 2 else if v < 2^21 then 3 else if v < 2^28 then 4 else 5 :=
  encode32_length v

/-- An entry framed by the block writer anywhere in a payload is read back with exactly its key
    and value bytes, and the reader resumes just past it — for all lengths below 2^32. -/
theorem C14_entry (pre post k v : Bytes) (offs : List Nat)
    (hk : k.length < 2^32) (hv : v.length < 2^32) :
    Block.entryAt { payload := pre ++ BW.frame k v ++ post, offsets := offs } pre.length
      = some (k, v, pre.length + (BW.frame k v).length) :=
  entryAt_frame pre post k v offs hk hv

/-- The block writer accepts exactly the lengths the framing covers (`u32::MAX = 2^32 - 1`). -/
theorem C14_writer_accepts (w : BW) (k v : Bytes) (hk : k.length < 2^32) (hv : v.length < 2^32)
    (hord : ∀ lk, w.lastKey = some lk → lk < k) :
    ∃ w', w.insert k v = .ok w' ∧ w'.buffer = w.buffer ++ BW.frame k v :=
  ⟨w.pushed k v, (BW.insert_ok_iff w _ k v).mpr ⟨hk, hv, hord, rfl⟩, rfl⟩

-- non-vacuity: the hypotheses are met at the extremes
example : (0 : Nat) < 2^32 ∧ (2^32 - 1 : Nat) < 2^32 := by decide
example : decode32 (encode32 (2^32 - 1)) = some (2^32 - 1, 5) := by decide
example : decode32 (encode32 128 ++ [7]) = some (128, 2) := by decide

end Grenad.Props.C14
