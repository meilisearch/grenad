/-
  C02 — Key searches: `ge q` returns the ceiling of `q`, `le q` the floor, `eq q` the entry with
  key `q`, from the initial state, after `reset`, and from any reachable state.
-/
import Grenad.Props.C03
import Grenad.Proofs.BinSearchBlock
import Grenad.Proofs.TBlock

namespace Grenad.Props.C02

open Grenad Grenad.TCursor

/-! ### What ceiling / floor / lookup are (L0, over the entry list only) -/

/-- No ceiling exactly when every key is smaller than `q`. -/
theorem ceiling_eq_none_iff (es : List Entry) (q : Bytes) :
    Spec.ceiling es q = none ↔ ∀ e ∈ es, e.1 < q := by
  unfold Spec.ceiling
  rw [List.find?_eq_none]
  constructor
  · intro h e he; have := h e he; simpa using bnot_le.1 (by simpa using this)
  · intro h e he; simpa using bnot_le.2 (h e he)

/-- The ceiling is the entry with the least key `≥ q`. -/
theorem ceiling_spec {es : List Entry} (hasc : StrictAsc es) {q : Bytes} {e : Entry}
    (h : Spec.ceiling es q = some e) :
    e ∈ es ∧ q ≤ e.1 ∧ ∀ e' ∈ es, q ≤ e'.1 → e.1 ≤ e'.1 := by
  unfold Spec.ceiling at h
  obtain ⟨hp, as, bs, rfl, has⟩ := List.find?_eq_some_iff_append.1 h
  have hq : q ≤ e.1 := by simpa using hp
  refine ⟨by simp, hq, ?_⟩
  intro e' he' hq'
  rcases List.mem_append.1 he' with h1 | h1
  · have := has e' h1; simp at this; exact absurd hq' (bnot_le.2 this)
  · rcases List.mem_cons.1 h1 with rfl | h2
    · exact ble_refl _
    · exact ble_of_lt ((strictAsc_cons.1 (StrictAsc.right hasc)).1 e' h2)

/-- No floor exactly when every key is larger than `q`. -/
theorem floor_eq_none_iff (es : List Entry) (q : Bytes) :
    Spec.floor es q = none ↔ ∀ e ∈ es, q < e.1 := by
  unfold Spec.floor
  rw [List.find?_eq_none]
  constructor
  · intro h e he; have := h e (List.mem_reverse.2 he); exact bnot_le.1 (by simpa using this)
  · intro h e he; simpa using bnot_le.2 (h e (List.mem_reverse.1 he))

/-- The floor is the entry with the greatest key `≤ q`. -/
theorem floor_spec {es : List Entry} (hasc : StrictAsc es) {q : Bytes} {e : Entry}
    (h : Spec.floor es q = some e) :
    e ∈ es ∧ e.1 ≤ q ∧ ∀ e' ∈ es, e'.1 ≤ q → e'.1 ≤ e.1 := by
  unfold Spec.floor at h
  obtain ⟨hp, as, bs, hrev, has⟩ := List.find?_eq_some_iff_append.1 h
  have hes : es = bs.reverse ++ e :: as.reverse := by
    have := congrArg List.reverse hrev
    simpa using this
  subst hes
  have hq : e.1 ≤ q := by simpa using hp
  refine ⟨by simp, hq, ?_⟩
  intro e' he' hq'
  rcases List.mem_append.1 he' with h1 | h1
  · exact ble_of_lt ((strictAsc_append.1 hasc).2.2 e' h1 e (by simp))
  · rcases List.mem_cons.1 h1 with rfl | h2
    · exact ble_refl _
    · have := has e' (List.mem_reverse.1 h2); simp at this; exact absurd hq' (bnot_le.2 this)

/-- No match exactly when no entry has key `q`. -/
theorem lookup_eq_none_iff (es : List Entry) (q : Bytes) :
    Spec.lookup es q = none ↔ ∀ e ∈ es, e.1 ≠ q := by
  unfold Spec.lookup
  rw [List.find?_eq_none]
  simp

/-- The match is the (unique) entry with key `q`. -/
theorem lookup_spec {es : List Entry} (hasc : StrictAsc es) {q : Bytes} {e : Entry}
    (h : Spec.lookup es q = some e) :
    e ∈ es ∧ e.1 = q ∧ ∀ e' ∈ es, e'.1 = q → e' = e := by
  unfold Spec.lookup at h
  have hmem : e ∈ es := List.mem_of_find?_eq_some h
  have hq : e.1 = q := by simpa using List.find?_some h
  exact ⟨hmem, hq, fun e' he' hq' => StrictAsc.key_inj hasc he' hmem (hq'.trans hq.symm)⟩

/-- The specification cursor's `ge` / `le` / `eq` results are ceiling / floor / lookup, from every
    position. -/
theorem spec_ge (es : List Entry) (p : Spec.Pos) (q : Bytes) :
    (Spec.step es p (.ge q)).2 = some (Spec.ceiling es q) := step_ge_res p q

theorem spec_le {es : List Entry} (hasc : StrictAsc es) (p : Spec.Pos) (q : Bytes) :
    (Spec.step es p (.le q)).2 = some (Spec.floor es q) := step_le_res hasc p q

theorem spec_eq {es : List Entry} (hasc : StrictAsc es) (p : Spec.Pos) (q : Bytes) :
    (Spec.step es p (.eq q)).2 = some (Spec.lookup es q) := step_eq_res hasc p q

/-! ### The repaired cursor's key searches, from any state satisfying the invariant -/

section
variable {s : Store} {root levels : Nat} {es : List Entry}

/-- **C02 (ge).** From any reachable state, `ge q` returns the ceiling of `q`. -/
theorem C02_ge_from (h : FileOK s root levels es) {c : RC LC} {p : Spec.Pos}
    (hinv : Inv s root levels es c p) (q : Bytes) :
    (RC.stepA s true c (.ge q)).2 = .ok (Spec.ceiling es q) := by
  have := (step_inv h hinv (.ge q)).1
  rwa [spec_ge] at this

/-- **C02 (le).** From any reachable state, `le q` returns the floor of `q`. -/
theorem C02_le_from (h : FileOK s root levels es) {c : RC LC} {p : Spec.Pos}
    (hinv : Inv s root levels es c p) (q : Bytes) :
    (RC.stepA s true c (.le q)).2 = .ok (Spec.floor es q) := by
  have := (step_inv h hinv (.le q)).1
  rwa [spec_le h.asc] at this

/-- **C02 (eq).** From any reachable state, `eq q` returns the entry with key `q`, if any. -/
theorem C02_eq_from (h : FileOK s root levels es) {c : RC LC} {p : Spec.Pos}
    (hinv : Inv s root levels es c p) (q : Bytes) :
    (RC.stepA s true c (.eq q)).2 = .ok (Spec.lookup es q) := by
  have := (step_inv h hinv (.eq q)).1
  rwa [spec_eq h.asc] at this

/-- From the initial state. -/
theorem C02_ge (h : FileOK s root levels es) (q : Bytes) :
    (RC.stepA s true (c0 root levels) (.ge q)).2 = .ok (Spec.ceiling es q) :=
  C02_ge_from h (Inv_c0 h) q

theorem C02_le (h : FileOK s root levels es) (q : Bytes) :
    (RC.stepA s true (c0 root levels) (.le q)).2 = .ok (Spec.floor es q) :=
  C02_le_from h (Inv_c0 h) q

theorem C02_eq (h : FileOK s root levels es) (q : Bytes) :
    (RC.stepA s true (c0 root levels) (.eq q)).2 = .ok (Spec.lookup es q) :=
  C02_eq_from h (Inv_c0 h) q

/-- After any history (which may include `reset`s and failed searches). -/
theorem C02_ge_after (h : FileOK s root levels es) (ops : List Op) (q : Bytes) :
    (RC.stepA s true (runState s es (c0 root levels) .fresh ops).1 (.ge q)).2
      = .ok (Spec.ceiling es q) :=
  C02_ge_from h (runState_inv h (Inv_c0 h) ops) q

theorem C02_le_after (h : FileOK s root levels es) (ops : List Op) (q : Bytes) :
    (RC.stepA s true (runState s es (c0 root levels) .fresh ops).1 (.le q)).2
      = .ok (Spec.floor es q) :=
  C02_le_from h (runState_inv h (Inv_c0 h) ops) q

theorem C02_eq_after (h : FileOK s root levels es) (ops : List Op) (q : Bytes) :
    (RC.stepA s true (runState s es (c0 root levels) .fresh ops).1 (.eq q)).2
      = .ok (Spec.lookup es q) :=
  C02_eq_from h (runState_inv h (Inv_c0 h) ops) q

/-- After `reset`, from any reachable state. -/
theorem C02_ge_reset (h : FileOK s root levels es) {c : RC LC} {p : Spec.Pos}
    (hinv : Inv s root levels es c p) (q : Bytes) :
    (RC.stepA s true (RC.stepA s true c .reset).1 (.ge q)).2 = .ok (Spec.ceiling es q) :=
  C02_ge_from h (step_inv h hinv .reset).2 q

theorem C02_le_reset (h : FileOK s root levels es) {c : RC LC} {p : Spec.Pos}
    (hinv : Inv s root levels es c p) (q : Bytes) :
    (RC.stepA s true (RC.stepA s true c .reset).1 (.le q)).2 = .ok (Spec.floor es q) :=
  C02_le_from h (step_inv h hinv .reset).2 q

theorem C02_eq_reset (h : FileOK s root levels es) {c : RC LC} {p : Spec.Pos}
    (hinv : Inv s root levels es c p) (q : Bytes) :
    (RC.stepA s true (RC.stepA s true c .reset).1 (.eq q)).2 = .ok (Spec.lookup es q) :=
  C02_eq_from h (step_inv h hinv .reset).2 q

end

/-! ### The hypotheses are satisfiable -/

example (ops : List Op) (q : Bytes) :
    (RC.stepA C03.witnessStore true (runState C03.witnessStore C03.witnessEntries (c0 300 2) .fresh ops).1 (.ge q)).2
      = .ok (Spec.ceiling C03.witnessEntries q) :=
  C02_ge_after C03.witness_fileOK ops q

example (q : Bytes) :
    (RC.stepA C03.witnessStore true (c0 300 2) (.le q)).2 = .ok (Spec.floor C03.witnessEntries q) :=
  C02_le C03.witness_fileOK q

example (levels : Nat) (q : Bytes) :
    (RC.stepA C03.emptyStore true (c0 0 levels) (.eq q)).2 = .ok (Spec.lookup [] q) :=
  C02_eq (C03.empty_fileOK levels) q

example : StrictAsc C03.witnessEntries := C03.witness_fileOK.asc

end Grenad.Props.C02

/-! ### The in-block searches are real binary searches (`Grenad.Model.BinSearch`)

`Grenad.Model.Block` defines the two searches inside a block by their specification
(`takeWhile`): `BlockCursor.searchOffsets` for `offsets.binary_search(&cur).unwrap_or_else(|x| x)`
in `move_on_prev`, and `BlockCursor.searchKey` for
`offsets.binary_search_by_key(&Some(key), |off| entry_at(off).key)` in
`move_on_key_lower_than_or_equal_to`.  `Grenad.Model.BinSearch` gives `slice::binary_search_by`
as the loop it is — `binSearchBy`: the `size`/`left`/`right` loop with early exit of Rust
1.52–1.81; `binSearchBy'`: the branch-free `base`/`size` loop of Rust ≥ 1.82.  On every strictly
ascending table both loops return what the specification says, so the searches of the model are
the searches of the crate.  Proofs: `Grenad/Proofs/BinSearchProofs.lean` (the contract of
`binary_search_by` for both loops), `Grenad/Proofs/BinSearchBlock.lean` (instantiation). -/

namespace Grenad.Props.C02

open Grenad

/-- **`searchOffsets` is a binary search.**  For every strictly ascending offset table and every
    `x`, the value `move_on_prev` extracts from `offsets.binary_search(&x)` with
    `unwrap_or_else(|x| x)` (index of the exact match, or insertion point) is the model's
    `searchOffsets offs x` — for the classic loop and for the branch-free loop. -/
theorem C02_searchOffsets_is_binary_search (offs : List Nat) (x : Nat)
    (h : offs.Pairwise (· < ·)) :
    BlockCursor.searchOffsets offs x =
      (match binSearchBy (fun o => compare o x) offs with | .ok i => i | .error i => i) ∧
    BlockCursor.searchOffsets offs x =
      (match binSearchBy' (fun o => compare o x) offs with | .ok i => i | .error i => i) :=
  BinSearch.searchOffsets_is_binSearch offs x h

/-- **`searchKey` is a binary search.**  On every block whose table keys ascend strictly
    (`None < Some _`, byte strings lexicographically) the `(found, index)` pair of the model's
    `searchKey b key` is the reading `Ok i ↦ (true, i)`, `Err i ↦ (false, i)` of
    `binary_search_by` with the comparison `|off| entry_at(off).key.cmp(&Some(key))` — for the
    classic loop and for the branch-free loop. -/
theorem C02_searchKey_is_binary_search (b : Block) (key : Bytes)
    (h : b.offsets.Pairwise (fun o₁ o₂ =>
      Option.lt (· < ·) ((b.entryAt o₁).map (fun (k, _, _) => k))
        ((b.entryAt o₂).map (fun (k, _, _) => k)))) :
    BlockCursor.searchKey b key =
      (match binSearchBy (fun off => compareOption cmpBytes
          ((b.entryAt off).map (fun (k, _, _) => k)) (some key)) b.offsets with
       | .ok i => (true, i) | .error i => (false, i)) ∧
    BlockCursor.searchKey b key =
      (match binSearchBy' (fun off => compareOption cmpBytes
          ((b.entryAt off).map (fun (k, _, _) => k)) (some key)) b.offsets with
       | .ok i => (true, i) | .error i => (false, i)) :=
  BinSearch.searchKey_is_binSearch b key h

/-- Both hypotheses hold of every block built by the block writer (`BlockOf`, T-block): its offset
    table and the keys the table designates ascend strictly. -/
theorem C02_built_tables_ascend {iv : Nat} {es : List Entry} {b : Block} (hb : BlockOf iv es b) :
    b.offsets.Pairwise (· < ·) ∧
    b.offsets.Pairwise (fun o₁ o₂ =>
      Option.lt (· < ·) ((b.entryAt o₁).map (fun (k, _, _) => k))
        ((b.entryAt o₂).map (fun (k, _, _) => k))) :=
  ⟨BinSearch.offsets_pairwise_of_blockOf hb, BinSearch.tableKeysAsc_of_blockOf hb⟩

/-- On writer-built blocks, for every cursor position and every key: the model's `prev` and `le`
    are `move_on_prev` and `move_on_key_lower_than_or_equal_to` with the search performed by the
    standard library's loop (`BinSearch.prevBS`, `BinSearch.leBS`; either loop). -/
theorem C02_prev_le_use_binary_search {iv : Nat} {es : List Entry} {b : Block}
    (hb : BlockOf iv es b) (o : Option Nat) (key : Bytes) :
    (BlockCursor.mk b o).prev = BinSearch.prevBS binSearchBy ⟨b, o⟩ ∧
    (BlockCursor.mk b o).prev = BinSearch.prevBS binSearchBy' ⟨b, o⟩ ∧
    (BlockCursor.mk b o).le key = BinSearch.leBS binSearchBy ⟨b, o⟩ key ∧
    (BlockCursor.mk b o).le key = BinSearch.leBS binSearchBy' ⟨b, o⟩ key := by
  obtain ⟨h1, h2⟩ := BinSearch.prev_eq_prevBS ⟨b, o⟩ (BinSearch.offsets_pairwise_of_blockOf hb)
  obtain ⟨h3, h4⟩ := BinSearch.le_eq_leBS ⟨b, o⟩ key (BinSearch.tableKeysAsc_of_blockOf hb)
  exact ⟨h1, h2, h3, h4⟩

/-! #### The contract of `binary_search_by` itself (any sorted list, duplicates allowed) -/

/-- On a list sorted w.r.t. `cmp` — `Less` on `[0, k)`, `Equal` on `[k, m)`, `Greater` after —
    both loops return `Err(k)` when nothing compares `Equal`, and `Ok(i)` with `i` in the `Equal`
    region otherwise. -/
theorem C02_binary_search_contract {α : Type} {cmp : α → Ordering} {l : List α} {k m : Nat}
    (h : BinSearch.SortedBy cmp l k m) :
    (k = m → binSearchBy cmp l = .error k ∧ binSearchBy' cmp l = .error k) ∧
    (k < m → (∃ i, binSearchBy cmp l = .ok i ∧ k ≤ i ∧ i < m) ∧
             (∃ i, binSearchBy' cmp l = .ok i ∧ k ≤ i ∧ i < m)) :=
  ⟨fun e => ⟨(BinSearch.binSearchBy_spec h).1 e, (BinSearch.binSearchBy'_spec h).1 e⟩,
   fun e => ⟨(BinSearch.binSearchBy_spec h).2 e, (BinSearch.binSearchBy'_spec h).2 e⟩⟩

example : [0, 3, 7, 12].Pairwise (· < ·) := by decide

/-- exact match, insertion point in the middle, before the first, after the last -/
example : (foundAt (binSearchBy (fun o => compare o 7) [0, 3, 7, 12]),
           foundAt (binSearchBy (fun o => compare o 8) [0, 3, 7, 12]),
           foundAt (binSearchBy (fun o => compare o 0) [0, 3, 7, 12]),
           foundAt (binSearchBy (fun o => compare o 99) [0, 3, 7, 12])) =
    ((true, 2), (false, 3), (true, 0), (false, 4)) := by decide

example : (foundAt (binSearchBy' (fun o => compare o 7) [0, 3, 7, 12]),
           foundAt (binSearchBy' (fun o => compare o 8) [0, 3, 7, 12]),
           foundAt (binSearchBy' (fun o => compare o 0) [0, 3, 7, 12]),
           foundAt (binSearchBy' (fun o => compare o 99) [0, 3, 7, 12])) =
    ((true, 2), (false, 3), (true, 0), (false, 4)) := by decide

example : BlockCursor.searchOffsets [0, 3, 7, 12] 8 = 3 := by decide

/-- with duplicates the two loops may pick different matches — both inside the `Equal` region, as
    the contract allows (the tables of a block have no duplicates) -/
example : (foundAt (binSearchBy (fun o => compare o 5) [1, 5, 5, 5, 9]),
           foundAt (binSearchBy' (fun o => compare o 5) [1, 5, 5, 5, 9])) = ((true, 2), (true, 3)) := by
  decide

example : BinSearch.SortedBy (fun o => compare o 5) [1, 5, 5, 5, 9] 1 4 := by
  refine ⟨by decide, by decide, ?_, ?_, ?_⟩ <;> intro i hi
  · intro h; have : i = 0 := by omega
    subst this; rfl
  · intro h1 h2
    have : i = 1 ∨ i = 2 ∨ i = 3 := by omega
    rcases this with rfl | rfl | rfl <;> rfl
  · intro h
    have : i = 4 := by simp at hi; omega
    subst this; rfl

/-- three entries, table interval 2: the block the writer builds satisfies `BlockOf`, hence the
    hypotheses of the two theorems -/
private def bsEs : List Entry := [([1], [10]), ([1, 2], []), ([3], [7, 8, 9])]

example : ∃ b, BlockOf 2 bsEs b ∧
    (∀ key, BlockCursor.searchKey b key =
      (match binSearchBy' (fun off => compareOption cmpBytes
          ((b.entryAt off).map (fun (k, _, _) => k)) (some key)) b.offsets with
       | .ok i => (true, i) | .error i => (false, i))) := by
  obtain ⟨w, b, _, _, _, _, _, hb⟩ := tblock_roundtrip (iv := 2) (es := bsEs) (by decide)
    (by simp [StrictAsc, bsEs]; decide) (by simp [bsEs]) (by decide)
  exact ⟨b, hb, fun key => (C02_searchKey_is_binary_search b key (C02_built_tables_ascend hb).2).2⟩

end Grenad.Props.C02

section AuditBinSearch
open Grenad.Props.C02
#print axioms C02_searchOffsets_is_binary_search
#print axioms C02_searchKey_is_binary_search
#print axioms C02_built_tables_ascend
#print axioms C02_prev_le_use_binary_search
#print axioms C02_binary_search_contract
end AuditBinSearch
