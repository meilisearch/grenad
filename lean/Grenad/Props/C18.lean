/-
  C18 — A writer never emits an unsorted block: for ARBITRARY insert sequences (unsorted,
  duplicates) and every configuration, `W.run` either traps (`keyOrder` / `keyTooLong` /
  `valTooLong`) or every block in its log holds strictly ascending keys and its bytes are the
  `BW.finish` of a block writer holding exactly those entries.

  Important limitation (true of the Rust code, see `C18_unsorted_input_accepted`): the order
  assertion lives in the *block* writer, whose last key is forgotten when a block is emitted.  An
  out-of-order key that happens to be the first key of a new block is therefore accepted as long as
  the last key of that block is above the last key of the previous block: every emitted block is
  sorted, the file as a whole is not.
-/
import Grenad.Proofs.WriterInv
import Grenad.Model.Abstract

namespace Grenad.Props.C18

open Grenad

/-- `e` is what a block writer holding exactly `e.items` emits: some block writer state `bw`,
    reachable from the empty writer by successful inserts, has `items = e.items`, its buffer is the
    concatenation of the frames of those entries, and `e.raw` is its `finish`. -/
def BlockOf (iv : Nat) (e : Emitted) : Prop :=
  ∃ bw : BW, BW.Reach iv bw ∧ bw.items = e.items ∧
    bw.buffer = (e.items.map frameOf).flatten ∧ e.raw = bw.finish

theorem strictAsc_iff_keys (kvs : List Entry) : StrictAsc kvs ↔ Asc (kvs.map Prod.fst) := by
  unfold StrictAsc Asc
  rw [List.pairwise_map]

/-- Core lemma: `BW.insert` either traps or extends `items` by one entry, keeping the keys strictly
    ascending and `lastKey` equal to the key of the last item. -/
theorem BW_insert_core (iv : Nat) (p : BW) (k v : Bytes) (hp : BW.Reach iv p) :
    StrictAsc p.items ∧ p.lastKey = p.items.getLast?.map (·.1) ∧
    ((∃ t, p.insert k v = .error t ∧
        ((t = .keyTooLong ∧ u32Max < k.length) ∨ (t = .valTooLong ∧ u32Max < v.length) ∨
         (t = .keyOrder ∧ ∃ lk, p.lastKey = some lk ∧ ¬ lk < k))) ∨
     (∃ w, p.insert k v = .ok w ∧ BW.Reach iv w ∧ w.items = p.items ++ [(k, v)] ∧
        StrictAsc w.items ∧ w.lastKey = w.items.getLast?.map (·.1) ∧
        w.buffer = p.buffer ++ BW.frame k v)) := by
  refine ⟨hp.keysAsc, hp.lastKey_eq, ?_⟩
  cases h : p.insert k v with
  | error t =>
    refine .inl ⟨t, rfl, ?_⟩
    rcases BW.insert_error h with h | h | ⟨ht, _, _, h⟩
    · exact .inl h
    · exact .inr (.inl h)
    · exact .inr (.inr ⟨ht, h⟩)
  | ok w =>
    have hw := BW.Reach.step hp h
    exact .inr ⟨w, rfl, hw, BW.insert_items h, hw.keysAsc, hw.lastKey_eq,
      BW.insert_buffer h⟩

theorem BW_reset_core (iv : Nat) (p : BW) (hp : BW.Reach iv p) :
    p.reset = BW.new iv ∧ p.reset.items = [] ∧ p.reset.lastKey = none ∧ p.reset.buffer = [] :=
  ⟨hp.reset_eq, rfl, rfl, rfl⟩

/-- **C18.** For every codec, configuration and input sequence, the run traps — with `keyTooLong`
    only if some key is longer than `u32::MAX`, `valTooLong` only if some value is, `keyOrder` only
    if the input keys are not strictly ascending — or it succeeds and every emitted block is sorted
    and is the image of a block writer holding exactly its entries. -/
theorem C18_sorted_or_trap (cd : Codec) (cfg : WCfg) (kvs : List Entry) :
    (∃ t, W.run cd cfg kvs = .error t ∧
      ((t = .keyTooLong ∧ ∃ e ∈ kvs, u32Max < e.1.length) ∨
       (t = .valTooLong ∧ ∃ e ∈ kvs, u32Max < e.2.length) ∨
       (t = .keyOrder ∧ ¬ StrictAsc kvs))) ∨
    (∃ file log, W.run cd cfg kvs = .ok (file, log) ∧
      ∀ e ∈ log, StrictAsc e.items ∧ BlockOf cfg.interval e) := by
  have hspec := W.run_spec cd cfg kvs
  cases hr : W.run cd cfg kvs with
  | error t =>
    rw [hr] at hspec
    refine .inl ⟨t, rfl, ?_⟩
    rcases hspec with h | h | ⟨ht, hna⟩
    · exact .inl h
    · exact .inr (.inl h)
    · exact .inr (.inr ⟨ht, fun h => hna ((strictAsc_iff_keys kvs).mp h)⟩)
  | ok r =>
    obtain ⟨file, log⟩ := r
    rw [hr] at hspec
    refine .inr ⟨file, log, rfl, ?_⟩
    obtain ⟨w, tl, _, _, _, _, _, hok, _⟩ := hspec
    intro e he
    obtain ⟨bw, hbw, hit, hraw, _⟩ := hok e he
    refine ⟨?_, bw, hbw, hit.symm, ?_, hraw⟩
    · rw [hit]; exact hbw.keysAsc
    · rw [hit]; exact hbw.buffer_eq

/-- Only the three block-writer assertions can trap a run. -/
theorem C18_traps (cd : Codec) (cfg : WCfg) (kvs : List Entry) (t : Trap)
    (h : W.run cd cfg kvs = .error t) : t = .keyOrder ∨ t = .keyTooLong ∨ t = .valTooLong := by
  have hspec := W.run_spec cd cfg kvs
  rw [h] at hspec
  rcases hspec with h | h | h
  · exact .inr (.inl h.1)
  · exact .inr (.inr h.1)
  · exact .inl h.1

/-- **Trap point (data inserts).** If all inserts of `pre` succeed and the next key is not above
    the last key of the pending data block, the run traps with `keyOrder` (whatever follows). -/
theorem C18_trap_point (cd : Codec) (cfg : WCfg) (pre post : List Entry) (k v lk : Bytes) (w : W)
    (hpre : W.run.go cd (W.new cfg) pre = .ok w)
    (hlk : w.bw.lastKey = some lk) (hn : ¬ lk < k)
    (hk : k.length ≤ u32Max) (hv : v.length ≤ u32Max) :
    W.run cd cfg (pre ++ (k, v) :: post) = .error .keyOrder := by
  unfold W.run
  rw [W.go_append, hpre]
  simp only [W.run.go, W.insert_keyOrder cd w hk hv hlk hn]

/-- **Trap point (general).** A `keyOrder` trap is raised by the first failing insert: either some
    `Writer::insert` traps after all earlier ones succeeded, or all succeed and `into_inner` traps.
    In both cases the keys held by the pending block writers at that moment (index writers root
    first, then the data block; they are a subsequence of the keys inserted so far) followed by
    the new key are not strictly ascending — i.e. the trapping `BW.insert` (into the data block
    or into an index block) received a key not above that writer's last key. -/
theorem C18_trap_first (cd : Codec) (cfg : WCfg) (kvs : List Entry)
    (h : W.run cd cfg kvs = .error .keyOrder) :
    (∃ pre k v post w, kvs = pre ++ (k, v) :: post ∧ W.run.go cd (W.new cfg) pre = .ok w ∧
        W.insert cd w k v = .error .keyOrder ∧
        (W.keys w).Sublist (pre.map Prod.fst) ∧ ¬ Asc (W.keys w ++ [k])) ∨
    (∃ w, W.run.go cd (W.new cfg) kvs = .ok w ∧ W.finish cd w = .error .keyOrder ∧
        (W.keys w).Sublist (kvs.map Prod.fst) ∧ ¬ Asc (W.keys w)) := by
  unfold W.run at h
  cases hg : W.run.go cd (W.new cfg) kvs with
  | error t =>
    rw [hg] at h
    injection h with h
    subst h
    obtain ⟨pre, k, v, post, w, hsplit, hgo, hins⟩ := W.go_error_split cd kvs _ _ hg
    have hpre := W.go_spec cd pre (W.new cfg) (W.inv_new cfg)
    rw [hgo, W.keys_new, List.nil_append] at hpre
    obtain ⟨_, hI, _, hsub, _⟩ := hpre
    refine .inl ⟨pre, k, v, post, w, hsplit, hgo, hins, hsub, ?_⟩
    have hspec := W.insert_spec cd w k v hI
    rw [hins] at hspec
    rcases hspec with ⟨ht, _⟩ | ⟨ht, _⟩ | ⟨_, _, _, hna⟩
    · cases ht
    · cases ht
    · exact hna
  | ok w =>
    rw [hg] at h
    have hgo := W.go_spec cd kvs (W.new cfg) (W.inv_new cfg)
    rw [hg, W.keys_new, List.nil_append] at hgo
    obtain ⟨_, hI, _, hsub, _⟩ := hgo
    have h' : W.finish cd w = .error .keyOrder := h
    have hfin := W.finish_spec cd w hI
    rw [h'] at hfin
    exact .inr ⟨w, rfl, h', hsub, hfin.2⟩

/-- **Sorted input never traps.** With strictly ascending keys and all lengths within `u32::MAX`
    the run succeeds — for every codec and every configuration (no bound on `cfg.levels` is needed
    after the repair of F2: the model computes `(len - 1) % 256`).  The index keys are last keys of
    successive blocks, so they ascend as well. -/
theorem C18_sorted_input_ok (cd : Codec) (cfg : WCfg) (kvs : List Entry)
    (hs : StrictAsc kvs) (hlen : ∀ e ∈ kvs, e.1.length ≤ u32Max ∧ e.2.length ≤ u32Max) :
    ∃ r, W.run cd cfg kvs = .ok r := by
  cases hr : W.run cd cfg kvs with
  | ok r => exact ⟨r, rfl⟩
  | error t =>
    exfalso
    have hspec := W.run_spec cd cfg kvs
    rw [hr] at hspec
    rcases hspec with ⟨_, e, he, hl⟩ | ⟨_, e, he, hl⟩ | ⟨_, hna⟩
    · have := (hlen e he).1; omega
    · have := (hlen e he).2; omega
    · exact hna ((strictAsc_iff_keys kvs).mp hs)

/-- With strictly ascending keys the only possible traps are the two length assertions. -/
theorem C18_sorted_input_no_keyOrder (cd : Codec) (cfg : WCfg) (kvs : List Entry)
    (hs : StrictAsc kvs) : W.run cd cfg kvs ≠ .error .keyOrder := by
  intro hr
  have hspec := W.run_spec cd cfg kvs
  rw [hr] at hspec
  rcases hspec with ⟨ht, _⟩ | ⟨ht, _⟩ | ⟨_, hna⟩
  · cases ht
  · cases ht
  · exact hna ((strictAsc_iff_keys kvs).mp hs)

def key (n : Nat) : Bytes := [UInt8.ofNat (n / 256), UInt8.ofNat (n % 256)]
def kvs (n : Nat) : List Entry := (List.range n).map (fun i => (key i, [UInt8.ofNat i, 7, 7, 7]))
def cfg : WCfg := { blockSize := 0, minBlock := 32, interval := 2, levels := 3 }

/-- (level, number of items, raw length) of every emitted block. -/
def summ (r : Except Trap (Bytes × List Emitted)) : Except Trap (List (Nat × Nat × Nat)) :=
  match r with
  | .ok (_, log) => .ok (log.map (fun e => (e.level, e.items.length, e.raw.length)))
  | .error t => .error t

/-- A sorted run with 32-byte blocks and 3 index levels: 15 blocks on five levels. -/
example : summ (W.run Codec.none cfg (kvs 20)) =
    .ok [(0, 3, 44), (0, 3, 44), (1, 2, 36), (0, 3, 44), (0, 3, 44), (1, 2, 36), (2, 2, 36),
         (0, 3, 44), (0, 3, 44), (1, 2, 36), (0, 2, 28), (1, 1, 24), (2, 2, 36), (3, 2, 36),
         (4, 1, 24)] := eq_ok_of_toOption (by decide +kernel)

theorem strictAsc_kvs20 : StrictAsc (kvs 20) := by unfold StrictAsc; decide +kernel

example : StrictAsc (kvs 20) := strictAsc_kvs20

/-- Instance of `C18_sorted_input_ok`. -/
example : ∃ r, W.run Codec.none cfg (kvs 20) = .ok r :=
  C18_sorted_input_ok _ _ _ strictAsc_kvs20 (by decide)

/-- An unsorted run that traps: the out-of-order key goes into a non-empty data block. -/
example : summ (W.run Codec.none cfg (kvs 2 ++ [(key 1, [])])) = .error .keyOrder := by rfl

/-- A duplicate key traps as well. -/
example : summ (W.run Codec.none cfg [(key 1, []), (key 1, [])]) = .error .keyOrder := by rfl

/-- Instance of `C18_trap_point`: after `kvs 2` the pending block's last key is `key 1`. -/
example : W.run Codec.none cfg (kvs 2 ++ (key 1, []) :: kvs 5) = .error .keyOrder := by
  have h : ∃ w, W.run.go Codec.none (W.new cfg) (kvs 2) = .ok w ∧ w.bw.lastKey = some (key 1) :=
    ⟨_, rfl, rfl⟩
  obtain ⟨w, hw, hl⟩ := h
  exact C18_trap_point Codec.none cfg (kvs 2) (kvs 5) (key 1) [] (key 1) w hw hl (by decide)
    (by decide) (by decide)

/-- **Finding.**  An unsorted input that is *accepted*: `kvs 3` fills and emits the first data
    block (keys 0,1,2), the block writer is reset, so key 1 — although below key 2 — starts the next
    block unchecked; key 5 closes it, and the index entry 5 is above the index entry 2.  Every
    block is sorted, the file (0,1,2,1,5) is not.  So `keyOrder ↔ ¬ StrictAsc kvs` is false; only
    `→` holds (`C18_sorted_or_trap`).
    Reproduced on the Rust crate (/repo, `block_size(1024)`, 400-byte values): inserting
    "a","b","c" (block emitted), then "b","z" returns `Ok`, and a reader cursor yields
    a,b,c,b,z; whereas "b","a" inside one block panics in block_writer.rs:109. -/
theorem C18_unsorted_input_accepted :
    ¬ StrictAsc (kvs 3 ++ [(key 1, []), (key 5, [])]) ∧
    summ (W.run Codec.none cfg (kvs 3 ++ [(key 1, []), (key 5, [])])) =
      .ok [(0, 3, 44), (0, 2, 20), (1, 2, 36), (2, 1, 24), (3, 1, 24), (4, 1, 24)] := by
  refine ⟨?_, eq_ok_of_toOption (by decide +kernel)⟩
  unfold StrictAsc
  decide

end Grenad.Props.C18
