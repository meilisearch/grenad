/-
  C17 — the buffer bookkeeping of the sorter (`Entries`, `EntryBoundAlignedBuffer`) never runs a
  guarded primitive out of its domain: no slice out of range, no usize underflow / overflow, no
  zero-sized or oversized allocation, no use after free, no mismatched `dealloc`.

  A *run* is `Sorter.new cfg`, any number of successful `Sorter.insert`s, optionally
  `Sorter.finishChunks` (`Sorter.program`).  `Reach mf cfg P s sp mg` = "`s` is reached by such a
  run prefix whose inserted entries satisfy `P`" (`sp`, `mg` count the spills and chunk merges).
  The merge function `mf` is arbitrary: a failing merge function ends the run with `SErr.merge`,
  which is not a trap.
-/
import Grenad.Proofs.SorterSortedRun
import Grenad.Proofs.EntriesBytesProofs

namespace Grenad.Props.C17

open Grenad Grenad.Sorter Grenad.Entries

/-- **C17, invariant.**  After every run prefix (whatever the entries, whatever the merge
    function) the buffer numbers are consistent: the allocation size is a positive multiple of
    16, the two ends do not overlap, one bound record per stored entry, `entries_len` is the sum
    of the stored key and value lengths, and the allocation is live. -/
theorem C17_invariant {mf : MergeFn} {cfg : SCfg} {P : Bytes → Bytes → Prop} {s : Sorter}
    {sp mg : Nat} (r : Reach mf cfg P s sp mg) :
    s.entries.bufLen % 16 = 0 ∧ 16 ≤ s.entries.bufLen ∧
    s.entries.entriesLen + 16 * s.entries.boundsCount ≤ s.entries.bufLen ∧
    s.entries.boundsCount = s.entries.items.length ∧
    s.entries.entriesLen = (s.entries.items.map (fun e => e.1.length + e.2.length)).sum ∧
    s.entries.live = true := by
  have i := r.core.1.inv
  exact ⟨i.align, i.pos, i.room, i.cnt, by rw [i.sum, itemsSize_eq_sum], i.live⟩

/-- The same, for the state returned by a run given as a list of inserts. -/
theorem C17_invariant_program {mf : MergeFn} {cfg : SCfg} {l : List Entry} {s : Sorter}
    (h : program mf cfg l false = .ok s) :
    s.entries.bufLen % 16 = 0 ∧ 16 ≤ s.entries.bufLen ∧
    s.entries.entriesLen + 16 * s.entries.boundsCount ≤ s.entries.bufLen ∧
    s.entries.boundsCount = s.entries.items.length ∧
    s.entries.entriesLen = (s.entries.items.map (fun e => e.1.length + e.2.length)).sum ∧
    s.entries.live = true := by
  obtain ⟨sp, mg, r⟩ := program_reach (P := fun _ _ => True) (fun _ _ => trivial) h
  exact C17_invariant r

/-- **C17, doubling loop.**  Under the invariant `Entries.insert` is completely described: with
    key and value lengths `≤ u32::MAX` it performs the least number `j` of doublings that makes the
    entry fit, then stores it; it can only fail with `arith` when the fuel is exhausted or when the
    doubled size would reach `2^63` (`Layout::from_size_align(..).unwrap()`), and both need
    `used + entry size` to exceed `bufLen · 2^(fuel-1)` resp. `2^62`. -/
theorem C17_entries_insert {e : Entries} (h : Inv e) (k v : Bytes) (fuel : Nat) :
    (∃ j, j < fuel ∧ k.length ≤ u32Max ∧ v.length ≤ u32Max ∧
       Entries.insert e k v fuel = .ok (push (scale e j) k v, reallocEvents e.bufLen j) ∧
       e.used + entrySize k v ≤ e.bufLen * 2 ^ j ∧
       (j = 0 ∨ e.bufLen * 2 ^ j < 2 * (e.used + entrySize k v))) ∨
    (∃ t, Entries.insert e k v fuel = .error t ∧ InsErr e k v fuel t) :=
  insert_spec fuel e h k v

/-- **C17, fuel.**  The fuel `64` of the model's doubling loop is never exhausted and no
    allocation is oversized as long as the entry fits or `used + entry size ≤ 2^62`. -/
theorem C17_fuel {e : Entries} (h : Inv e) (k v : Bytes)
    (hk : k.length ≤ u32Max) (hv : v.length ≤ u32Max)
    (hsz : e.used + entrySize k v ≤ e.bufLen ∨ e.used + entrySize k v ≤ 2 ^ 62) :
    ∃ e' ev, Entries.insert e k v 64 = .ok (e', ev) :=
  insert64_no_trap h k v hk hv hsz

/-- **C17, no trap (one call).**  In a reachable state an insert with admissible lengths never
    traps; when reallocation is allowed the budget must leave room below `2^62`. -/
theorem C17_no_trap_insert {mf : MergeFn} {cfg : SCfg} {P : Bytes → Bytes → Prop} {s : Sorter}
    {sp mg : Nat} (r : Reach mf cfg P s sp mg) (k v : Bytes)
    (hk : k.length ≤ u32Max) (hv : v.length ≤ u32Max)
    (hT : cfg.allowRealloc = true → cfg.budget ≤ 2 ^ 62 - 2 ^ 34) (t : Trap) :
    Sorter.insert mf s k v ≠ .error (.trap t) :=
  r.insert_no_trap ⟨hk, hv⟩ hT t

/-- **C17, no trap (whole run).**  `new`, every `insert` and the optional `finishChunks` of a
    run never return `.error (.trap _)` — none of `outOfRange`, `arith`, `allocZero`,
    `badDealloc`, `useAfterFree`, `keyTooLong`, `valTooLong` — provided
    * the first capacity is non-zero and below `2^63 - 15`,
    * keys and values are at most `u32::MAX` bytes long,
    * if reallocation is allowed, the budget is at most `2^62 - 2^34`.
    The only possible error is `SErr.merge` (the user's merge function failed). -/
theorem C17_no_trap (mf : MergeFn) (cfg : SCfg) (l : List Entry) (fin : Bool)
    (h0 : 0 < cap0 cfg) (h1 : cap0 cfg + 15 < 2 ^ 63)
    (hT : cfg.allowRealloc = true → cfg.budget ≤ 2 ^ 62 - 2 ^ 34)
    (hl : ∀ kv ∈ l, kv.1.length ≤ u32Max ∧ kv.2.length ≤ u32Max) (t : Trap) :
    program mf cfg l fin ≠ .error (.trap t) :=
  program_no_trap mf cfg l fin h0 h1 hT hl t

/-- **C17, progress.**  With a *total* merge function a complete run returns `.ok`; the
    termination of the chunk merger with a result (`Merger.run`, the subject of the merger
    properties) is taken as a hypothesis. -/
theorem C17_total (mf : MergeFn) (cfg : SCfg) (l : List Entry) (fin : Bool)
    (hmf : ∀ k vs, (mf k vs).isSome) (hrun : ∀ srcs, (Merger.run mf srcs).1.isSome)
    (h0 : 0 < cap0 cfg) (h1 : cap0 cfg + 15 < 2 ^ 63)
    (hT : cfg.allowRealloc = true → cfg.budget ≤ 2 ^ 62 - 2 ^ 34)
    (hl : ∀ kv ∈ l, kv.1.length ≤ u32Max ∧ kv.2.length ≤ u32Max) :
    ∃ s, program mf cfg l fin = .ok s :=
  program_total mf cfg l fin hmf hrun h0 h1 hT hl

/-- **C17, size bound.**  With admissible lengths the allocation size stays below the first
    allocation, twice the budget, or four maximal entries — far below `2^62`. -/
theorem C17_buf_bound {mf : MergeFn} {cfg : SCfg} {s : Sorter} {sp mg : Nat}
    (r : Reach mf cfg LenOk s sp mg) :
    s.entries.bufLen ≤ max (roundUp (cap0 cfg)) (max (2 * cfg.budget) (2 ^ 35 + 56)) := by
  refine r.buf (by omega) (by omega) ?_
  intro k v ⟨hk, hv⟩
  unfold entrySize boundSize; unfold u32Max at hk hv; omega

theorem C17_buf_lt {mf : MergeFn} {cfg : SCfg} {s : Sorter} {sp mg : Nat}
    (r : Reach mf cfg LenOk s sp mg) (h1 : cap0 cfg + 15 < 2 ^ 62) (hT : cfg.budget < 2 ^ 61) :
    s.entries.bufLen < 2 ^ 62 := by
  have := C17_buf_bound r
  have := roundUp_lt (cap0 cfg)
  omega

/-- **C17, allocation pairing.**  The event list of a reachable state is accepted by the
    single-buffer automaton `allocRun` (after `alloc a`, the next allocation event is either
    `alloc b` immediately followed by `dealloc a`, or the final `dealloc a`) and exactly the
    current buffer is live.  Consequently on every prefix of the events the freed sizes are, in
    order, the allocated sizes except for the at most two that are still live. -/
theorem C17_alloc_pairing {mf : MergeFn} {cfg : SCfg} {P : Bytes → Bytes → Prop} {s : Sorter}
    {sp mg : Nat} (r : Reach mf cfg P s sp mg) :
    allocRun .none s.events = some (.one s.entries.bufLen) ∧
    ∀ p, p <+: s.events → ∃ st, allocRun .none p = some st ∧
      allocSizes p = deallocSizes p ++ st.pending ∧ st.pending.length ≤ 2 := by
  have c := r.core.1
  refine ⟨c.alloc, ?_⟩
  intro p hp
  obtain ⟨st, hst⟩ := allocRun_of_prefix c.alloc hp
  exact ⟨st, hst, by simpa [AState.pending] using allocRun_balanced hst, by cases st <;> simp [AState.pending]⟩

/-- **C17, allocation pairing at the end.**  After `finishChunks` nothing is live: the buffer
    is marked freed, the automaton is back in its empty state, and the list of freed sizes equals
    the list of allocated sizes. -/
theorem C17_alloc_pairing_finish {mf : MergeFn} {cfg : SCfg} {P : Bytes → Bytes → Prop}
    {s s' : Sorter} {sp mg : Nat} (r : Reach mf cfg P s sp mg)
    (h : finishChunks mf s = .ok s') :
    s'.entries.live = false ∧ allocRun .none s'.events = some .none ∧
    allocSizes s'.events = deallocSizes s'.events := by
  have ⟨c, hl, _⟩ := r.core
  have := finishChunks_post c (by omega) h
  exact ⟨this.1, this.2.1, this.2.2.1⟩

/-- A merge function (concatenation). -/
def mfC : MergeFn := fun _ vs => some vs.flatten

/-- Budget 1024 bytes, first buffer 64 bytes, at most 2 chunks. -/
def cfgC : SCfg :=
  { threshold := 1024, minMemory := 1024, initialSize := 64, allowRealloc := true, maxChunks := 2 }

/-- `n` entries of 256 bytes each (1-byte keys in increasing order, 239-byte values). -/
def kvs (n : Nat) : List Entry :=
  (List.range n).map (fun i => ([i.toUInt8], List.replicate 239 0))

theorem kvs_sorted : KeySorted (kvs 10) := by unfold KeySorted; decide +kernel

/-- The hypotheses of `C17_no_trap` hold for this configuration and input … -/
example : 0 < cap0 cfgC ∧ cap0 cfgC + 15 < 2 ^ 63 ∧
    (cfgC.allowRealloc = true → cfgC.budget ≤ 2 ^ 62 - 2 ^ 34) ∧
    ∀ kv ∈ kvs 10, kv.1.length ≤ u32Max ∧ kv.2.length ≤ u32Max := by decide +kernel

/-- … and for every default configuration with a threshold up to `2^61`. -/
example (th : Nat) (h : th ≤ 2 ^ 61) :
    let cfg : SCfg := { threshold := th }
    0 < cap0 cfg ∧ cap0 cfg + 15 < 2 ^ 63 ∧
    (cfg.allowRealloc = true → cfg.budget ≤ 2 ^ 62 - 2 ^ 34) := by
  intro cfg
  refine ⟨?_, ?_, fun _ => ?_⟩
  · show 0 < 131072; omega
  · show 131072 + 15 < 2 ^ 63; omega
  · show max th 10485760 ≤ 2 ^ 62 - 2 ^ 34; omega

/-- The run: four doublings (64 → 1024), two spills, one merge of the two chunks, the final
    spill, and the release of the buffer. -/
example : (program mfC cfgC (kvs 10) true).toOption.map (·.events) = some
    [.alloc 64, .alloc 128, .dealloc 64, .alloc 256, .dealloc 128, .alloc 512, .dealloc 256,
     .alloc 1024, .dealloc 512, .create, .create, .create, .dropChunk, .dropChunk, .create,
     .dealloc 1024] := by
  rw [program_eq_programW _ _ _ _ kvs_sorted]; decide +kernel

/-- The run prefix before `finishChunks` reaches a state with 480 bytes pending in a 1024-byte
    buffer and one (merged) chunk. -/
example : ∃ s sp mg, Reach mfC cfgC LenOk s sp mg ∧ s.entries.bufLen = 1024 ∧
    s.entries.entriesLen = 480 ∧ s.chunks.length = 1 := by
  have hl : ∀ kv ∈ kvs 10, LenOk kv.1 kv.2 := by
    show ∀ kv ∈ kvs 10, kv.1.length ≤ u32Max ∧ kv.2.length ≤ u32Max
    decide +kernel
  obtain ⟨s, _, ⟨sp, mg, r⟩, hf⟩ := reach_of_programW (mf := mfC) (cfg := cfgC)
    (fun s => (s.entries.bufLen, s.entries.entriesLen, s.chunks.length)) (1024, 480, 1)
    kvs_sorted hl (by decide +kernel)
  simp only [Prod.mk.injEq] at hf
  exact ⟨s, sp, mg, r, hf⟩

/-! ## Byte level: the allocation as ONE byte string used from both ends

  `EntriesB` (Model/EntriesBytes.lean) mirrors `Entries` of src/sorter.rs literally: entry bytes
  written at the back, 16-byte `EntryBound` records (`key_start` counted from the END of the
  buffer, little endian) at the front, every slice access guarded.  `Rep b e view` =
  "`b` and the numeric `e` carry the same numbers (`Abs`), `e` satisfies `Entries.Inv`, and
  `b.buf = bounds ++ gap ++ entry bytes` with every bound inside the entry bytes and denoting the
  corresponding element of `view`", where `view` is a permutation of `e.items` (`e.items` itself
  until the bounds are sorted).  `ResRel R x y` = "`x` and `y` fail with the same error or succeed
  with `R`-related values".  `g` is the arbitrary content of fresh allocations. -/

open Grenad.EntriesB (Rep Abs ResRel)

/-- **C17 (bytes), what `Rep` contains**: the abstraction relation of the task (same three
    numbers, same length, live), the numeric invariant, the non-overlap of the two regions, and
    `view` a permutation of the ghost items. -/
theorem C17_bytes_rep {b : EntriesB} {e : Entries} {view : List Entry} (h : Rep b e view) :
    (b.entriesLen = e.entriesLen ∧ b.boundsCount = e.boundsCount ∧ e.bufLen = b.buf.length ∧
      e.live = true) ∧ Inv e ∧ 16 * b.boundsCount + b.entriesLen ≤ b.buf.length ∧
    b.buf.length < 2 ^ 63 ∧ view.Perm e.items :=
  ⟨⟨h.abs.elen, h.abs.cnt, h.abs.len, h.abs.live⟩, h.inv, h.disjoint, h.small, h.perm⟩

theorem C17_bytes_refines_withCapacity (g : Nat → Nat → UInt8) (cap : Nat) :
    ResRel (fun rb re => rb.2 = re.2 ∧ Rep rb.1 re.1 [] ∧ re.1.items = [])
      (EntriesB.withCapacity g cap) (Entries.withCapacity cap) :=
  EntriesB.withCapacity_sim g cap

/-- **C17 (bytes), refinement: `insert`** — the simulation.  For EVERY key, value, fuel and
    fresh-memory content: the byte-level doubling loop traps exactly when the numeric one does, with
    the same trap; otherwise both emit the same allocation events, and the results are again
    related, the view gaining `(k, v)` at its end. -/
theorem C17_bytes_refines (g : Nat → Nat → UInt8) (k v : Bytes) (fuel : Nat)
    {b : EntriesB} {e : Entries} {view : List Entry} (h : Rep b e view) :
    ResRel (fun rb re => rb.2 = re.2 ∧ Rep rb.1 re.1 (view ++ [(k, v)]))
      (EntriesB.insert g b k v fuel) (Entries.insert e k v fuel) :=
  EntriesB.insert_sim g k v fuel h

/-- The same, unfolded: success transfers in both directions with the same events … -/
theorem C17_bytes_refines_ok (g : Nat → Nat → UInt8) (k v : Bytes) (fuel : Nat)
    {b : EntriesB} {e : Entries} {view : List Entry} (h : Rep b e view) :
    (∀ e' ev, Entries.insert e k v fuel = .ok (e', ev) →
      ∃ b', EntriesB.insert g b k v fuel = .ok (b', ev) ∧ Rep b' e' (view ++ [(k, v)])) ∧
    (∀ b' ev, EntriesB.insert g b k v fuel = .ok (b', ev) →
      ∃ e', Entries.insert e k v fuel = .ok (e', ev) ∧ Rep b' e' (view ++ [(k, v)])) := by
  have s := EntriesB.insert_sim g k v fuel h
  constructor
  · intro e' ev he
    obtain ⟨⟨b', evb⟩, hb, h1, h2⟩ := s.ok_right he
    simp only at h1 h2
    subst h1
    exact ⟨b', hb, h2⟩
  · intro b' ev hb
    obtain ⟨⟨e', eve⟩, he, h1, h2⟩ := s.ok_left hb
    simp only at h1 h2
    subst h1
    exact ⟨e', he, h2⟩

/-- … and so does every trap. -/
theorem C17_bytes_refines_trap (g : Nat → Nat → UInt8) (k v : Bytes) (fuel : Nat)
    {b : EntriesB} {e : Entries} {view : List Entry} (h : Rep b e view) (t : Trap) :
    EntriesB.insert g b k v fuel = .error t ↔ Entries.insert e k v fuel = .error t :=
  (EntriesB.insert_sim g k v fuel h).error_iff t

theorem C17_bytes_refines_clear {b : EntriesB} {e : Entries} {view : List Entry}
    (h : Rep b e view) : Rep b.clear e.clear [] ∧ e.clear.items = [] :=
  ⟨h.clear, rfl⟩

/-- **C17 (bytes), refinement: the whole sorter.**  `SorterB` (the sorter over the byte-level
    buffer: `write_chunk` = sort the bound records, iterate the bytes, merge, clear) and `Sorter`
    return the same error, or states with the same chunks, events and merge calls, whose buffers are
    related by `Rep` (bounds in insertion order) as long as the allocation is alive. -/
theorem C17_bytes_refines_program (mf : MergeFn) (g : Nat → Nat → UInt8) (cfg : SCfg)
    (l : List Entry) (fin : Bool) :
    ResRel (fun sb s => SFin sb s ∧ (fin = false → SRep sb s))
      (SorterB.program mf g cfg l fin) (program mf cfg l fin) :=
  SorterB.program_sim mf g cfg l fin

/-- **C17 (bytes), `iter`.**  Iterating the byte buffer decodes every bound as it was encoded and
    slices exactly the bytes of the entry it denotes: the result is the view. -/
theorem C17_bytes_iter {b : EntriesB} {e : Entries} {view : List Entry} (h : Rep b e view) :
    EntriesB.iter b = .ok view :=
  h.iter

/-- **C17 (bytes), `iter` after any run of the buffer**: `with_capacity(cap)` and any sequence of
    inserts (reallocations included, whatever the fresh memory contains) — iterating returns
    exactly the inserted pairs, in insertion order, unaltered; the two regions do not overlap. -/
theorem C17_bytes_iter_run {g : Nat → Nat → UInt8} {cap : Nat} {l : List Entry} {b : EntriesB}
    (h : EntriesB.run g cap l = .ok b) :
    EntriesB.iter b = .ok l ∧ 16 * b.boundsCount + b.entriesLen ≤ b.buf.length := by
  obtain ⟨e, _, hr, hi⟩ := (EntriesB.run_sim g cap l).ok_left h
  rw [hi] at hr
  exact ⟨hr.iter, hr.disjoint⟩

/-- The run of the byte-level buffer succeeds exactly when the numeric run does. -/
theorem C17_bytes_run_refines (g : Nat → Nat → UInt8) (cap : Nat) (l : List Entry) :
    ResRel (fun b e => Rep b e e.items ∧ e.items = l) (EntriesB.run g cap l) (Entries.run cap l) :=
  EntriesB.run_sim g cap l

/-- **C17 (bytes), `iter` in any sorter run**: in the state reached by `new` and any inserts
    (spills and chunk merges included) the byte buffer iterates to the pending entries of the
    numeric sorter, in insertion order. -/
theorem C17_bytes_iter_program {mf : MergeFn} {g : Nat → Nat → UInt8} {cfg : SCfg}
    {l : List Entry} {sb : SorterB} (h : SorterB.program mf g cfg l false = .ok sb) :
    ∃ s, program mf cfg l false = .ok s ∧ sb.chunks = s.chunks ∧
      EntriesB.iter sb.entries = .ok s.entries.items ∧
      16 * sb.entries.boundsCount + sb.entries.entriesLen ≤ sb.entries.buf.length := by
  obtain ⟨s, hs, _, hr⟩ := (SorterB.program_sim mf g cfg l false).ok_left h
  have hr := hr rfl
  exact ⟨s, hs, hr.chunks, hr.rep.iter, hr.rep.disjoint⟩

/-- **C17 (bytes), no out-of-range access in any run.**  Under the hypotheses of `C17_no_trap`
    the byte-level sorter never traps: no slice of the allocation (`readAt` / `writeAt` /
    `split_at`) is out of range, no `usize` subtraction underflows, in `new`, in any `insert`
    (with its reallocations, spills, sorts, iterations) or in the final spill. -/
theorem C17_bytes_in_bounds (mf : MergeFn) (g : Nat → Nat → UInt8) (cfg : SCfg) (l : List Entry)
    (fin : Bool) (h0 : 0 < cap0 cfg) (h1 : cap0 cfg + 15 < 2 ^ 63)
    (hT : cfg.allowRealloc = true → cfg.budget ≤ 2 ^ 62 - 2 ^ 34)
    (hl : ∀ kv ∈ l, kv.1.length ≤ u32Max ∧ kv.2.length ≤ u32Max) (t : Trap) :
    SorterB.program mf g cfg l fin ≠ .error (.trap t) := by
  intro h
  exact C17_no_trap mf cfg l fin h0 h1 hT hl t
    (((SorterB.program_sim mf g cfg l fin).error_iff _).1 h)

/-- **C17 (bytes), no out-of-range access, one call**: from any represented state an insert with
    admissible lengths that fits, or whose total stays below `2^62`, succeeds on the bytes. -/
theorem C17_bytes_in_bounds_insert (g : Nat → Nat → UInt8) {b : EntriesB} {e : Entries}
    {view : List Entry} (h : Rep b e view) (k v : Bytes)
    (hk : k.length ≤ u32Max) (hv : v.length ≤ u32Max)
    (hsz : e.used + entrySize k v ≤ e.bufLen ∨ e.used + entrySize k v ≤ 2 ^ 62) :
    ∃ b' ev, EntriesB.insert g b k v 64 = .ok (b', ev) ∧
      EntriesB.iter b' = .ok (view ++ [(k, v)]) ∧
      16 * b'.boundsCount + b'.entriesLen ≤ b'.buf.length := by
  obtain ⟨e', ev, he⟩ := C17_fuel h.inv k v hk hv hsz
  obtain ⟨b', hb, hr⟩ := (C17_bytes_refines_ok g k v 64 h).1 e' ev he
  exact ⟨b', ev, hb, hr.iter, hr.disjoint⟩

/-- **C17 (bytes) / C07, `sort_by_key(Stable)` then `iter`.**  Sorting permutes the bound records
    only (in place, inside the bounds area); afterwards the buffer iterates to the model's
    `Sorter.sortStable` of the previous view. -/
theorem C17_bytes_sorted_iter {b : EntriesB} {e : Entries} {view : List Entry} (h : Rep b e view) :
    ∃ b', EntriesB.sortBounds b = .ok b' ∧ Rep b' e (sortStable view) ∧
      EntriesB.iter b' = .ok (sortStable view) := by
  obtain ⟨b', hs, hr⟩ := h.sortStable
  exact ⟨b', hs, hr, hr.iter⟩

/-- After any run of the buffer, sorting then iterating yields `sortStable` of the inserted list:
    what `write_chunk` hands to the merge of equal keys (C07). -/
theorem C17_bytes_sorted_iter_run {g : Nat → Nat → UInt8} {cap : Nat} {l : List Entry}
    {b : EntriesB} (h : EntriesB.run g cap l = .ok b) :
    ∃ b', EntriesB.sortBounds b = .ok b' ∧ EntriesB.iter b' = .ok (sortStable l) := by
  obtain ⟨e, _, hr, hi⟩ := (EntriesB.run_sim g cap l).ok_left h
  rw [hi] at hr
  obtain ⟨b', hs, _, hit⟩ := C17_bytes_sorted_iter hr
  exact ⟨b', hs, hit⟩

/-- **Any permuting sort** (`sort_unstable_by_key`, the parallel variants): whatever permutation
    `sort` applies to the keyed bound records, the buffer then iterates to a permutation of the
    previous view, and it is ordered by key in whatever way `sort` orders its output. -/
theorem C17_bytes_permuted_iter {b : EntriesB} {e : Entries} {view : List Entry}
    (h : Rep b e view) (sort : List (Bytes × EntryBound) → List (Bytes × EntryBound))
    (hperm : ∀ l, (sort l).Perm l) :
    ∃ b' view', EntriesB.sortBoundsWith sort b = .ok b' ∧ Rep b' e view' ∧
      EntriesB.iter b' = .ok view' ∧ view'.Perm view ∧
      ∀ R : Bytes → Bytes → Prop, (∀ l, (sort l).Pairwise (fun p q => R p.1 q.1)) →
        view'.Pairwise (fun x y => R x.1 y.1) := by
  obtain ⟨bounds, hview, b', hs, hr⟩ := h.sortWith_core sort hperm
  refine ⟨b', _, hs, hr, hr.iter, ?_, ?_⟩
  · rw [← hview, ← EntriesB.keyed_denote]
    exact (hperm _).map _
  · intro R hR
    rw [List.pairwise_map]
    refine (hR (EntriesB.keyed (EntriesB.backBytes e.items) bounds)).imp_of_mem ?_
    intro p q hp hq hpq
    rw [EntriesB.keyed_key ((hperm _).mem_iff.1 hp), EntriesB.keyed_key ((hperm _).mem_iff.1 hq)]
    exact hpq

/-- The round trip of one bound record (`usize`, `u32`, `u32`, little endian, 16 bytes). -/
theorem C17_bytes_bound_roundtrip {a b c : Nat} (ha : a < 2 ^ 64) (hb : b < 2 ^ 32)
    (hc : c < 2 ^ 32) :
    (encodeBound a b c).length = 16 ∧ decodeBound (encodeBound a b c) = ⟨a, b, c⟩ :=
  ⟨EntriesB.encodeBound_length a b c, EntriesB.decodeBound_encodeBound ha hb hc⟩

/-- Fresh memory is not zeroed: byte `i` of an allocation of `n` bytes is `n + i` (mod 256). -/
def g0 : Nat → Nat → UInt8 := fun n i => (n + i).toUInt8

/-- Five entries (one empty, one of 101 bytes): 21, 38, 19, 16 and 117 bytes with their bounds. -/
def kvsB : List Entry :=
  [([3, 1], [10, 11, 12]), ([2], List.replicate 21 9), ([1, 1, 1], []), ([], []),
   ([0], List.replicate 100 7)]

/-- The run evaluated once: capacity 64, the third insert doubles the buffer to 128, the fifth to
    256; the first 16 bytes are the bound record of `([3, 1], [10, 11, 12])`. -/
theorem exRunB : ∃ b, EntriesB.run g0 64 kvsB = .ok b ∧ b.buf.length = 256 ∧ b.entriesLen = 131 ∧
    b.boundsCount = 5 ∧ b.buf.take 16 = [5, 0, 0, 0, 0, 0, 0, 0, 2, 0, 0, 0, 3, 0, 0, 0] := by
  have v : (EntriesB.run g0 64 kvsB).toOption.map
      (fun b => (b.buf.length, b.entriesLen, b.boundsCount, b.buf.take 16)) =
      some (256, 131, 5, [5, 0, 0, 0, 0, 0, 0, 0, 2, 0, 0, 0, 3, 0, 0, 0]) := by
    decide +kernel
  cases h : EntriesB.run g0 64 kvsB with
  | error t => rw [h] at v; cases v
  | ok b =>
    rw [h] at v
    simp only [Except.toOption, Option.map_some, Option.some.injEq, Prod.mk.injEq] at v
    exact ⟨b, rfl, v⟩

set_option maxRecDepth 100000 in
/-- Capacity 64; the third insert doubles the buffer to 128, the fifth to 256; iterating the
    bytes returns the five entries. -/
example : (EntriesB.run g0 64 kvsB).toOption.map
      (fun b => (b.buf.length, b.entriesLen, b.boundsCount)) = some (256, 131, 5) ∧
    (EntriesB.run g0 64 kvsB).toOption.bind (fun b => (EntriesB.iter b).toOption) = some kvsB := by
  obtain ⟨b, h, h1, h2, h3, _⟩ := exRunB
  rw [h]
  simp only [Except.toOption, Option.map_some, Option.bind_some, (C17_bytes_iter_run h).1, h1, h2, h3]
  exact ⟨trivial, trivial⟩

set_option maxRecDepth 100000 in
/-- The first bytes of that buffer are the bound of `([3, 1], [10, 11, 12])`:
    `key_start = 5`, `key_length = 2`, `data_length = 3`, little endian. -/
example : (EntriesB.run g0 64 kvsB).toOption.map (fun b => b.buf.take 16) =
    some [5, 0, 0, 0, 0, 0, 0, 0, 2, 0, 0, 0, 3, 0, 0, 0] := by
  obtain ⟨b, h, _, _, _, h4⟩ := exRunB
  rw [h]
  simp only [Except.toOption, Option.map_some, h4]

set_option maxRecDepth 100000 in
/-- `Rep` is satisfiable by that non-trivial state (the hypothesis of `C17_bytes_refines`,
    `C17_bytes_iter`, `C17_bytes_sorted_iter`, …). -/
example : ∃ b e, Rep b e e.items ∧ e.items = kvsB ∧ b.buf.length = 256 := by
  obtain ⟨b, h, h1, _⟩ := exRunB
  obtain ⟨e, _, hr, hi⟩ := (EntriesB.run_sim g0 64 kvsB).ok_left h
  exact ⟨b, e, hr, hi, h1⟩

end Grenad.Props.C17
