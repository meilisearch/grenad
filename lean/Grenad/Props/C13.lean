/-
  C13 — Opening never panics and accepts exactly byte strings ending in a valid trailer.
  `Meta.parse` is total by construction (its type has no trap outcome and every access is
  guarded); the theorems pin down *which* byte strings it accepts and what it returns.
-/
import Grenad.Model.Meta
import Grenad.Model.IO
import Grenad.Proofs.Wave3IO
import Grenad.Proofs.MetaIOProofs
import Grenad.Generated.Constants

namespace Grenad.Props.C13

open Grenad Grenad.Meta

def last4 (b : Bytes) : Bytes := b.drop (b.length - 4)

/-- "Ends with a complete trailer: a known magic number, preceded by the full metadata record of
    that version with a known codec id" — stated on the bytes, independently of `parse`. -/
def ValidTrailer (b : Bytes) : Prop :=
  (22 ≤ b.length ∧ leVal (last4 b) = 0x6723D4C4 ∧ (b.getD (b.length - 14) 0).toNat ≤ 5) ∨
  (21 ≤ b.length ∧ leVal (last4 b) = 0x76324D4C ∧ (b.getD (b.length - 13) 0).toNat ≤ 5)

private theorem getD_tail (b : Bytes) {K i : Nat} (hK : K ≤ b.length) (hi : i ≤ K) :
    (b.drop (b.length - K)).getD i 0 = b.getD (b.length - (K - i)) 0 := by
  have : b.length - K + i = b.length - (K - i) := by omega
  simp [List.getD_eq_getElem?_getD, List.getElem?_drop, this]

/-- Opening succeeds exactly on byte strings ending in a valid trailer. -/
theorem C13_open_iff (b : Bytes) : (∃ m, parse b = .ok m) ↔ ValidTrailer b := by
  simp only [parse_ok_iff, ValidTrailer, last4]
  constructor
  · rintro ⟨m, ⟨h1, h2, h3, -⟩ | ⟨h1, h2, h3, -⟩⟩
    · refine .inr ⟨h2, h1, ?_⟩
      rwa [getD_tail b h2 (by decide)] at h3
    · refine .inl ⟨h2, h1, ?_⟩
      rwa [getD_tail b h2 (by decide)] at h3
  · rintro (⟨h2, h1, h3⟩ | ⟨h2, h1, h3⟩)
    · refine ⟨_, .inr ⟨h1, h2, ?_, rfl⟩⟩
      rwa [getD_tail b h2 (by decide)]
    · refine ⟨_, .inl ⟨h1, h2, ?_, rfl⟩⟩
      rwa [getD_tail b h2 (by decide)]

/-- Every rejection is one of the three error values — never a trap. -/
theorem C13_total (b : Bytes) :
    (∃ m, parse b = .ok m) ∨ parse b = .error .io ∨ parse b = .error .badMagic ∨ parse b = .error .badCodec := by
  cases h : parse b with
  | ok m => exact .inl ⟨m, rfl⟩
  | error e => cases e <;> simp

/-- The fields returned are the little-endian fields at their fixed offsets from the end (V2). -/
theorem C13_fields_v2 (b : Bytes) (m : Meta) (h : parse b = .ok m) (hv : m.version = 2) :
    m.root = leVal ((b.drop (b.length - 22)).take 8) ∧
    m.codec = (b.getD (b.length - 14) 0).toNat ∧
    m.count = leVal (((b.drop (b.length - 22)).drop 9).take 8) ∧
    m.levels = (b.getD (b.length - 5) 0).toNat := by
  rcases (parse_ok_iff b m).mp h with ⟨-, -, -, rfl⟩ | ⟨-, h22, -, rfl⟩
  · cases hv
  · refine ⟨rfl, ?_, rfl, ?_⟩
    · show ((b.drop (b.length - 22)).getD 8 0).toNat = _
      rw [getD_tail b h22 (by decide)]
    · show ((b.drop (b.length - 22)).getD 17 0).toNat = _
      rw [getD_tail b h22 (by decide)]

/-- The fields returned for a version-1 trailer (C10: 21 bytes, no index-levels byte). -/
theorem C13_fields_v1 (b : Bytes) (m : Meta) (h : parse b = .ok m) (hv : m.version = 1) :
    m.root = leVal ((b.drop (b.length - 21)).take 8) ∧
    m.codec = (b.getD (b.length - 13) 0).toNat ∧
    m.count = leVal (((b.drop (b.length - 21)).drop 9).take 8) ∧
    m.levels = 0 := by
  rcases (parse_ok_iff b m).mp h with ⟨-, h21, -, rfl⟩ | ⟨-, -, -, rfl⟩
  · refine ⟨rfl, ?_, rfl, rfl⟩
    show ((b.drop (b.length - 21)).getD 8 0).toNat = _
    rw [getD_tail b h21 (by decide)]
  · cases hv

/-- A truncation of a file is accepted only if its own tail is a valid trailer. -/
theorem C13_truncation (file : Bytes) (n : Nat) :
    (∃ m, parse (file.take n) = .ok m) ↔ ValidTrailer (file.take n) :=
  C13_open_iff _

/-- Crash consistency of the sink: whatever schedule of partial writes, interruptions and a
    fault the sink applies, the bytes it holds are a prefix of the fault-free byte stream
    (writes are append-only; the trailer is written last). -/
theorem C13_crash_prefix (bufs : List Bytes) (s : IOM.Sink) (sch : List IOM.WResp) :
    ∃ rest, s.data ++ bufs.flatten = (IOM.writeMany bufs s sch).1.data ++ rest := by
  obtain ⟨done, todo, hf, hd, -⟩ := writeMany_prefix bufs s sch
  exact ⟨todo, by rw [hd, hf, List.append_assoc]⟩

-- non-vacuity: a concrete valid trailer and a concrete truncated one
example : ValidTrailer (le64 7 ++ [5] ++ le64 3 ++ [2] ++ le32 0x6723D4C4) := by
  unfold ValidTrailer last4; left; decide
example : ¬ ValidTrailer ((le64 7 ++ [5] ++ le64 3 ++ [2] ++ le32 0x6723D4C4).take 21) := by
  unfold ValidTrailer last4; decide

end Grenad.Props.C13

namespace Grenad.Props.C13

open Grenad Grenad.Meta Grenad.Wave3

section
variable {cd : Codec} {cfg : WCfg} {es : List Entry} {file : Bytes} {log : List Emitted}
  {m : Meta}

/-- **C13, crash half.**  Whatever the sink's schedule (partial writes, interruptions, a fault
    anywhere), the bytes in the sink are a prefix of the file the pure writer returns. -/
theorem C13_writer_crash (H : WriterHyps cd cfg es) (hrun : W.run cd cfg es = .ok (file, log))
    (hfile : file.length < 2 ^ 64) (hcount : es.length < 2 ^ 64) (hid : cd.id ≤ 5)
    (hm : parse file = .ok m) (sch : List IOM.WResp) :
    ∃ rest, file = (W.runIO cd log m sch).1.data ++ rest := by
  obtain ⟨done, todo, hf, hd, -⟩ := runIO_prefix cd log m sch
  exact ⟨todo, by rw [hd, ← hf, writes_flatten_run H hrun hfile hcount hid hm]⟩

/-- A writer stopped strictly before the first byte of the trailer (the sink holds a prefix of
    the block area `log.flatMap blockBytes`): opening what the sink holds succeeds *iff* those
    bytes themselves end in a valid trailer — nothing of the writer's own trailer is there to be
    found.  (Instance of `C13_open_iff`.  It is *not* claimed that such a prefix is always
    rejected: block payloads are arbitrary user bytes and may contain a trailer image; likewise
    for a cut inside the 22-byte trailer.) -/
theorem C13_writer_crash_rejected (H : WriterHyps cd cfg es)
    (hrun : W.run cd cfg es = .ok (file, log)) (hfile : file.length < 2 ^ 64)
    (hcount : es.length < 2 ^ 64) (hid : cd.id ≤ 5) (hm : parse file = .ok m)
    (sch : List IOM.WResp)
    (hbefore : ∃ r, log.flatMap (fun e => W.blockBytes cd e.raw) = (W.runIO cd log m sch).1.data ++ r) :
    ((∃ m', parse (W.runIO cd log m sch).1.data = .ok m') ↔
      ValidTrailer (W.runIO cd log m sch).1.data) ∧
    (∃ n, n < file.length - 22 + 1 ∧ (W.runIO cd log m sch).1.data = file.take n) := by
  refine ⟨C13_open_iff _, ?_⟩
  obtain ⟨hmeq, -, hf⟩ := run_trailer H hrun hfile hcount hid hm
  obtain ⟨r, hr⟩ := hbefore
  refine ⟨(W.runIO cd log m sch).1.data.length, ?_, ?_⟩
  · have hl : (encode m).length = 22 := by rw [hmeq]; simp [encode]
    have := congrArg List.length hr
    rw [hf]
    simp only [List.length_append, hl] at this ⊢
    omega
  · rw [hf, hr, List.append_assoc, List.take_left]

/-- A crash that leaves fewer than 21 bytes can never be opened (`Err(Io)`, short seek). -/
theorem C13_writer_crash_short (cd : Codec) (log : List Emitted) (m : Meta)
    (sch : List IOM.WResp) (h : (W.runIO cd log m sch).1.data.length < 21) :
    ∀ m', parse (W.runIO cd log m sch).1.data ≠ .ok m' := by
  intro m' hp
  have := (C13_open_iff _).mp ⟨m', hp⟩
  unfold ValidTrailer at this
  omega

/-- A run stopped by a fault never leaves the complete file: the crashed image differs from
    `file` (it is a *strict* prefix), so a reader that opens it is not reading the intended
    file with its intended trailer position. -/
theorem C13_writer_crash_strict (H : WriterHyps cd cfg es)
    (hrun : W.run cd cfg es = .ok (file, log)) (hfile : file.length < 2 ^ 64)
    (hcount : es.length < 2 ^ 64) (hid : cd.id ≤ 5) (hm : parse file = .ok m)
    (sch : List IOM.WResp) (t : Nat) (hfault : (W.runIO cd log m sch).2.2 = some t) :
    (W.runIO cd log m sch).1.data.length < file.length := by
  obtain ⟨done, todo, hf, hd, -, he⟩ := runIO_prefix cd log m sch
  rw [writes_flatten_run H hrun hfile hcount hid hm] at hf
  have hne : todo ≠ [] := fun h0 => nomatch hfault.symm.trans (he.mpr h0)
  have := List.length_pos_iff.mpr hne
  rw [hd, hf, List.length_append]
  omega

end

/-- the instance of `Grenad.Proofs.Wave3IO` crashed after 34 bytes (inside the second block): a
    prefix of the file, stopped before the trailer, and not openable -/
example : ∃ rest, wxFile =
    (W.runIO Codec.none wxLog wxMeta (List.replicate 34 (.accept 1) ++ [.fail 9])).1.data ++ rest :=
  C13_writer_crash wxHyps wxRun wxFile_lt (by decide) (by decide) wxParse _

example : ¬ ValidTrailer
    (W.runIO Codec.none wxLog wxMeta (List.replicate 34 (.accept 1) ++ [.fail 9])).1.data := by
  unfold ValidTrailer last4
  decide +kernel

end Grenad.Props.C13

section Audit
open Grenad.Props.C13
#print axioms C13_writer_crash
#print axioms C13_writer_crash_rejected
#print axioms C13_writer_crash_short
#print axioms C13_writer_crash_strict
end Audit

namespace Grenad.Props.C13

open Grenad Grenad.IOM Grenad.Meta Grenad.MetaIO

/-- **Open under an arbitrary read schedule (C12 style).**
    (a) No fault in the schedule: no I/O fault is reported.
    (b) A reported fault tag `t` is exactly the first fault of the schedule — everything consumed
        before it was fault-free — and the open returns `Err(Io)`: the fault is neither swallowed
        nor converted into `InvalidFormatVersion` / `InvalidCompressionType` / a `Metadata`.
    (c) If the open reaches the first fault of the schedule (consumes the schedule beyond it), it
        reports that fault's tag, returns `Err(Io)`, and has consumed nothing after the fault. -/
theorem C13_open_fault (b : Bytes) (sch : List RResp) :
    let r := parseIO b sch
    (RFaultFree sch → r.2.2 = none) ∧
    (∀ t, r.2.2 = some t →
      r.1 = .error .io ∧ ∃ used, RFaultFree used ∧ sch = used ++ .fail t :: r.2.1) ∧
    (∀ pre t post, RFaultFree pre → sch = pre ++ .fail t :: post →
      r.2.1.length ≤ post.length → r.2.2 = some t ∧ r.1 = .error .io ∧ r.2.1 = post) := by
  have hc := parseIO_char b sch
  have hff0 : RFaultFree sch → (parseIO b sch).2.2 = none := fun hff => (parseIO_ff hff b).2.1
  generalize parseIO b sch = r at hc hff0 ⊢
  refine ⟨hff0, ?_, ?_⟩
  · intro t ht
    rcases hc with ⟨e, -⟩ | ⟨t', e, hr, used, hu, hs⟩
    · rw [e] at ht; cases ht
    · rw [e] at ht; cases ht
      exact ⟨hr, used, hu, hs⟩
  · intro pre t post hpre hsch hlen
    rcases hc with ⟨-, -, hs⟩ | ⟨t', e, hr, hs⟩
    · exact nomatch (hs.first_fault RResp.fail.inj hpre hsch hlen).1
    · obtain ⟨e1, e2⟩ := hs.first_fault RResp.fail.inj hpre hsch hlen
      exact ⟨by rw [e, e1], hr, e2⟩

/-- **Never a wrong answer.**  For *any* schedule (faults included) the open either returns
    exactly what the pure parse returns, or returns `Err(Io)` together with the tag of the fault
    that caused it.  In particular it never returns `Ok` with fields other than those of
    `parse b`, and never a `badMagic`/`badCodec` verdict the bytes do not justify. -/
theorem C13_open_never_wrong (b : Bytes) (sch : List RResp) :
    (parseIO b sch).1 = parse b ∨
    ((parseIO b sch).1 = .error .io ∧ (parseIO b sch).2.2.isSome) := by
  rcases parseIO_char b sch with ⟨-, hr, -⟩ | ⟨t, e, hr, -⟩
  · exact .inl hr
  · exact .inr ⟨hr, by rw [e]; rfl⟩

/-- An `Ok` through any schedule is the `Ok` of the pure parse. -/
theorem C13_open_ok_sound (b : Bytes) (sch : List RResp) (m : Meta)
    (h : (parseIO b sch).1 = .ok m) : parse b = .ok m := by
  rcases C13_open_never_wrong b sch with e | ⟨e, _⟩
  · rw [← e, h]
  · rw [e] at h; cases h

/-- **C16, open through the I/O layer** (stated here because it is about the same `parseIO` as
    the theorems above).  Whatever the schedule, every `read_exact(want)` call
    `(pos, want)` the open issues lies within the last 22 bytes of the data and inside the data;
    the `want`s — hence the bytes read, each call delivering at most `want` bytes
    (`C11.readExact_never_wrong`) — sum to at most 22, and to at most the byte count of the
    pure accounting `Meta.openIO` (`C16_open`). -/
theorem C16_open_io (b : Bytes) (sch : List RResp) :
    (∀ p ∈ parseIOReads b sch, b.length - 22 ≤ p.1 ∧ p.1 + p.2 ≤ b.length) ∧
    ((parseIOReads b sch).map Prod.snd).sum ≤ 22 ∧
    ((parseIOReads b sch).map Prod.snd).sum ≤ (openIO b).2.1 :=
  parseIOReads_bounds b sch

/-- a V2 trailer behind two payload bytes; the fault hits the 10th `read` call, inside
    `read_u64(index_block_offset)`: `Err(Io)` with tag 7, the rest of the schedule untouched -/
example : parseIO ([1, 2] ++ [7, 0, 0, 0, 0, 0, 0, 0, 5, 3, 0, 0, 0, 0, 0, 0, 0, 2, 0xC4, 0xD4, 0x23, 0x67])
      (List.replicate 9 (.serve 1) ++ [.fail 7, .serve 1, .fail 8]) =
    (.error .io, [.serve 1, .fail 8], some 7) := by
  simp [parseIO, parseIOL, readExact, List.replicate, leVal, magicV1, magicV2]

/-- the reads issued before that fault: the magic, then the first `read_u64` -/
example : parseIOReads ([1, 2] ++ [7, 0, 0, 0, 0, 0, 0, 0, 5, 3, 0, 0, 0, 0, 0, 0, 0, 2, 0xC4, 0xD4, 0x23, 0x67])
      (List.replicate 9 (.serve 1) ++ [.fail 7, .serve 1, .fail 8]) = [(20, 4), (2, 8)] := by
  simp [parseIOReads, parseIOL, readExact, List.replicate, leVal, magicV1, magicV2]

/-- an invalid codec id (9) is reported right after `read_u8`, before the entry count is read:
    three `read_exact` calls, 13 bytes -/
example : parseIOL [7, 0, 0, 0, 0, 0, 0, 0, 9, 3, 0, 0, 0, 0, 0, 0, 0, 2, 0xC4, 0xD4, 0x23, 0x67] [] =
    (.error .badCodec, [], none, [(18, 4), (0, 8), (8, 1)]) := by
  simp [parseIOL, readExact, leVal, magicV1, magicV2]

end Grenad.Props.C13

section AuditOpen
open Grenad.Props.C13
#print axioms C13_open_fault
#print axioms C13_open_never_wrong
#print axioms C13_open_ok_sound
#print axioms C16_open_io
end AuditOpen

namespace Grenad.Props.C13

/-- The magic numbers, record sizes and accepted codec ids that `gen_constants.py` extracts from
    /repo's current sources on every run (`Grenad.Generated.Constants`) are the ones the model and
    `ValidTrailer` use. -/
theorem C13_constants_from_source :
    Grenad.Generated.magicV2 = Grenad.Meta.magicV2 ∧ Grenad.Generated.magicV1 = Grenad.Meta.magicV1 ∧
    Grenad.Generated.magicV2 = 0x6723D4C4 ∧ Grenad.Generated.magicV1 = 0x76324D4C ∧
    Grenad.Generated.metadataV2Size + 4 = 22 ∧ Grenad.Generated.metadataV1Size + 4 = 21 ∧
    Grenad.Generated.acceptedCodecIds = [0, 1, 2, 3, 4, 5] := by decide

end Grenad.Props.C13
