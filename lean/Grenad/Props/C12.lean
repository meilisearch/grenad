/-
  C12 — Any failure of a user-supplied component (the sink, the source, the merge function)
  surfaces as `Err` from the current call: never a panic, never success, never a different error;
  and when nothing fails no error is reported.

  In the model every fallible component is a value (`some tag`, `none`, `.error _`), so these
  statements are thin: each says where an error value can come from and that it is passed on
  unchanged.  They are nevertheless stated for an *arbitrary* schedule / loader / merge function.
-/
import Grenad.Proofs.IOProofs
import Grenad.Proofs.NoFault
import Grenad.Proofs.Wave3IO
import Grenad.Proofs.SorterRun

namespace Grenad.Props.C12

open Grenad Grenad.IOM

/-- `writeMany` under an arbitrary schedule.
    (a) No fault in the schedule: `Ok`.
    (b) An `Err(tag)` is exactly the first fault of the schedule, which was consumed by the call;
        the buffers before the failing one are in the sink completely, then a strict prefix of
        the failing one, and nothing after it.
    (c) `Ok` means everything was written (never success after a failure).
    (d) If the call reaches the first fault of the schedule, it reports that fault's tag. -/
theorem C12_write_fault (bufs : List Bytes) (s : Sink) (sch : List WResp) :
    let r := writeMany bufs s sch
    (WFaultFree sch → r.2.2 = none) ∧
    (∀ t, r.2.2 = some t →
      ∃ used j b k, WFaultFree used ∧ sch = used ++ .fail t :: r.2.1 ∧
        bufs[j]? = some b ∧ k < b.length ∧
        r.1.data = s.data ++ (bufs.take j).flatten ++ b.take k ∧
        r.1.count = s.count + (bufs.take j).flatten.length + k) ∧
    (r.2.2 = none →
      r.1.data = s.data ++ bufs.flatten ∧ ∃ used, WFaultFree used ∧ sch = used ++ r.2.1) ∧
    (∀ pre t post, WFaultFree pre → sch = pre ++ .fail t :: post →
      r.2.1.length ≤ post.length → r.2.2 = some t ∧ r.2.1 = post) := by
  rcases hr : writeMany bufs s sch with ⟨s', rest, err⟩
  have hc := writeMany_char bufs s sch _ _ _ hr
  refine ⟨?_, ?_, ?_, ?_⟩
  · intro hff
    exact (writeMany_ff hff bufs s).1 ▸ by rw [hr]
  · intro t ht
    rcases hc with ⟨e, -⟩ | ⟨t', j, b, k, e, hj, hk, hd, hcnt, used, hu, hs⟩
    · rw [e] at ht; cases ht
    · rw [e] at ht; cases ht
      exact ⟨used, j, b, k, hu, hs, hj, hk, hd, hcnt⟩
  · intro hn
    rcases hc with ⟨-, hd, -, used, hu, hs⟩ | ⟨t', j, b, k, e, -⟩
    · exact ⟨hd, used, hu, hs⟩
    · rw [e] at hn; cases hn
  · intro pre t post hpre hsch hlen
    rcases hc with ⟨-, -, -, hs⟩ | ⟨t', j, b, k, e, -, -, -, -, hs⟩
    · exact nomatch (hs.first_fault WResp.fail.inj hpre hsch hlen).1
    · rw [e]; exact hs.first_fault WResp.fail.inj hpre hsch hlen

/-- The same for a single `write_all`. -/
theorem C12_writeAll_fault (buf : Bytes) (s : Sink) (sch : List WResp) :
    let r := writeAll buf s sch
    (WFaultFree sch → r.2.2 = none) ∧
    (∀ t, r.2.2 = some t →
      ∃ used k, WFaultFree used ∧ sch = used ++ .fail t :: r.2.1 ∧ k < buf.length ∧
        r.1.data = s.data ++ buf.take k) ∧
    (r.2.2 = none → r.1.data = s.data ++ buf) := by
  rcases hr : writeAll buf s sch with ⟨s', rest, err⟩
  have hc := writeAll_char sch buf s _ _ _ hr
  refine ⟨?_, ?_, ?_⟩
  · intro hff
    exact (writeAll_ff hff buf s).1 ▸ by rw [hr]
  · intro t ht
    rcases hc with ⟨e, -⟩ | ⟨t', k, e, hk, hd, -, used, hu, hs⟩
    · rw [e] at ht; cases ht
    · rw [e] at ht; cases ht
      exact ⟨used, k, hu, hs, hk, hd⟩
  · intro hn
    rcases hc with ⟨-, hd, -⟩ | ⟨t', k, e, -⟩
    · exact hd
    · rw [e] at hn; cases hn

/-- `read_exact` under an arbitrary schedule.
    (a) No fault and enough data: `Ok`.
    (b) An `Err(tag)` is either UnexpectedEof (tag 0, the data really is too short, no fault was
        consumed) or exactly the first fault of the schedule.
    (c) If the call reaches the first fault of the schedule, it reports that fault's tag. -/
theorem C12_readExact_fault (data : Bytes) (n pos : Nat) (sch : List RResp) :
    let r := readExact data n pos [] sch
    (RFaultFree sch → pos + n ≤ data.length → r.2.2.2 = none) ∧
    (∀ t, r.2.2.2 = some t →
      (t = 0 ∧ data.length < pos + n ∧ ∃ used, RFaultFree used ∧ sch = used ++ r.2.2.1) ∨
      (∃ used, RFaultFree used ∧ sch = used ++ .fail t :: r.2.2.1)) ∧
    (∀ pre t post, RFaultFree pre → sch = pre ++ .fail t :: post →
      r.2.2.1.length ≤ post.length → r.2.2.2 = some t ∧ r.2.2.1 = post) := by
  rcases hr : readExact data n pos [] sch with ⟨out, pos', rest, err⟩
  obtain ⟨got, -, -, hc⟩ := readExact_char data sch n pos [] _ _ _ _ hr
  refine ⟨?_, ?_, ?_⟩
  · intro hff hlen
    exact (readExact_ff hff data n pos [] hlen).2.2.1 ▸ by rw [hr]
  · intro t ht
    rcases hc with ⟨e, -⟩ | ⟨e, hl, -, used, hu, hs⟩ | ⟨t', e, -, -, used, hu, hs⟩
    · rw [e] at ht; cases ht
    · rw [e] at ht; cases ht
      exact .inl ⟨rfl, by omega, used, hu, hs⟩
    · rw [e] at ht; cases ht
      exact .inr ⟨used, hu, hs⟩
  · intro pre t post hpre hsch hlen
    rcases hc with ⟨-, -, -, hs⟩ | ⟨-, -, -, hs⟩ | ⟨t', e, -, -, hs⟩
    · exact nomatch (hs.first_fault RResp.fail.inj hpre hsch hlen).1
    · exact nomatch (hs.first_fault RResp.fail.inj hpre hsch hlen).1
    · rw [e]; exact hs.first_fault RResp.fail.inj hpre hsch hlen

/-- `take(limit).read_to_end`: the only error is the first fault of the schedule. -/
theorem C12_readToEndTake_fault (data : Bytes) (limit pos : Nat) (sch : List RResp) :
    let r := readToEndTake data limit pos [] sch
    (RFaultFree sch → r.2.2.2 = none) ∧
    (∀ t, r.2.2.2 = some t → ∃ used, RFaultFree used ∧ sch = used ++ .fail t :: r.2.2.1) ∧
    (∀ pre t post, RFaultFree pre → sch = pre ++ .fail t :: post →
      r.2.2.1.length ≤ post.length → r.2.2.2 = some t ∧ r.2.2.1 = post) := by
  rcases hr : readToEndTake data limit pos [] sch with ⟨out, pos', rest, err⟩
  obtain ⟨got, -, -, hc⟩ := readToEndTake_char data sch limit pos [] _ _ _ _ hr
  refine ⟨?_, ?_, ?_⟩
  · intro hff
    exact (readToEndTake_ff hff data limit pos []).2.2.1 ▸ by rw [hr]
  · intro t ht
    rcases hc with ⟨e, -⟩ | ⟨t', e, -, used, hu, hs⟩
    · rw [e] at ht; cases ht
    · rw [e] at ht; cases ht
      exact ⟨used, hu, hs⟩
  · intro pre t post hpre hsch hlen
    rcases hc with ⟨-, -, hs⟩ | ⟨t', e, -, hs⟩
    · exact nomatch (hs.first_fault RResp.fail.inj hpre hsch hlen).1
    · rw [e]; exact hs.first_fault RResp.fail.inj hpre hsch hlen

/-- Loading a block body (`read_u64` then `take(len).read_to_end`) under an arbitrary schedule.
    (a) No fault and a complete header: a body and `Ok`.
    (b) A body is returned iff no error is reported (never a body together with an error, never
        `Ok` without a body).
    (c) An `Err(tag)` is UnexpectedEof on a short header, or exactly the first fault of the
        schedule — whichever of the two reads consumed it.
    (d) If the call reaches the first fault of the schedule, it reports that fault's tag. -/
theorem C12_read_fault (file : Bytes) (off : Nat) (sch : List RResp) :
    let r := loadBodyIO file off sch
    (RFaultFree sch → off + 8 ≤ file.length → r.2.2 = none ∧ r.1.isSome) ∧
    (r.1.isSome ↔ r.2.2 = none) ∧
    (∀ t, r.2.2 = some t →
      (t = 0 ∧ file.length < off + 8 ∧ ∃ used, RFaultFree used ∧ sch = used ++ r.2.1) ∨
      (∃ used, RFaultFree used ∧ sch = used ++ .fail t :: r.2.1)) ∧
    (∀ pre t post, RFaultFree pre → sch = pre ++ .fail t :: post →
      r.2.1.length ≤ post.length → r.2.2 = some t ∧ r.1 = none ∧ r.2.1 = post) := by
  rcases hr : loadBodyIO file off sch with ⟨res, rest, err⟩
  have hc := loadBodyIO_char file off sch _ _ _ hr
  refine ⟨?_, ?_, ?_, ?_⟩
  · intro hff hlen
    rcases hc with ⟨e, -, hres, -⟩ | ⟨-, -, hl, -⟩ | ⟨t, -, -, hs⟩
    · exact ⟨e, by rw [hres]; rfl⟩
    · omega
    · exact nomatch (hs.of_noFail hff).1
  · rcases hc with ⟨e, -, hres, -⟩ | ⟨e, hres, -⟩ | ⟨t, e, hres, -⟩
    · rw [e, hres]; simp
    · rw [e, hres]; simp
    · rw [e, hres]; simp
  · intro t ht
    rcases hc with ⟨e, -⟩ | ⟨e, -, hl, used, hu, hs⟩ | ⟨t', e, -, used, hu, hs⟩
    · rw [e] at ht; cases ht
    · rw [e] at ht; cases ht
      exact .inl ⟨rfl, hl, used, hu, hs⟩
    · rw [e] at ht; cases ht
      exact .inr ⟨used, hu, hs⟩
  · intro pre t post hpre hsch hlen
    rcases hc with ⟨-, -, -, hs⟩ | ⟨-, -, -, hs⟩ | ⟨t', e, hres, hs⟩
    · exact nomatch (hs.first_fault RResp.fail.inj hpre hsch hlen).1
    · exact nomatch (hs.first_fault RResp.fail.inj hpre hsch hlen).1
    · obtain ⟨e1, e2⟩ := hs.first_fault RResp.fail.inj hpre hsch hlen
      exact ⟨by rw [e, e1], hres, e2⟩

/-- A fault makes the schedule-driven block load fail (`none`), which the cursor turns into
    `Res.err` (below): it can never produce a block. -/
theorem C12_load_fault_none (cd : Codec) (file : Bytes) (off : Nat) (sch : List RResp)
    (h : (loadBodyIO file off sch).2.2 ≠ none) : loadBlockIO cd file off sch = none := by
  have := (C12_read_fault file off sch).2.1
  unfold loadBlockIO
  cases hres : (loadBodyIO file off sch).1 with
  | none => rfl
  | some b => rw [hres] at this; exact absurd (this.mp rfl) h

/-- If no load fails, no cursor operation reports an error. -/
theorem C12_cursor_load_fault {β : Type} (ops : BlockOps β) (load : Nat → Option β)
    (fix : Bool) (c : RC β) (op : Op) (hl : ∀ off, (load off).isSome) :
    (RC.step ops load fix c op).2 ≠ .err :=
  step_ne_err_of_total ops load hl fix c op

/-- Contrapositive: an error from a cursor operation means a load failed. -/
theorem C12_cursor_err_has_cause {β : Type} (ops : BlockOps β) (load : Nat → Option β)
    (fix : Bool) (c : RC β) (op : Op) (h : (RC.step ops load fix c op).2 = .err) :
    ∃ off, load off = none := by
  apply Classical.byContradiction
  intro hne
  have hl : ∀ off, (load off).isSome := by
    intro off
    cases hlo : load off with
    | none => exact absurd ⟨off, hlo⟩ hne
    | some b => rfl
  exact step_ne_err_of_total ops load hl fix c op h

/-- Never a wrong entry: a cursor operation that does not report an error under `load` gives the
    very same state and result under every loader `load'` that succeeds (with the same blocks)
    at least where `load` does.  So a result never depends on a load that failed: failing loads
    can only turn the outcome of the operation that attempts them into `.err`. -/
theorem C12_cursor_ok_stable {β : Type} (ops : BlockOps β) (load load' : Nat → Option β)
    (hm : ∀ off b, load off = some b → load' off = some b) (fix : Bool) (c : RC β) (op : Op)
    (h : (RC.step ops load fix c op).2 ≠ .err) :
    RC.step ops load' fix c op = RC.step ops load fix c op :=
  step_load_mono ops load load' hm fix c op h

/-- The reader over the I/O layer under *arbitrary* schedules (faults, short reads, anything):
    each cursor operation either reports an error or returns exactly what the fault-free reader
    returns, and leaves the cursor in exactly the same state. -/
theorem C12_cursor_never_wrong (cd : Codec) (file : Bytes) (sched : Nat → List RResp)
    (fix : Bool) (c : RC BlockCursor) (op : Op) :
    (RC.step byteOps (ioLoader cd file sched) fix c op).2 = .err ∨
    RC.step byteOps (ioLoader cd file sched) fix c op =
      RC.step byteOps (loadCursor cd file) fix c op := by
  by_cases h : (RC.step byteOps (ioLoader cd file sched) fix c op).2 = .err
  · exact .inl h
  · exact .inr (step_load_mono byteOps _ _ (ioLoader_le cd file sched) fix c op h).symm

/-- A failing load of the block an operation needs first makes *that* operation fail: e.g. on a
    fresh cursor every positioning operation starts by loading the root block at `c.base`. -/
theorem C12_cursor_root_fault {β : Type} (ops : BlockOps β) (load : Nat → Option β)
    (c : RC β) (hfresh : c.inner = none) (hroot : load c.base = none) :
    (RC.first ops load c).2 = .err ∧ (RC.last ops load c).2 = .err ∧
    ∀ q, (RC.ge ops load q c).2 = .err := by
  have h : ∀ mov, RC.iterIndex ops load mov c = none := by
    intro mov
    unfold RC.iterIndex
    rw [hfresh]
    simp only
    unfold RC.initialIndex
    rw [hroot]
  refine ⟨?_, ?_, ?_⟩
  · unfold RC.first; rw [h]
  · unfold RC.last; rw [h]
  · intro q; unfold RC.ge; rw [h]

/-- A failing load of the data block an index entry designates makes the operation fail (the
    entry of another block is never returned instead). -/
theorem C12_cursor_enter_fault {β : Type} (ops : BlockOps β) (load : Nat → Option β)
    (c c1 : RC β) (e : Entry) (hidx : RC.iterIndex ops load .first c = some (c1, some e))
    (hload : load (offOf e) = none) : (RC.first ops load c).2 = .err := by
  unfold RC.first
  rw [hidx]
  simp only
  unfold RC.enter
  rw [hload]

/-- One `MergerIter::next`: it makes at most one call of the merge function (recorded at the head
    of `calls`); the result is `mergeErr` iff that call failed, and `Ok((key, merged))` with the
    value the call returned otherwise; with an empty heap no call is made and the result is
    `Ok(None)`.  (`Merger.run` returns `none` iff some call fails: `Props/C06`.) -/
theorem C12_merge_fault (mf : MergeFn) (m : Merger) :
    (heapPop m.heap = none → Merger.next mf m = (m, .ok none)) ∧
    (∀ first h, heapPop m.heap = some (first, h) →
      let vals := first.val :: (popSame first.key (h.length + 1) h []).1.map MSrc.val
      (Merger.next mf m).1.calls = (first.key, vals) :: m.calls ∧
      ((Merger.next mf m).2 = .mergeErr ↔ mf first.key vals = none) ∧
      (∀ merged, mf first.key vals = some merged →
        (Merger.next mf m).2 = .ok (some (first.key, merged)))) := by
  refine ⟨fun hp => by unfold Merger.next; rw [hp], ?_⟩
  intro first h hp
  unfold Merger.next
  rw [hp]
  simp only
  cases hm : mf first.key (first.val :: (popSame first.key (h.length + 1) h []).1.map MSrc.val) with
  | none => simp
  | some merged => simp

/-- A merge function that never fails: neither a step nor a complete run reports an error. -/
theorem C12_merge_no_fault (mf : MergeFn) (hmf : ∀ k vs, (mf k vs).isSome) :
    (∀ m, (Merger.next mf m).2 ≠ .mergeErr) ∧ (∀ sources, (Merger.run mf sources).1 ≠ none) :=
  ⟨Merger.next_ne_mergeErr mf hmf, Merger.run_ne_none mf hmf⟩

open Sorter in
/-- `Sorter::insert`: every error value is accounted for.  A `.trap t` is the trap `t` of one of
    the `Entries` operations of this very call, passed on unchanged; a `.merge` is a failed merge
    call of this very call's spill or chunk merge.  Nothing else can be reported, nothing is
    converted into another error, and no error is swallowed (next theorem). -/
theorem C12_sorter_insert_err (mf : MergeFn) (s : Sorter) (k v : Bytes) (e : SErr)
    (h : Sorter.insert mf s k v = .error e) :
    (∃ t, e = .trap t ∧
      (s.entries.fits k v = .error t ∨ s.entries.insert k v 64 = .error t ∨
       ∃ s', writeChunk mf s = .ok s' ∧ s'.entries.insert k v 64 = .error t)) ∨
    (e = .merge ∧
      (mergeGroups mf (sortStable s.entries.items) none [] [] = none ∨
       ∃ s', writeChunk mf s = .ok s' ∧ (Merger.run mf s'.chunks).1 = none)) :=
  Sorter.insert_err h

open Sorter in
/-- No conversion, no swallowing: a trap of the first `Entries` operation of `Sorter::insert` is
    reported as that very trap, and a failing spill as `.merge`. -/
theorem C12_sorter_no_trap_conversion (mf : MergeFn) (s : Sorter) (k v : Bytes) :
    (∀ t, s.entries.fits k v = .error t → Sorter.insert mf s k v = .error (.trap t)) ∧
    (∀ fit, s.entries.fits k v = .ok fit →
      (fit || (!decide (s.entries.bufLen ≥ s.cfg.budget) && s.cfg.allowRealloc)) = false →
      mergeGroups mf (sortStable s.entries.items) none [] [] = none →
      Sorter.insert mf s k v = .error .merge) ∧
    (∀ e, Sorter.insert mf s k v = .error e → (∃ t, e = .trap t) ∨ e = .merge) := by
  refine ⟨?_, ?_, ?_⟩
  · intro t hf
    unfold Sorter.insert; rw [hf]
  · intro fit hf hcond hm
    unfold Sorter.insert
    rw [hf]
    simp only [hcond]
    unfold writeChunk writeChunkWith
    rw [hm]
    simp
  · intro e _
    cases e with
    | trap t => exact .inl ⟨t, rfl⟩
    | merge => exact .inr rfl

open Sorter in
/-- `finish` (`into_stream_merger_iter` drained): every error value is accounted for. -/
theorem C12_sorter_finish_err (mf : MergeFn) (s : Sorter) (e : SErr)
    (h : Sorter.finish mf s = .error e) :
    (∃ t s', e = .trap t ∧ writeChunk mf s = .ok s' ∧ s'.entries.drop = .error t) ∨
    (e = .merge ∧
      (mergeGroups mf (sortStable s.entries.items) none [] [] = none ∨
       ∃ s', finishChunks mf s = .ok s' ∧ (Merger.run mf s'.chunks).1 = none)) := by
  unfold Sorter.finish at h
  cases hfc : finishChunks mf s with
  | error e' =>
    rw [hfc] at h; simp only at h; cases h
    unfold finishChunks at hfc
    cases hw : writeChunk mf s with
    | error e'' =>
      rw [hw] at hfc; simp only at hfc; cases hfc
      obtain ⟨e1, e2⟩ := Sorter.writeChunk_eq_error hw
      exact .inr ⟨e1, .inl e2⟩
    | ok s' =>
      rw [hw] at hfc
      simp only at hfc
      cases hd : s'.entries.drop with
      | error t => rw [hd] at hfc; simp only at hfc; cases hfc; exact .inl ⟨t, s', rfl, rfl, hd⟩
      | ok x => rw [hd] at hfc; obtain ⟨a, b⟩ := x; simp only at hfc; cases hfc
  | ok s' =>
    rw [hfc] at h
    simp only at h
    rcases hm : Merger.run mf s'.chunks with ⟨o, m⟩
    rw [hm] at h
    cases o with
    | none => simp only at h; cases h; exact .inr ⟨rfl, .inr ⟨s', rfl, by rw [hm]⟩⟩
    | some out => simp only at h; cases h

open Sorter in
/-- When the merge function never fails, the sorter never reports `.merge`: the only possible
    errors are the `Entries` traps (shown unreachable in C08/C17). -/
theorem C12_sorter_no_fault (mf : MergeFn) (hmf : ∀ k vs, (mf k vs).isSome) (s : Sorter) :
    (∀ k v, Sorter.insert mf s k v ≠ .error .merge) ∧ Sorter.finish mf s ≠ .error .merge := by
  refine ⟨?_, ?_⟩
  · intro k v h
    rcases C12_sorter_insert_err mf s k v _ h with ⟨t, e, _⟩ | ⟨_, h1 | ⟨s', _, h2⟩⟩
    · cases e
    · exact mergeGroups_ne_none mf hmf _ _ _ _ h1
    · exact Merger.run_ne_none mf hmf _ h2
  · intro h
    rcases C12_sorter_finish_err mf s _ h with ⟨t, s', e, _⟩ | ⟨_, h1 | ⟨s', _, h2⟩⟩
    · cases e
    · exact mergeGroups_ne_none mf hmf _ _ _ _ h1
    · exact Merger.run_ne_none mf hmf _ h2

/-- a fault in the middle of the second buffer: the first buffer is complete, one byte of the
    second went through, the third is not started; the tag is reported; the rest of the
    schedule is untouched -/
example : writeMany [[1, 2], [3, 4, 5], [6]] {}
      [.accept 1, .interrupted, .accept 1, .accept 1, .fail 7, .accept 9, .fail 8] =
    ({ data := [1, 2, 3], count := 3 }, [.accept 9, .fail 8], some 7) := by decide
/-- a fault that is never reached is not reported -/
example : writeMany [[1, 2]] {} [.accept 2, .fail 7] =
    ({ data := [1, 2], count := 2 }, [.fail 7], none) := by decide
/-- the hypotheses of clause (d) hold for the first example -/
example : WFaultFree [.accept 1, .interrupted, .accept 1, .accept 1] := by
  intro r hr t; simp at hr; rcases hr with rfl | rfl | rfl | rfl <;> simp
/-- a read fault in the body: no body is returned, tag 5 -/
example : loadBodyIO [0, 0, 0, 0, 0, 0, 0, 3, 7, 8, 9] 0
      [.serve 4, .interrupted, .serve 4, .serve 1, .fail 5, .serve 9] =
    (none, [.serve 9], some 5) := by
  simp [loadBodyIO, readExact, readToEndTake, beVal, leVal]
/-- a short header: UnexpectedEof -/
example : (loadBodyIO [0, 0, 0] 0 [.serve 1]).2.2 = some 0 := by
  simp [loadBodyIO, readExact]
/-- a merge function failing on key `[3]` -/
example : (Merger.next (fun k vs => if k = [3] then none else some vs.flatten)
    (Merger.start [[([3], [1])], [([3], [2])]])).2 = .mergeErr := by decide
/-- hypotheses of `C12_cursor_load_fault` / `C12_merge_no_fault` / `C12_sorter_no_fault` hold for
    concrete components -/
example : ∀ off, ((fun off : Nat => some (BlockCursor.ofBlock { payload := [], offsets := [off] })) off).isSome :=
  fun _ => rfl
example : ∀ k vs, ((fun (_ : Bytes) (vs : List Bytes) => some vs.flatten : MergeFn) k vs).isSome :=
  fun _ _ => rfl
/-- hypothesis of `C12_cursor_ok_stable`: a loader failing at offset 5 is below the total one -/
example : ∀ off b, (fun off : Nat => if off = 5 then none else some off) off = some b →
    (fun off : Nat => some off) off = some b := by
  intro off b h
  by_cases h5 : off = 5
  · simp [h5] at h
  · simpa [h5] using h
/-- a fresh cursor whose root block cannot be loaded: `first` fails at once -/
example : (RC.first byteOps (fun _ => none)
    { base := 0, levels := 0, inner := none, cur := none }).2 = .err := by
  simp [RC.first, RC.iterIndex, RC.initialIndex]

end Grenad.Props.C12

namespace Grenad.Props.C12

open Grenad Grenad.IOM Grenad.Wave3

section
variable {cd : Codec} {cfg : WCfg} {es : List Entry} {file : Bytes} {log : List Emitted}
  {m : Meta.Meta}

/-- **C12, the writer's sink.**  `W.runIO cd log m sch` is the complete writer run (all its
    `write_all` calls: two per block, five for the trailer) against a sink answering from an
    *arbitrary* schedule `sch`; `file` is what the pure writer returns.
    (a) No fault in the schedule: `Ok`.
    (b) An `Err(t)` is exactly the first `.fail` of the schedule, which the run consumed; the sink
        then holds a *strict* prefix of `file` (never the complete file, never other bytes), and
        `CountWrite::count` is the number of bytes it holds.
    (c) `Ok` means the sink holds exactly `file` (never success after a failure).
    (d) If the run reaches the first fault of the schedule, it reports that fault's tag. -/
theorem C12_writer_fault (H : WriterHyps cd cfg es) (hrun : W.run cd cfg es = .ok (file, log))
    (hfile : file.length < 2 ^ 64) (hcount : es.length < 2 ^ 64) (hid : cd.id ≤ 5)
    (hm : Meta.parse file = .ok m) (sch : List WResp) :
    let r := W.runIO cd log m sch
    (WFaultFree sch → r.2.2 = none) ∧
    (∀ t, r.2.2 = some t →
      ∃ used rest, WFaultFree used ∧ sch = used ++ .fail t :: r.2.1 ∧
        rest ≠ [] ∧ file = r.1.data ++ rest ∧ r.1.count = r.1.data.length) ∧
    (r.2.2 = none → r.1.data = file ∧ r.1.count = file.length) ∧
    (∀ pre t post, WFaultFree pre → sch = pre ++ .fail t :: post →
      r.2.1.length ≤ post.length → r.2.2 = some t ∧ r.2.1 = post) := by
  have hfl := writes_flatten_run H hrun hfile hcount hid hm
  obtain ⟨done, todo, hf, hd, hcnt, he⟩ := runIO_prefix cd log m sch
  rw [hfl] at hf
  obtain ⟨-, hb, -, hd4⟩ := C12_write_fault (W.writes cd log m) {} sch
  refine ⟨fun hff => (runIO_ff cd log m hff).1, fun t ht => ?_, fun hn => ?_, hd4⟩
  · obtain ⟨used, -, -, -, hu, hs, -⟩ := hb t ht
    exact ⟨used, todo, hu, hs, (fun h0 => nomatch ht.symm.trans (he.mpr h0)), hd ▸ hf,
      by rw [hcnt, hd]⟩
  · rw [he.mp hn, List.append_nil] at hf
    exact ⟨by rw [hd, hf], by rw [hcnt, hf]⟩

/-- Which call was interrupted: an `Err(t)` stops the run inside call number `j` of
    `W.writes cd log m`; the calls before it went through completely, a strict prefix of call
    `j` was written, nothing after it. -/
theorem C12_writer_fault_call (cd : Codec) (log : List Emitted) (m : Meta.Meta)
    (sch : List WResp) (t : Nat) (h : (W.runIO cd log m sch).2.2 = some t) :
    ∃ j b k, (W.writes cd log m)[j]? = some b ∧ k < b.length ∧
      (W.runIO cd log m sch).1.data = ((W.writes cd log m).take j).flatten ++ b.take k := by
  obtain ⟨used, j, b, k, -, -, hj, hk, hd, -⟩ :=
    (C12_write_fault (W.writes cd log m) {} sch).2.1 t h
  refine ⟨j, b, k, hj, hk, ?_⟩
  have hd' : (W.runIO cd log m sch).1.data =
      ([] : Bytes) ++ ((W.writes cd log m).take j).flatten ++ b.take k := hd
  simpa using hd'

end

/-- the hypotheses hold for the instance `wx…` of `Grenad.Proofs.Wave3IO`; a fault while the
    second block's body is being written (after 24 + 8 + 2 bytes): the tag is reported, the sink
    holds the first 34 bytes of the file -/
example : ∃ rest, rest ≠ [] ∧ wxFile =
    (W.runIO Codec.none wxLog wxMeta (List.replicate 34 (.accept 1) ++ [.fail 9, .accept 5])).1.data ++ rest := by
  have h := (C12_writer_fault wxHyps wxRun wxFile_lt (by decide) (by decide) wxParse
    (List.replicate 34 (.accept 1) ++ [.fail 9, .accept 5])).2.1 9
    (by decide +kernel)
  obtain ⟨_, rest, -, -, h1, h2, -⟩ := h
  exact ⟨rest, h1, h2⟩

example : W.runIO Codec.none wxLog wxMeta (List.replicate 34 (.accept 1) ++ [.fail 9, .accept 5]) =
    ({ data := wxFile.take 34, count := 34 }, [.accept 5], some 9) := by
  decide +kernel

end Grenad.Props.C12

section Audit
open Grenad.Props.C12
#print axioms C12_writer_fault
#print axioms C12_writer_fault_call
end Audit
