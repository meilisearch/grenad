/-
  C09 — every file finished by the writer is a well-formed version-2 file.

  Blocks `be64 len ++ compress raw` are laid out back to back from offset 0 and followed by the
  22-byte trailer (`le64 root ++ [codec id] ++ le64 count ++ [levels] ++ le32 0x6723D4C4`); the
  data blocks hold the inserted entries in order; the items of the index blocks of level `ℓ`
  are, in emission order, the pointers `(last key, be64 offset)` to the blocks of level `ℓ - 1`
  in emission order; the last block is the root, of level `levels + 1`.
-/
import Grenad.Proofs.WriterTreeDecode
import Grenad.Generated.Constants

namespace Grenad.Props.C09

open Grenad

def framed (cd : Codec) (e : Emitted) : Bytes :=
  be64 (cd.compress e.raw).length ++ cd.compress e.raw

/-- `file`, whose blocks are described by `log`, is a well-formed version-2 file holding `es`
    under `levels` index levels, with root block at `root`. -/
structure WellFormedV2 (cd : Codec) (iv levels : Nat) (es : List Entry) (file : Bytes)
    (log : List Emitted) (root : Nat) : Prop where
  /-- blocks back to back from offset 0, then the trailer -/
  layout : file = log.flatMap (framed cd) ++ Meta.encode ⟨2, root, cd.id, es.length, levels⟩
  /-- the trailer, byte for byte (22 bytes) -/
  trailer : Meta.encode ⟨2, root, cd.id, es.length, levels⟩
      = le64 root ++ [UInt8.ofNat cd.id] ++ le64 es.length ++ [UInt8.ofNat levels] ++ le32 0x6723D4C4
    ∧ (Meta.encode ⟨2, root, cd.id, es.length, levels⟩).length = 22
  /-- the recorded offsets are the prefix sums of the framed sizes -/
  offsets : ∀ l1 e l2, log = l1 ++ e :: l2 → e.offset = (l1.flatMap (framed cd)).length
  /-- the last block is the root; it is the only block of level `levels + 1` -/
  root_last : ∃ l0 e, log = l0 ++ [e] ∧ e.offset = root ∧ e.level = levels + 1 ∧
      ∀ e' ∈ l0, e'.level < levels + 1
  /-- every block is the `BW.finish` image of a block writer holding its items -/
  raw : ∀ e ∈ log, ∃ w, BW.Made iv w ∧ e.raw = w.finish ∧ e.items = w.items
  /-- the items of every block are strictly ascending -/
  strict : ∀ e ∈ log, StrictAsc e.items
  /-- the data blocks hold the entries, in order -/
  data : (log.filter (·.level = 0)).flatMap (·.items) = es
  /-- index blocks of level `ℓ` point to the consecutive blocks of level `ℓ - 1` -/
  index : ∀ ℓ, 1 ≤ ℓ → ℓ ≤ levels + 1 →
      (log.filter (·.level = ℓ)).flatMap (·.items)
        = (log.filter (·.level = ℓ - 1)).map (fun c => (lastKey c.items, be64 c.offset))
  /-- every block can be read back at its recorded offset -/
  readable : ∀ e ∈ log, loadBlock cd file e.offset = Block.parse e.raw
  /-- the trailer parses -/
  parse : Meta.parse file = .ok ⟨2, root, cd.id, es.length, levels⟩
  /-- the index is a well-formed tree over the entries -/
  tree : FileOK (storeOf log) root levels es

theorem C09_conforms {cd : Codec} {cfg : WCfg} {es : List Entry} (H : WriterHyps cd cfg es)
    {file : Bytes} {log : List Emitted} (hrun : W.run cd cfg es = .ok (file, log))
    (hfile : file.length < 2 ^ 64) (hcount : es.length < 2 ^ 64) (hid : cd.id ≤ 5) :
    ∃ root, WellFormedV2 cd cfg.interval cfg.levels es file log root := by
  obtain ⟨idx, out, root, rfl, hF, hFF⟩ := W.run_out H hrun
  have hol : out.length < 2 ^ 64 := by simp only [List.length_append] at hfile; omega
  refine ⟨root, ?_, ⟨?_, WT.meta_encode_v2_length _ rfl⟩, hF.lay.prefix_sum, hFF.root_last, hF.logok,
    ?_, hFF.data, hFF.links, hF.lay.loadBlock H.lawful _ hfile, hF.parse hfile hcount hid H.levels,
    hF.fileOK H.asc hol⟩
  · congr 1; exact hF.lay.out_eq
  · simp [Meta.encode, Meta.magicV2]
  · intro e he
    obtain ⟨w, rw', -, hi⟩ := hF.logok e he
    exact hi ▸ rw'.reach.keysAsc

/-- Without compression every block is shorter than the file that holds it. -/
theorem WellFormedV2.raw_le {iv levels : Nat} {es : List Entry} {file : Bytes} {log : List Emitted}
    {root : Nat} (h : WellFormedV2 Codec.none iv levels es file log root) :
    ∀ e ∈ log, e.raw.length ≤ file.length := by
  intro e he
  obtain ⟨l1, l2, rfl⟩ := List.append_of_mem he
  rw [h.layout]
  simp [framed, Codec.none]
  omega

/-- The independent specification decoder (`SpecDecode.entries`: trailer parse, then `levels + 1`
    descents with `loadBlock` and a plain `Block.entryAt` walk) returns the inserted entries on
    the writer's output.  `BlocksDecode log` — the parsed bytes of every emitted block walk back
    to its items — is the T-block fact, taken here as a hypothesis; `Grenad.Props.C09Decoder`
    discharges it (blocks shorter than `2^32` bytes, `interval ≥ 1`). -/
theorem C09_spec_decoder {cd : Codec} {cfg : WCfg} {es : List Entry} (H : WriterHyps cd cfg es)
    {file : Bytes} {log : List Emitted} (hrun : W.run cd cfg es = .ok (file, log))
    (hfile : file.length < 2 ^ 64) (hcount : es.length < 2 ^ 64) (hid : cd.id ≤ 5)
    (hblocks : BlocksDecode log) :
    SpecDecode.entries cd file = some es := by
  obtain ⟨root, hok, hparse⟩ := T_writer_tree H hrun hfile hcount hid
  obtain ⟨hload, -⟩ := T_writer_bytes H hrun hfile
  have hread : ∀ off items, storeOf log off = some items →
      SpecDecode.blockEntries cd file off = some items := by
    intro off items hs
    obtain ⟨e, he, rfl, rfl⟩ := storeOf_some hs
    obtain ⟨b, hb, hw⟩ := hblocks e he
    unfold SpecDecode.blockEntries
    rw [hload e he, hb]
    simp [hw]
  have hoff : ∀ off items, storeOf log off = some items → off < 2 ^ 64 :=
    fun off items hs => (hok.blocks off items hs).2
  unfold SpecDecode.entries
  rw [hparse]
  simp only
  rcases hok.tree with ⟨rfl, hroot⟩ | ⟨lvl, hsub⟩
  · unfold SpecDecode.descend
    rw [hread _ _ hroot]
    rfl
  · exact SpecDecode.descend_sub hread hoff hsub

/-! ### A concrete instance: `minBlock = 32`, two index levels, 14 entries -/

def cfgX : WCfg := { blockSize := 0, minBlock := 32, interval := 2, levels := 2 }
def kvX (i : Nat) : Entry := ([UInt8.ofNat (i / 256), UInt8.ofNat (i % 256)], [UInt8.ofNat i, 7])
def esX : List Entry := (List.range 14).map kvX

theorem hypsX : WriterHyps Codec.none cfgX esX where
  levels := by decide
  lawful := fun _ => rfl
  asc := by unfold StrictAsc; decide +kernel
  lens := by decide

/-- Shape of the result: `(file length, [(offset, level, #items)])`. -/
def shape (r : Except Trap (Bytes × List Emitted)) : Option (Nat × List (Nat × Nat × Nat)) :=
  match r with
  | .ok (f, log) => some (f.length, log.map (fun e => (e.offset, e.level, e.items.length)))
  | .error _ => none

/-- Of this the instances below need the file length, 454. -/
theorem shapeX : shape (W.run Codec.none cfgX esX)
    = some (454, [(0, 0, 3), (46, 0, 3), (92, 1, 2), (136, 0, 3), (182, 0, 3), (228, 1, 2),
                  (272, 0, 2), (304, 1, 1), (336, 2, 3), (400, 3, 1)]) := by
  decide +kernel

theorem length_of_shapeX {file : Bytes} {log : List Emitted}
    (hrun : W.run Codec.none cfgX esX = .ok (file, log)) : file.length = 454 := by
  have h := shapeX
  rw [hrun] at h
  simp only [shape, Option.some.injEq, Prod.mk.injEq] at h
  exact h.1

set_option maxRecDepth 100000 in
/-- Five data blocks, two level-1 blocks cut during insertion and one at the end, then the
    level-2 block and the root. -/
example : shape (W.run Codec.none cfgX esX)
    = some (454, [(0, 0, 3), (46, 0, 3), (92, 1, 2), (136, 0, 3), (182, 0, 3), (228, 1, 2),
                  (272, 0, 2), (304, 1, 1), (336, 2, 3), (400, 3, 1)]) := shapeX

/-- Edge cases: the empty file is a single empty root block (whatever the number of levels),
    and with `levels = 0` the root points directly to the data blocks. -/
example : shape (W.run Codec.none { blockSize := 0, minBlock := 32, interval := 2, levels := 3 } [])
    = some (42, [(0, 4, 0)]) := by decide

set_option maxRecDepth 100000 in
example : shape (W.run Codec.none { blockSize := 0, minBlock := 32, interval := 2, levels := 0 } esX)
    = some (334, [(0, 0, 3), (46, 0, 3), (92, 0, 3), (138, 0, 3), (184, 0, 2), (216, 1, 5)]) := by
  decide +kernel

/-- The hypotheses of `C09_conforms` (and of `T_writer_tree`, `T_writer_bytes`) are satisfiable. -/
example : ∃ file log root, W.run Codec.none cfgX esX = .ok (file, log) ∧
    WellFormedV2 Codec.none cfgX.interval cfgX.levels esX file log root := by
  obtain ⟨file, log, hrun⟩ := T_writer_ok hypsX
  have hlen : file.length < 2 ^ 64 := by
    rw [length_of_shapeX hrun]; decide
  obtain ⟨root, h⟩ := C09_conforms hypsX hrun hlen (by decide) (by decide)
  exact ⟨file, log, root, hrun, h⟩

set_option maxRecDepth 100000 in
/-- The decoder on the concrete file, by evaluation. -/
example : (match W.run Codec.none cfgX esX with
    | .ok (file, _) => SpecDecode.entries Codec.none file
    | .error _ => none) = some esX := by
  decide +kernel

end Grenad.Props.C09

section Audit
open Grenad Grenad.Props.C09
#print axioms T_writer_ok
#print axioms T_writer_tree
#print axioms T_writer_bytes
#print axioms C09_conforms
#print axioms C09_spec_decoder
end Audit

namespace Grenad.Props.C09

/-- The trailer magic, record size and codec ids extracted from /repo's current sources
    (`Generated.Constants`) are the model's. -/
theorem C09_constants_from_source :
    Grenad.Generated.magicV2 = 0x6723D4C4 ∧ Grenad.Generated.magicV2 = Grenad.Meta.magicV2 ∧
    Grenad.Generated.metadataV2Size + 4 = 22 ∧
    [Grenad.Generated.codecNone, Grenad.Generated.codecSnappyPre05, Grenad.Generated.codecZlib,
     Grenad.Generated.codecLz4, Grenad.Generated.codecZstd, Grenad.Generated.codecSnappy] = [0, 1, 2, 3, 4, 5] := by decide

end Grenad.Props.C09
