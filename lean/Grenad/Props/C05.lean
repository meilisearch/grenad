/-
  C05 — Prefix iteration yields exactly the entries whose key starts with the prefix, in ascending
  order (`PrefixIter`) or descending order (`RevPrefixIter`); `advance_key` is the exclusive upper
  bound of the keys with a given prefix, and is `None` exactly for prefixes made of 0xFF bytes
  (the empty prefix included).

  Layer: the iterator algorithms of `Grenad.Model.Iter`, run over a cursor that refines the
  specification cursor `Spec.step es` (that the byte-level cursor does so is C02/C03).

  * `C05_prefix`, `C05_prefix_rev`: over `Spec.stepTotal es`, from position `fresh`.
  * `C05_prefix_refines`: over ANY cursor simulating the specification cursor; no side condition.
  * `C05_prefix_rev_refines`: the same for the backward iterator, under the side condition
    `LostCurrentOK step' c0 p`.  `move_on_last_prefix` is the only place where an iterator issues
    a call whose result the specification leaves open: `current()` right after a floor seek
    `le (advance_key p)` that returned `None`.  At that point no entry is `≤ advance_key p`, hence
    no entry starts with `p` and the answer must be empty; so that `current()` must not fail and
    must not return an entry that starts with `p`.
      - `C05_side_condition_necessary`: the condition is the weakest possible.
      - `C05_side_condition_of_ge`: it holds if the entry returned has a key `≥` the probe.
      - `C05_side_condition_of_mem`: it holds if the entry returned is any entry of the file.
      - `C05_side_condition_stepTotal`: it holds for `Spec.stepTotal` (which returns `None`).
      - `badStep` below: a cursor that agrees with `Spec.step` wherever specified but violates
        the condition makes the backward prefix iterator return a wrong (non-empty) list.
-/
import Grenad.Proofs.IterMain

namespace Grenad.Props.C05

open Grenad Grenad.IterP

/-- `advance_key(p) = Some(s)`: a key starts with `p` iff it lies in `[p, s)`. -/
theorem C05_advanceKey_spec (p s : Bytes) (h : advanceKey p = some s) (k : Bytes) :
    p.isPrefixOf k = true ↔ (p ≤ k ∧ k < s) :=
  advanceKey_spec p s h k

/-- `advance_key(p) = None` exactly when `p` consists of 0xFF bytes only (or is empty). -/
theorem C05_advanceKey_none (p : Bytes) : advanceKey p = none ↔ ∀ b ∈ p, b = 255 :=
  advanceKey_none p

/-- In that case a key starts with `p` iff it is `≥ p`: the prefix range has no upper bound. -/
theorem C05_advanceKey_none_spec (p : Bytes) (h : ∀ b ∈ p, b = 255) (k : Bytes) :
    p.isPrefixOf k = true ↔ p ≤ k :=
  isPrefixOf_iff_le_of_all255 p h k

/-! ### the iterators over the specification cursor -/

theorem C05_prefix (es : List Entry) (hasc : StrictAsc es) (p : Bytes) (fuel : Nat)
    (hfuel : fuel > es.length) :
    collect (PrefixIter.next (Spec.stepTotal es)) fuel { cursor := .fresh, pre := p } [] =
      some (Spec.withPrefix es p) :=
  prefix_collect (sim_stepTotal es) hasc .fresh .fresh rfl p fuel hfuel

theorem C05_prefix_rev (es : List Entry) (hasc : StrictAsc es) (p : Bytes) (fuel : Nat)
    (hfuel : fuel > es.length) :
    collect (PrefixIter.nextRev (Spec.stepTotal es)) fuel { cursor := .fresh, pre := p } [] =
      some (Spec.withPrefix es p).reverse :=
  prefix_collect_rev (sim_stepTotal es) hasc .fresh .fresh rfl p
    (lostCurrentOK_stepTotal es .fresh p) fuel hfuel

/-! ### the iterators over any refining cursor -/

/-- C05, forward, over any cursor that simulates the specification cursor, from any position. -/
theorem C05_prefix_refines {γ : Type} (es : List Entry) (hasc : StrictAsc es)
    (step' : γ → Op → γ × Res) (R : γ → Spec.Pos → Prop) (hsim : Sim es step' R)
    (c0 : γ) (pos0 : Spec.Pos) (hR : R c0 pos0) (p : Bytes) (fuel : Nat)
    (hfuel : fuel > es.length) :
    collect (PrefixIter.next step') fuel { cursor := c0, pre := p } [] =
      some (Spec.withPrefix es p) :=
  prefix_collect hsim hasc c0 pos0 hR p fuel hfuel

/-- C05, backward, over any cursor that simulates the specification cursor, from any position,
    under the side condition on `current()` after a failed floor seek. -/
theorem C05_prefix_rev_refines {γ : Type} (es : List Entry) (hasc : StrictAsc es)
    (step' : γ → Op → γ × Res) (R : γ → Spec.Pos → Prop) (hsim : Sim es step' R)
    (c0 : γ) (pos0 : Spec.Pos) (hR : R c0 pos0) (p : Bytes)
    (hside : LostCurrentOK step' c0 p) (fuel : Nat) (hfuel : fuel > es.length) :
    collect (PrefixIter.nextRev step') fuel { cursor := c0, pre := p } [] =
      some (Spec.withPrefix es p).reverse :=
  prefix_collect_rev hsim hasc c0 pos0 hR p hside fuel hfuel

theorem C05_side_condition_def {γ : Type} (step' : γ → Op → γ × Res) (c0 : γ) (p : Bytes) :
    LostCurrentOK step' c0 p ↔
      ∀ np c1, advanceKey p = some np → step' c0 (.le np) = (c1, .ok none) →
        ∃ c2 r, step' c1 .current = (c2, .ok r) ∧ ∀ e, r = some e → p.isPrefixOf e.1 = false :=
  Iff.rfl

/-- The side condition is necessary: it follows from the conclusion of `C05_prefix_rev_refines`
    (for any non-zero fuel). -/
theorem C05_side_condition_necessary {γ : Type} (es : List Entry) (hasc : StrictAsc es)
    (step' : γ → Op → γ × Res) (R : γ → Spec.Pos → Prop) (hsim : Sim es step' R)
    (c0 : γ) (pos0 : Spec.Pos) (hR : R c0 pos0) (p : Bytes) (fuel : Nat) (hfuel : 0 < fuel)
    (h : collect (PrefixIter.nextRev step') fuel { cursor := c0, pre := p } [] =
      some (Spec.withPrefix es p).reverse) :
    LostCurrentOK step' c0 p :=
  lostCurrentOK_of_prefix_collect_rev hsim hasc c0 pos0 hR p fuel hfuel h

/-- Sufficient: after a failed floor seek `le q`, `current()` returns nothing or an entry with
    key `≥ q` (the Rust cursor is then parked on the ceiling of `q`, whose key is `> q`). -/
theorem C05_side_condition_of_ge {γ : Type} (step' : γ → Op → γ × Res) (c0 : γ) (p : Bytes)
    (h : ∀ q c1, step' c0 (.le q) = (c1, .ok none) →
      ∃ c2 r, step' c1 .current = (c2, .ok r) ∧ ∀ e, r = some e → q ≤ e.1) :
    LostCurrentOK step' c0 p := by
  intro np c1 hp hle
  obtain ⟨c2, r, h1, h2⟩ := h np c1 hle
  exact ⟨c2, r, h1, fun e he => not_isPrefixOf_of_advanceKey_le hp (h2 e he)⟩

/-- Sufficient: after a failed floor seek, `current()` returns nothing or any entry of the file. -/
theorem C05_side_condition_of_mem {γ : Type} (es : List Entry) (hasc : StrictAsc es)
    (step' : γ → Op → γ × Res) (R : γ → Spec.Pos → Prop) (hsim : Sim es step' R)
    (c0 : γ) (pos0 : Spec.Pos) (hR : R c0 pos0) (p : Bytes)
    (h : ∀ q c1, step' c0 (.le q) = (c1, .ok none) →
      ∃ c2 r, step' c1 .current = (c2, .ok r) ∧ ∀ e, r = some e → e ∈ es) :
    LostCurrentOK step' c0 p :=
  lostCurrentOK_of_mem hsim hasc c0 pos0 hR p h

theorem C05_side_condition_stepTotal (es : List Entry) (pos : Spec.Pos) (p : Bytes) :
    LostCurrentOK (Spec.stepTotal es) pos p :=
  lostCurrentOK_stepTotal es pos p

/-- Five entries, strictly ascending, with keys around the prefix `FF FF`. -/
def es5 : List Entry :=
  [([1], [10]), ([255, 254], [20]), ([255, 255], [30]), ([255, 255, 0], [40]),
   ([255, 255, 255, 7], [50])]

theorem es5_asc : StrictAsc es5 := by unfold StrictAsc es5; decide

/-- Four entries with keys around the prefix `02`; `advance_key [2] = [3]` is present. -/
def es4 : List Entry :=
  [([1, 255], [10]), ([2], [20]), ([2, 255], [30]), ([3], [40])]

theorem es4_asc : StrictAsc es4 := by unfold StrictAsc es4; decide

example : advanceKey [2] = some [3] := by decide
example : advanceKey [2, 255, 255] = some [3] := by decide
example : advanceKey [1, 254, 255] = some [1, 255] := by decide
example : advanceKey [255, 255] = none := by decide
example : advanceKey [] = none := by decide

-- prefix of 0xFF bytes: no upper bound, the backward iterator starts from `last`
example :
    collect (PrefixIter.next (Spec.stepTotal es5)) 6 { cursor := .fresh, pre := [255, 255] } [] =
      some [([255, 255], [30]), ([255, 255, 0], [40]), ([255, 255, 255, 7], [50])] := by decide +kernel

example :
    collect (PrefixIter.nextRev (Spec.stepTotal es5)) 6 { cursor := .fresh, pre := [255, 255] } [] =
      some [([255, 255, 255, 7], [50]), ([255, 255, 0], [40]), ([255, 255], [30])] := by decide +kernel

example :
    collect (PrefixIter.nextRev (Spec.stepTotal es5)) 6 { cursor := .fresh, pre := [255, 255] } [] =
      some (Spec.withPrefix es5 [255, 255]).reverse :=
  C05_prefix_rev es5 es5_asc _ 6 (by decide)

-- `advance_key p` present in the list: `le` lands on it and one extra `prev` is taken
example :
    collect (PrefixIter.nextRev (Spec.stepTotal es4)) 5 { cursor := .fresh, pre := [2] } [] =
      some [([2, 255], [30]), ([2], [20])] := by decide +kernel

example :
    collect (PrefixIter.next (Spec.stepTotal es4)) 5 { cursor := .fresh, pre := [2] } [] =
      some (Spec.withPrefix es4 [2]) :=
  C05_prefix es4 es4_asc _ 5 (by decide)

-- the empty prefix selects everything
example :
    collect (PrefixIter.nextRev (Spec.stepTotal es4)) 5 { cursor := .fresh, pre := [] } [] =
      some es4.reverse := by decide

-- a prefix below every key: `le (advance_key p)` fails, `current()` is consulted in position `lost`
example :
    collect (PrefixIter.nextRev (Spec.stepTotal es4)) 5 { cursor := .fresh, pre := [0] } [] =
      some [] := by decide

/-! ### the side condition cannot be dropped -/

/-- A cursor that behaves as `Spec.step` wherever the latter is specified, but whose `current()`
    in position `lost` returns a made-up entry. -/
def badStep (es : List Entry) (pos : Spec.Pos) (op : Op) : Spec.Pos × Res :=
  match pos, op with
  | .lost, .current => (.lost, .ok (some ([5, 0], [])))
  | pos, op => Spec.stepTotal es pos op

theorem badStep_sim (es : List Entry) : Sim es (badStep es) Eq := by
  intro c pos op hc
  subst hc
  by_cases h : c = .lost ∧ op = .current
  · obtain ⟨rfl, rfl⟩ := h
    exact ⟨rfl, trivial⟩
  · have : badStep es c op = Spec.stepTotal es c op := by
      unfold badStep
      split
      · exact absurd ⟨rfl, rfl⟩ h
      · rfl
    rw [this]
    exact sim_stepTotal es c c op rfl

/-- Over `badStep` the backward prefix iterator returns an entry that is not in the file. -/
example :
    collect (PrefixIter.nextRev (badStep [([7], [])])) 2 { cursor := .fresh, pre := [5] } [] =
      some [([5, 0], [])] := by decide

example : Spec.withPrefix [([7], [])] [5] = [] := by decide

example : ¬ LostCurrentOK (badStep [([7], [])]) .fresh [5] := by
  intro h
  obtain ⟨c2, r, h1, h2⟩ := h [6] .lost (by decide) (by decide)
  have hr : r = some ([5, 0], []) := by
    have : badStep [([7], [])] .lost .current = (.lost, .ok (some ([5, 0], []))) := rfl
    rw [this] at h1
    cases h1
    rfl
  exact absurd (h2 _ hr) (by decide)

end Grenad.Props.C05
