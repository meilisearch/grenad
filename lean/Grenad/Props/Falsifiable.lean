/-
  Falsifiable — the property statements are not vacuous: realistic WRONG variants of the modelled
  algorithms violate them on concrete inputs.

  Same style as `Grenad.Props.C03.C03_counterexample_pinned` (the reader cursor before the repair
  of finding F1).  Every item defines the wrong variant as a small standalone definition — a copy
  of the model function with ONE change, marked `-- CHANGED` — and a theorem proved by evaluation
  (`decide` / `decide +kernel` / `rfl`) states, on a concrete input,
    * the value the property demands (and, where cheap, that the unchanged model delivers it), and
    * the different value the wrong variant delivers.
  Nothing in `Grenad/Model` is touched and nothing here is used by any other module.
-/
import Grenad.Props.C03
import Grenad.Props.C05
import Grenad.Props.C06
import Grenad.Props.C07
import Grenad.Props.C08
import Grenad.Props.C14
import Grenad.Props.C15
import Grenad.Props.C18

namespace Grenad.Props.Falsifiable

open Grenad

/-- `Varint.encode32` with `v ≤ 2^21` instead of `v < 2^21` in the third branch: the length
    `2^21` is written in the 3-byte form, whose last byte `2^21 / 2^14 = 128` carries the
    continuation bit. -/
def encode32' (v : Nat) : Bytes :=
  if v < 2^7 then
    [UInt8.ofNat v]
  else if v < 2^14 then
    [UInt8.ofNat (v % 128 + 128), UInt8.ofNat (v / 2^7)]
  else if v ≤ 2^21 then                                                        -- CHANGED (`<`)
    [UInt8.ofNat (v % 128 + 128), UInt8.ofNat (v / 2^7 % 128 + 128), UInt8.ofNat (v / 2^14)]
  else if v < 2^28 then
    [UInt8.ofNat (v % 128 + 128), UInt8.ofNat (v / 2^7 % 128 + 128),
     UInt8.ofNat (v / 2^14 % 128 + 128), UInt8.ofNat (v / 2^21)]
  else
    [UInt8.ofNat (v % 128 + 128), UInt8.ofNat (v / 2^7 % 128 + 128),
     UInt8.ofNat (v / 2^14 % 128 + 128), UInt8.ofNat (v / 2^21 % 128 + 128),
     UInt8.ofNat (v / 2^28)]

/-- The variant differs from the model at `2^21` only by the width chosen. -/
theorem encode32'_boundary :
    Varint.encode32 (2^21) = [128, 128, 128, 1] ∧ encode32' (2^21) = [128, 128, 128] := by
  decide

/-- **C14 is falsifiable** (`C14_roundtrip`: `decode32 (encode32 v ++ rest) = some (v, |encode32 v|)`).
    Wrong variant: `encode32'` (boundary test `≤ 2^21`).  For `v = 2^21` followed by the byte `7`
    the model's encoding decodes to `(2^21, 4)`; the variant's three bytes all carry the
    continuation bit, so the decoder swallows the following byte and answers `(7·2^21, 4)` —
    neither the value nor the width (3) that was written. -/
theorem C14_falsifiable :
    Varint.decode32 (Varint.encode32 (2^21) ++ [7]) = some (2^21, (Varint.encode32 (2^21)).length) ∧
    Varint.decode32 (encode32' (2^21) ++ [7]) = some (7 * 2^21, 4) ∧
    Varint.decode32 (encode32' (2^21) ++ [7]) ≠ some (2^21, (encode32' (2^21)).length) := by
  decide

/-- With nothing after it, the variant's encoding of `2^21` is not even terminated: the decoder
    reports value 0 and width 0. -/
theorem C14_falsifiable_unterminated :
    Varint.decode32 (encode32' (2^21)) = some (0, 0) ∧
    Varint.decode32 (Varint.encode32 (2^21)) = some (2^21, 4) := by
  decide

/-- Away from the changed boundary the variant is the model (so only a statement that covers
    `v = 2^21` can tell them apart). -/
theorem encode32'_eq (v : Nat) (h : v ≠ 2^21) : encode32' v = Varint.encode32 v := by
  unfold encode32' Varint.encode32
  have : (v ≤ 2^21) = (v < 2^21) := propext ⟨fun h' => by omega, fun h' => by omega⟩
  simp only [this]

/-- `advanceKey` that cuts the prefix at its FIRST `0xFF` byte (and increments what is before it)
    instead of stripping only the TRAILING `0xFF` bytes. -/
def advanceKey' (p : Bytes) : Option Bytes :=
  (advanceRev (p.takeWhile (· ≠ 255)).reverse).map List.reverse                -- CHANGED

section
variable {γ : Type} (adv : Bytes → Option Bytes) (step : γ → Op → γ × Res)

/-- `moveOnLastPrefix` with the advance function as a parameter. -/
def moveOnLastPrefix' (c : γ) (p : Bytes) : γ × Res :=
  match adv p with
  | some np =>
    match step c (.le np) with
    | (c, .err) => (c, .err)
    | (c, .ok (some (k, _))) => if k = np then step c .prev else step c .current
    | (c, .ok none) => step c .current
  | none => step c .last

/-- `PrefixIter.nextRev` with the advance function as a parameter. -/
def nextRev' (it : PrefixIter γ) : PrefixIter γ × Res :=
  let (c, r) := if it.start then moveOnLastPrefix' adv step it.cursor it.pre else step it.cursor .prev
  let it' := { it with cursor := c, start := false }
  match r with
  | .err => (it', .err)
  | .ok (some (k, v)) => if it.pre.isPrefixOf k then (it', .ok (some (k, v))) else (it', .ok none)
  | .ok none => (it', .ok none)

end

/-- Instantiated with the model's `advanceKey` the parametrised copies ARE the model's functions. -/
theorem nextRev'_advanceKey {γ : Type} (step : γ → Op → γ × Res) :
    nextRev' advanceKey step = PrefixIter.nextRev step := rfl

/-- Four strictly ascending entries; two of them start with `01 FF 03`. -/
def esP : List Entry :=
  [([1, 255, 3], [10]), ([1, 255, 3, 5], [20]), ([1, 255, 9], [30]), ([3], [40])]

theorem esP_asc : StrictAsc esP := by unfold StrictAsc esP; decide

/-- **C05 is falsifiable** (`C05_prefix_rev`: the backward prefix iterator over the specification
    cursor collects `(Spec.withPrefix es p).reverse`).  Wrong variant: `advanceKey'`.  For the
    prefix `01 FF 03` the model computes the bound `01 FF 04` and returns both matching entries,
    last first; the variant computes `02`, the floor seek lands on `01 FF 09` — which does not
    start with the prefix — and the iteration ends at once: both entries are missed. -/
theorem C05_falsifiable :
    advanceKey [1, 255, 3] = some [1, 255, 4] ∧ advanceKey' [1, 255, 3] = some [2] ∧
    (Spec.withPrefix esP [1, 255, 3]).reverse = [([1, 255, 3, 5], [20]), ([1, 255, 3], [10])] ∧
    collect (PrefixIter.nextRev (Spec.stepTotal esP)) 5 { cursor := .fresh, pre := [1, 255, 3] } []
      = some [([1, 255, 3, 5], [20]), ([1, 255, 3], [10])] ∧
    collect (nextRev' advanceKey' (Spec.stepTotal esP)) 5 { cursor := .fresh, pre := [1, 255, 3] } []
      = some [] := by
  decide

/-- The same in the form of the negated conclusion of `C05_prefix_rev` (whose hypotheses
    `StrictAsc esP` and `fuel > esP.length` hold). -/
theorem C05_falsifiable' :
    StrictAsc esP ∧ 5 > esP.length ∧
    collect (nextRev' advanceKey' (Spec.stepTotal esP)) 5 { cursor := .fresh, pre := [1, 255, 3] } []
      ≠ some (Spec.withPrefix esP [1, 255, 3]).reverse :=
  ⟨esP_asc, by decide, by decide⟩

/-- `C05_advanceKey_spec` itself fails for the variant: `01 FF 09` lies in `[p, advanceKey' p)` but
    does not start with `p`. -/
theorem C05_advanceKey_falsifiable :
    ¬ (([1, 255, 3] : Bytes).isPrefixOf [1, 255, 9] = true ↔
        (([1, 255, 3] : Bytes) ≤ [1, 255, 9] ∧ ([1, 255, 9] : Bytes) < [2])) := by
  decide

/-- `MSrc.before` comparing keys only: the tie-break on the source index is dropped. -/
def before' (a b : MSrc) : Bool := decide (a.key < b.key)                      -- CHANGED

/-- `heapMin` over `before'`: among equal keys the LAST one of the list pops first. -/
def heapMin' : List MSrc → Option MSrc
  | [] => none
  | s :: rest =>
    match heapMin' rest with
    | none => some s
    | some m => if before' s m then some s else some m

def heapPop' (h : List MSrc) : Option (MSrc × List MSrc) :=
  match heapMin' h with
  | none => none
  | some m => some (m, h.erase m)

def popSame' (key : Bytes) : Nat → List MSrc → List MSrc → List MSrc × List MSrc
  | 0, h, acc => (acc.reverse, h)
  | fuel+1, h, acc =>
    match heapPop' h with
    | some (m, h') => if m.key = key then popSame' key fuel h' (m :: acc) else (acc.reverse, h)
    | none => (acc.reverse, h)

/-- `Merger.next` over the index-blind heap. -/
def mergerNext' (mf : MergeFn) (m : Merger) : Merger × Merger.MRes :=
  match heapPop' m.heap with
  | none => (m, .ok none)
  | some (first, h) =>
    let (same, h) := popSame' first.key (h.length + 1) h []
    let vals := first.val :: same.map MSrc.val
    let calls := (first.key, vals) :: m.calls
    match mf first.key vals with
    | none => ({ m with heap := h, calls := calls }, .mergeErr)
    | some merged =>
      let h := (first :: same).foldl advance h
      ({ heap := h, calls := calls }, .ok (some (first.key, merged)))

def mergerCollect' (mf : MergeFn) : Nat → Merger → List Entry → Option (List Entry) × Merger
  | 0, m, acc => (some acc.reverse, m)
  | fuel+1, m, acc =>
    match mergerNext' mf m with
    | (m', .ok none) => (some acc.reverse, m')
    | (m', .ok (some e)) => mergerCollect' mf fuel m' (e :: acc)
    | (m', .mergeErr) => (none, m')

def mergerRun' (mf : MergeFn) (sources : List (List Entry)) : Option (List Entry) × Merger :=
  mergerCollect' mf (Merger.totalLen sources + 1) (Merger.start sources) []

/-- Concatenation of the values: sensitive to their order. -/
def concat : Bytes → List Bytes → Bytes := fun _ vs => vs.flatten

/-- Three strictly ascending sources sharing the key `01`; key `02` is in the last two. -/
def srcs : List (List Entry) :=
  [[([1], [10])], [([1], [20]), ([2], [21])], [([1], [30]), ([2], [31]), ([3], [32])]]

theorem srcs_asc : ∀ s ∈ srcs, StrictAsc s := by unfold srcs StrictAsc; decide

/-- **C06 is falsifiable** (`C06_merge`: `(run (total mf') sources).1 = some (mergeSpec mf' sources)`,
    and `C06_calls`: values are handed to the merge function in the order the sources were added).
    Wrong variant: `before'` / `heapMin'` (ties between equal keys are not broken by the source
    index).  The specification and the model merge the values of key `01` as `10 20 30`; the
    variant hands them over as `30 20 10`. -/
theorem C06_falsifiable :
    Spec.mergeSpec concat srcs = [([1], [10, 20, 30]), ([2], [21, 31]), ([3], [32])] ∧
    (Merger.run (C06.total concat) srcs).1 = some [([1], [10, 20, 30]), ([2], [21, 31]), ([3], [32])] ∧
    (mergerRun' (C06.total concat) srcs).1 = some [([1], [30, 20, 10]), ([2], [31, 21]), ([3], [32])] ∧
    (mergerRun' (C06.total concat) srcs).2.calls.reverse =
      [([1], [[30], [20], [10]]), ([2], [[31], [21]]), ([3], [[32]])] ∧
    Spec.group srcs.flatten = [([1], [[10], [20], [30]]), ([2], [[21], [31]]), ([3], [[32]])] := by
  decide

/-- Negated conclusion of `C06_merge` for the variant (hypothesis `srcs_asc` holds). -/
theorem C06_falsifiable' :
    (mergerRun' (C06.total concat) srcs).1 ≠ some (Spec.mergeSpec concat srcs) := by
  decide

/-- `W.cutLevels` with the cut test `>` instead of `≥`: an index block whose size estimate is
    exactly the block size is left pending. -/
def cutLevels' (cd : Codec) (bs : Nat) : Nat → List BW → Bytes → List Emitted →
    Except Trap (List BW × Bytes × List Emitted)
  | 0, idx, out, log => .ok (idx, out, log)
  | i+1, idx, out, log =>
    if i + 1 < 2 then .ok (idx, out, log) else
    match idx[i+1]?, idx[i]? with
    | some cur, some parent =>
      if cur.sizeEstimate > bs then                                            -- CHANGED (`≥`)
        match cur.lastKey with
        | some lk =>
          match parent.insert lk (be64 out.length) with
          | .error t => .error t
          | .ok parent' =>
            let raw := cur.finish
            let idx' := (idx.set i parent').set (i+1) cur.reset
            cutLevels' cd bs i idx' (out ++ W.blockBytes cd raw)
              (log ++ [{ offset := out.length, level := idx.length - (i+1), raw := raw, items := cur.items }])
        | none => cutLevels' cd bs i idx out log
      else cutLevels' cd bs i idx out log
    | _, _ => .ok (idx, out, log)

/-- `W.insert` calling `cutLevels'` (otherwise unchanged). -/
def wInsert' (cd : Codec) (w : W) (k v : Bytes) : Except Trap W :=
  match w.bw.insert k v with
  | .error t => .error t
  | .ok bw =>
    let w := { w with bw := bw, count := w.count + 1 }
    let bs := w.cfg.clamped
    if bw.sizeEstimate ≥ bs then
      match bw.lastKey with
      | some lk =>
        let n := w.idx.length
        match w.idx[n - 1]? with
        | some lastIdx =>
          match lastIdx.insert lk (be64 w.out.length) with
          | .error t => .error t
          | .ok lastIdx' =>
            let raw := bw.finish
            let out := w.out ++ W.blockBytes cd raw
            let log := w.log ++ [{ offset := w.out.length, level := 0, raw := raw, items := bw.items }]
            let idx := w.idx.set (n - 1) lastIdx'
            match cutLevels' cd bs (n - 1) idx out log with                    -- CHANGED (callee)
            | .error t => .error t
            | .ok (idx, out, log) => .ok { w with bw := bw.reset, idx := idx, out := out, log := log }
        | none => .ok w
      | none => .ok w
    else .ok w

/-- `W.run.go` over `wInsert'`. -/
def wGo' (cd : Codec) (w : W) : List Entry → Except Trap W
  | [] => .ok w
  | (k, v) :: rest => match wInsert' cd w k v with
    | .error t => .error t
    | .ok w' => wGo' cd w' rest

/-- Block size `B = 36`, offset-table interval 2, 3 index levels (index writers at list positions
    0..3; positions 2 and 3 are subject to cutting).  An index block holding two 12-byte entries
    has size estimate `24 + 8 + 4 = 36 = B`. -/
def cfgB : WCfg := { blockSize := 0, minBlock := 36, interval := 2, levels := 3 }

/-- Per pending index writer (root first): number of entries held and size estimate; and per
    emitted block: level, number of entries, raw length. -/
def wSumm (r : Except Trap W) : Option (List (Nat × Nat) × List (Nat × Nat × Nat)) :=
  match r with
  | .ok w => some (w.idx.map (fun b => (b.items.length, b.sizeEstimate)),
                   w.log.map (fun e => (e.level, e.items.length, e.raw.length)))
  | .error _ => none

/-- **C15 is falsifiable** (`C15_pending`: after any number of inserts every index writer at a list
    position `≥ 2` is empty or below `B`).  Wrong variant: `cutLevels'` (cut test `>`).  After six
    entries (two data blocks emitted) the model has cut the last index writer — it is empty again
    (estimate 12) and its 36-byte block is in the log; the variant leaves it pending with two
    entries and a size estimate of exactly `B = 36`. -/
theorem C15_falsifiable_pending :
    cfgB.clamped = 36 ∧
    wSumm (W.run.go Codec.none (W.new cfgB) (C15.kvs 6)) =
      some ([(0, 12), (0, 12), (1, 24), (0, 12)], [(0, 3, 44), (0, 3, 44), (1, 2, 36)]) ∧
    wSumm (wGo' Codec.none (W.new cfgB) (C15.kvs 6)) =
      some ([(0, 12), (0, 12), (0, 12), (2, 36)], [(0, 3, 44), (0, 3, 44)]) := by
  decide +kernel

/-- Negated conclusion of `C15_pending` for the variant, literally: the writer at list position 3
    is non-empty and not below `B`. -/
theorem C15_falsifiable_pending' :
    ∃ w, wGo' Codec.none (W.new cfgB) (C15.kvs 6) = .ok w ∧
      ¬ ∀ j b, w.idx[j]? = some b → 2 ≤ j → (b.items = [] ∨ b.sizeEstimate < cfgB.clamped) := by
  have hs := C15_falsifiable_pending.2.2
  cases h : wGo' Codec.none (W.new cfgB) (C15.kvs 6) with
  | error t => rw [h] at hs; cases hs
  | ok w =>
    rw [h] at hs
    simp only [wSumm, Option.some.injEq, Prod.mk.injEq] at hs
    refine ⟨w, rfl, fun hall => ?_⟩
    -- the summary of the writers at position 3 is `(2, 36)`
    have h3 := congrArg (·[3]?) hs.1
    simp only [List.getElem?_map] at h3
    cases hb : w.idx[3]? with
    | none => rw [hb] at h3; cases h3
    | some b =>
      rw [hb] at h3
      have hw : (b.items.length, b.sizeEstimate) = (2, 36) := Option.some.inj h3
      simp only [Prod.mk.injEq] at hw
      rcases hall 3 b hb (by decide) with h0 | h0
      · rw [h0] at hw; exact absurd hw.1 (by decide)
      · rw [hw.2] at h0; exact absurd h0 (by decide)

/-- **C15 is falsifiable** (`C15_cut` / `C15_bound_strict`: a block on a cuttable level was below
    `B` before its final entry went in, hence is at most `(B - 1) + |frame of the final entry| + 8`
    bytes long).  Wrong variant: `cutLevels'`.  After nine entries the model has emitted a level-1
    index block of 2 entries and 36 bytes; the variant emits one of 3 entries and 56 bytes — without
    its final entry (a 12-byte frame, plus the 8-byte offset slot that came with it) it was 36 = `B`
    bytes, not below `B`, and `56 > (36 - 1) + 12 + 8`. -/
theorem C15_falsifiable_bound :
    wSumm (W.run.go Codec.none (W.new cfgB) (C15.kvs 9)) =
      some ([(0, 12), (0, 12), (1, 24), (1, 24)], [(0, 3, 44), (0, 3, 44), (1, 2, 36), (0, 3, 44)]) ∧
    wSumm (wGo' Codec.none (W.new cfgB) (C15.kvs 9)) =
      some ([(0, 12), (0, 12), (1, 24), (0, 12)], [(0, 3, 44), (0, 3, 44), (0, 3, 44), (1, 3, 56)]) ∧
    (BW.frame (C15.key 8) (be64 104)).length = 12 ∧
    ¬ (56 ≤ (cfgB.clamped - 1) + (BW.frame (C15.key 8) (be64 104)).length + 8) := by
  decide +kernel

/-- The block in question, with its entries: negation of the conclusion of `C15_bound_strict` for
    the (cuttable) level-1 block the variant emits. -/
theorem C15_falsifiable_bound' :
    ∃ w e, wGo' Codec.none (W.new cfgB) (C15.kvs 9) = .ok w ∧ e ∈ w.log ∧ C15.Cuttable cfgB e ∧
      12 < cfgB.clamped ∧
      ¬ ∃ ini last, e.items = ini ++ [last] ∧
          e.raw.length ≤ (cfgB.clamped - 1) + (frameOf last).length + 8 := by
  have hw : (match wGo' Codec.none (W.new cfgB) (C15.kvs 9) with
      | .ok w => w.log[3]?.map (fun e => (e.level, e.items, e.raw.length))
      | .error _ => none) =
      some (1, [(C15.key 2, be64 0), (C15.key 5, be64 52), (C15.key 8, be64 104)], 56) := by
    decide +kernel
  cases h : wGo' Codec.none (W.new cfgB) (C15.kvs 9) with
  | error t => rw [h] at hw; cases hw
  | ok w =>
    rw [h] at hw
    dsimp only at hw
    cases he : w.log[3]? with
    | none => rw [he] at hw; cases hw
    | some e =>
      rw [he] at hw
      simp only [Option.map_some, Option.some.injEq, Prod.mk.injEq] at hw
      obtain ⟨h1, h2, h3⟩ := hw
      refine ⟨w, e, rfl, List.mem_of_getElem? he, .inr ⟨by omega, by rw [h1]; decide⟩, by decide, ?_⟩
      rintro ⟨ini, last, hi, hl⟩
      rw [h2] at hi
      have hlast : last = (C15.key 8, be64 104) := by
        have := congrArg List.getLast? hi
        simp at this
        exact this.symm
      rw [hlast, h3] at hl
      exact absurd hl (by decide)

/-- `BW.insert` whose order assertion is skipped when the interval counter is 0, i.e. for the
    first key of every group of `interval` keys (as if the last key were only remembered inside
    a group). -/
def bwInsert' (w : BW) (k v : Bytes) : Except Trap BW :=
  if k.length > u32Max then .error .keyTooLong else
  if v.length > u32Max then .error .valTooLong else
  let (offsets, counter) :=
    if w.counter = w.interval then (w.offsets ++ [w.buffer.length], 0) else (w.offsets, w.counter)
  match w.lastKey with
  | some lk =>
    if counter = 0 ∨ lk < k then                                               -- CHANGED (`lk < k`)
      .ok { w with buffer := w.buffer ++ BW.frame k v, lastKey := some k,
                   offsets := offsets, counter := counter + 1, items := w.items ++ [(k, v)] }
    else .error .keyOrder
  | none =>
      .ok { w with buffer := w.buffer ++ BW.frame k v, lastKey := some k,
                   offsets := offsets, counter := counter + 1, items := w.items ++ [(k, v)] }

def bwInsertAll (ins : BW → Bytes → Bytes → Except Trap BW) (w : BW) : List Entry → Except Trap BW
  | [] => .ok w
  | (k, v) :: es =>
    match ins w k v with
    | .error t => .error t
    | .ok w' => bwInsertAll ins w' es

/-- Keys `0..7`, then `7` again. -/
def dupKvs : List Entry := (List.range 8).map (fun i => ([i.toUInt8], [])) ++ [([7], [])]

/-- **C18 is falsifiable** (`BW_insert_core` / `C18_sorted_or_trap`: an insert sequence traps with
    `keyOrder` or the block holds strictly ascending keys).  Wrong variant: `bwInsert'` (no order
    assertion when the interval counter is 0).  With interval 8, the ninth insert opens a new
    offset-table group, so the duplicate key `07` is accepted: the model traps, the variant ends
    with `items` ending in `07, 07` — not strictly ascending. -/
theorem C18_falsifiable :
    (bwInsertAll BW.insert (BW.new 8) dupKvs).toOption.map (·.items) = none ∧
    (match bwInsertAll BW.insert (BW.new 8) dupKvs with | .error t => some t | .ok _ => none)
      = some Trap.keyOrder ∧
    (bwInsertAll bwInsert' (BW.new 8) dupKvs).toOption.map (·.items) = some dupKvs ∧
    (bwInsertAll bwInsert' (BW.new 8) dupKvs).toOption.map (·.offsets) = some [0, 24] ∧
    ¬ StrictAsc dupKvs := by
  refine ⟨by decide +kernel, by decide +kernel, by decide +kernel, by decide +kernel, ?_⟩
  unfold StrictAsc dupKvs
  decide

/-- The bytes the variant would emit for that block (C18: "a writer never emits an unsorted
    block"): 47 bytes whose last two 3-byte frames both hold the key `07`. -/
theorem C18_falsifiable_bytes :
    (bwInsertAll bwInsert' (BW.new 8) dupKvs).toOption.map (fun w => w.finish.length) = some 47 ∧
    (bwInsertAll bwInsert' (BW.new 8) dupKvs).toOption.map (fun w => w.buffer.drop 21) =
      some [1, 0, 7, 1, 0, 7] := by
  decide +kernel

section
variable {β : Type}

/-- `RC.recurLevels` that positions a freshly loaded neighbouring index block with `first`
    instead of the caller's move — right for `next`, wrong for `prev` (which needs `last`). -/
def recurLevels' (ops : BlockOps β) (load : Nat → Option β) (fixF1 : Bool) (mov : Mov) :
    List (Nat × β) → List Nat → Option (List (Nat × β) × Option Entry × List Nat)
  | [], log => some ([], none, log)
  | (off, c) :: parents, log =>
    let (c', r) := ops.apply mov c
    match r with
    | some _ => some ((off, c') :: parents, ops.current c', log)
    | none =>
      match recurLevels' ops load fixF1 mov parents log with
      | none => none
      | some (parents', some e, log) =>
        match load (offOf e) with
        | none => none
        | some nc =>
          let (nc', r') := ops.first nc                                        -- CHANGED (`ops.apply mov nc`)
          some ((if fixF1 then offOf e else off, nc') :: parents', r', offOf e :: log)
      | some (parents', none, log) => some ((off, c') :: parents', none, log)

/-- `RC.recurIndex` over `recurLevels'`. -/
def recurIndex' (ops : BlockOps β) (load : Nat → Option β) (fixF1 : Bool) (mov : Mov) (c : RC β) :
    Option (RC β × Option Entry) :=
  let c1 : Option (RC β) :=
    match c.inner with
    | some _ => some c
    | none =>
      match RC.initialIndex ops load mov (c.levels + 1) c.base [] c.log with
      | none => none
      | some (inner, log) => some { c with inner := inner, log := log }
  match c1 with
  | none => none
  | some c1 =>
    match c1.inner with
    | none => some (c1, none)
    | some inner =>
      match recurLevels' ops load fixF1 mov inner.reverse c1.log with
      | none => none
      | some (rev', r, log) => some ({ c1 with inner := some rev'.reverse, log := log }, r)

/-- `RC.prev` over `recurIndex'`. -/
def rcPrev' (ops : BlockOps β) (load : Nat → Option β) (fixF1 : Bool) (c : RC β) : RC β × Res :=
  match c.cur with
  | some b =>
    match ops.prev b with
    | (b', some e) => (RC.withCur c b', .ok (some e))
    | (b', none) =>
      let c := RC.withCur c b'
      match recurIndex' ops load fixF1 .prev c with
      | none => (c, .err)
      | some (c, some e) =>
        match RC.enter load c e with
        | none => (c, .err)
        | some (c, nb) => let (nb', r) := ops.last nb; (RC.withCur c nb', .ok r)
      | some (c, none) => (c, .ok none)
  | none => RC.last ops load c

/-- `RC.next` over `recurIndex'` (for this move the change is invisible: on a fresh block cursor
    `next` IS `first`). -/
def rcNext' (ops : BlockOps β) (load : Nat → Option β) (fixF1 : Bool) (c : RC β) : RC β × Res :=
  match c.cur with
  | some b =>
    match ops.next b with
    | (b', some e) => (RC.withCur c b', .ok (some e))
    | (b', none) =>
      let c := RC.withCur c b'
      match recurIndex' ops load fixF1 .next c with
      | none => (c, .err)
      | some (c, some e) =>
        match RC.enter load c e with
        | none => (c, .err)
        | some (c, nb) => let (nb', r) := ops.first nb; (RC.withCur c nb', .ok r)
      | some (c, none) => (c, .ok none)
  | none => RC.first ops load c

end

/-- The cursor step with `prev` / `next` replaced by the variants (`first`, `last`: the model's). -/
def stepA' (s : Store) (c : RC LC) : Op → RC LC × Res
  | .prev => rcPrev' LC.ops s.load true c
  | .next => rcNext' LC.ops s.load true c
  | op => RC.stepA s true c op

/-- Run a history over the witness store of `Props/C03` (four one-entry data blocks, two
    bottom-level index blocks, `index_levels = 2`) with a given step function. -/
def runOpsWith (stp : RC LC → Op → RC LC × Res) (ops : List Op) : List Res :=
  let c0 : RC LC := { base := 300, levels := 2, inner := none, cur := none }
  (ops.foldl (fun (acc : RC LC × List Res) op =>
    let (c, r) := stp acc.1 op
    (c, acc.2 ++ [r])) (c0, [])).2

/-- **C02/C03 are falsifiable** (`C03_history`: every history on the cursor agrees with the
    specification cursor; here the backward scan `last, prev, prev, prev` must return entries
    4, 3, 2, 1).  Wrong variant: `recurLevels'` (a reloaded neighbouring index block is entered
    with `first`).  When `prev` crosses from index block `B = [d2, d3]` back into `A = [d0, d1]`,
    the variant positions `A` on its first child: the third result is entry 1 instead of entry 2,
    and the scan then ends one entry early. -/
theorem C03_falsifiable :
    (([.last, .prev, .prev, .prev] : List Op).foldl
        (fun (acc : Spec.Pos × List Spec.SRes) op =>
          let (p, r) := Spec.step C03.witnessEntries acc.1 op; (p, acc.2 ++ [r])) (.fresh, [])).2
      = [some (some (C03.e 4)), some (some (C03.e 3)), some (some (C03.e 2)), some (some (C03.e 1))] ∧
    runOpsWith (RC.stepA C03.witnessStore true) [.last, .prev, .prev, .prev]
      = [.ok (some (C03.e 4)), .ok (some (C03.e 3)), .ok (some (C03.e 2)), .ok (some (C03.e 1))] ∧
    runOpsWith (stepA' C03.witnessStore) [.last, .prev, .prev, .prev]
      = [.ok (some (C03.e 4)), .ok (some (C03.e 3)), .ok (some (C03.e 1)), .ok none] := by
  decide

/-- Forward scans do not expose the variant (so a property about `next` alone would not). -/
theorem C03_variant_forward_ok :
    runOpsWith (stepA' C03.witnessStore) [.first, .next, .next, .next, .next]
      = [.ok (some (C03.e 1)), .ok (some (C03.e 2)), .ok (some (C03.e 3)), .ok (some (C03.e 4)),
         .ok none] := by
  decide

/-- Negated conclusion of `C03_history` for the variant (its hypothesis is
    `C03.witness_fileOK`): the third result disagrees with the specification cursor. -/
theorem C03_falsifiable' :
    FileOK C03.witnessStore 300 2 C03.witnessEntries ∧
    ¬ Spec.Agree ((runOpsWith (stepA' C03.witnessStore) [.last, .prev, .prev]).getD 2 .err)
        (Spec.step C03.witnessEntries (.at 2) .prev).2 :=
  ⟨C03.witness_fileOK, by decide⟩

/-- `Sorter.writeChunk` that takes `entriesLen = 0` to mean "nothing is pending" and returns
    without writing a chunk.  (`entriesLen` counts key and value BYTES; the number of pending
    entries is `boundsCount`.) -/
def writeChunk' (mf : MergeFn) (s : Sorter) : Except Sorter.SErr Sorter :=
  if s.entries.entriesLen = 0 then .ok s else                                  -- CHANGED (added)
  Sorter.writeChunkWith mf s (Sorter.sortStable s.entries.items)

/-- `Sorter.finishChunks` over `writeChunk'`. -/
def finishChunks' (mf : MergeFn) (s : Sorter) : Except Sorter.SErr Sorter :=
  match writeChunk' mf s with
  | .error e => .error e
  | .ok s =>
    match s.entries.drop with
    | .error t => .error (.trap t)
    | .ok (e, ev) => .ok { s with entries := e, events := s.events ++ ev }

/-- `Sorter.finish` over `finishChunks'`. -/
def finish' (mf : MergeFn) (s : Sorter) : Except Sorter.SErr (List Entry × Sorter) :=
  match finishChunks' mf s with
  | .error e => .error e
  | .ok s =>
    match Merger.run mf s.chunks with
    | (none, _) => .error .merge
    | (some out, m) => .ok (out, { s with calls := s.calls ++ m.calls.reverse })

/-- `C07.runAll` ending with `finish'` (the inserts are the model's). -/
def runAll' (mf : MergeFn) : Sorter → List Entry → Except Sorter.SErr (List Entry × Sorter)
  | s, [] => finish' mf s
  | s, (k, v) :: r =>
    match Sorter.insert mf s k v with
    | .error e => .error e
    | .ok s' => runAll' mf s' r

/-- **C07 is falsifiable** (`C07_stable` / `C07_total`: the run returns
    `(Spec.group kvs).map (fun (k, vs) => (k, mf' k vs))`).  Wrong variant: `writeChunk'` (the
    flush is skipped when `entriesLen = 0`).  Insert the single pair (empty key, empty value): it
    occupies one bound and zero entry bytes.  The specification — and the model, by `C07_total` —
    return that one pair; the variant returns nothing. -/
theorem C07_falsifiable :
    (Spec.group [([], [])]).map (fun (k, vs) => (k, C07.exConcat k vs)) = [([], [])] ∧
    (∃ s0 sfin, Sorter.new C07.exCfg = .ok s0 ∧
      C07.runAll (tot C07.exConcat) s0 [([], [])] = .ok ([([], [])], sfin)) ∧
    (runAll' (tot C07.exConcat) C07.exS0 [([], [])]).toOption.map (·.1) = some [] := by
  refine ⟨by decide, ?_, by decide +kernel⟩
  obtain ⟨s0, out, sfin, hnew, hrun, hout⟩ :=
    C07.C07_total C07.exConcat C07.exConcat_law C07.exCfg [([], [])] (by decide) (by decide)
      (by decide) (by decide)
  have : out = [([], [])] := by rw [hout]; decide
  subst this
  exact ⟨s0, sfin, hnew, hrun⟩

/-- What the variant saw: one pending entry (`boundsCount = 1`) of zero bytes. -/
theorem C07_falsifiable_state :
    (Sorter.insert (tot C07.exConcat) C07.exS0 [] []).toOption.map
      (fun s => (s.entries.entriesLen, s.entries.boundsCount, s.entries.items)) =
      some (0, 1, [([], [])]) := by
  decide +kernel

/-- `Sorter.insert` whose chunk-merge trigger is `chunks.length = max_nb_chunks` instead of
    `≥`. -/
def sInsert' (mf : MergeFn) (s : Sorter) (k v : Bytes) : Except Sorter.SErr Sorter :=
  match s.entries.fits k v with
  | .error t => .error (.trap t)
  | .ok fit =>
    let thresholdExceeded := decide (s.entries.bufLen ≥ s.cfg.budget)
    if fit || (!thresholdExceeded && s.cfg.allowRealloc) then
      match s.entries.insert k v 64 with
      | .error t => .error (.trap t)
      | .ok (e, ev) => .ok { s with entries := e, events := s.events ++ ev }
    else
      match Sorter.writeChunk mf s with
      | .error e => .error e
      | .ok s =>
        match s.entries.insert k v 64 with
        | .error t => .error (.trap t)
        | .ok (e, ev) =>
          let s := { s with entries := e, events := s.events ++ ev }
          if s.chunks.length = s.cfg.maxNb then Sorter.mergeChunks mf s else .ok s   -- CHANGED (`≥`)

/-- `sInsert'` with the pending entries written in insertion order (the counterpart of
    `Sorter.insertW` in `Proofs/SorterSortedRun`): `List.mergeSort` is defined by well-founded
    recursion and does not evaluate in the kernel. -/
def sInsertW' (mf : MergeFn) (s : Sorter) (k v : Bytes) : Except Sorter.SErr Sorter :=
  match s.entries.fits k v with
  | .error t => .error (.trap t)
  | .ok fit =>
    let thresholdExceeded := decide (s.entries.bufLen ≥ s.cfg.budget)
    if fit || (!thresholdExceeded && s.cfg.allowRealloc) then
      match s.entries.insert k v 64 with
      | .error t => .error (.trap t)
      | .ok (e, ev) => .ok { s with entries := e, events := s.events ++ ev }
    else
      match Sorter.writeChunkWith mf s s.entries.items with
      | .error e => .error e
      | .ok s =>
        match s.entries.insert k v 64 with
        | .error t => .error (.trap t)
        | .ok (e, ev) =>
          let s := { s with entries := e, events := s.events ++ ev }
          if s.chunks.length = s.cfg.maxNb then Sorter.mergeChunks mf s else .ok s   -- CHANGED (`≥`)

/-- On key-sorted pending entries the stable sort is the identity. -/
theorem sInsert'_eq_sInsertW' {mf : MergeFn} {s : Sorter} (k v : Bytes)
    (h : Sorter.KeySorted s.entries.items) : sInsert' mf s k v = sInsertW' mf s k v := by
  unfold sInsert' sInsertW' Sorter.writeChunk
  rw [Sorter.sortStable_of_sorted h]

def sInsertAll (ins : Sorter → Bytes → Bytes → Except Sorter.SErr Sorter) :
    Sorter → List Entry → Except Sorter.SErr Sorter
  | s, [] => .ok s
  | s, (k, v) :: r =>
    match ins s k v with
    | .error e => .error e
    | .ok s' => sInsertAll ins s' r

theorem sInsertW'_items {mf : MergeFn} {s s' : Sorter} {k v : Bytes}
    (h : sInsertW' mf s k v = .ok s') :
    s'.entries.items = s.entries.items ++ [(k, v)] ∨ s'.entries.items = [(k, v)] := by
  unfold sInsertW' at h
  split at h; · cases h
  dsimp only at h
  split at h
  · split at h
    · cases h
    · rename_i e ev hi
      cases h
      exact .inl (Grenad.insert_items _ _ _ _ _ _ hi)
  · split at h
    · cases h
    · rename_i s1 hw
      have h1 : s1.entries.items = [] := by
        unfold Sorter.writeChunkWith at hw
        split at hw
        · cases hw
        · cases hw; rfl
      split at h
      · cases h
      · rename_i e ev hi
        have h2 := Grenad.insert_items _ _ _ _ _ _ hi
        rw [h1] at h2
        right
        split at h
        · unfold Sorter.mergeChunks at h
          split at h
          · cases h
          · cases h; exact h2
        · cases h; exact h2

/-- On a key-sorted input a whole run of `sInsert'` is the kernel-evaluable run of `sInsertW'`. -/
theorem sInsertAll_eq (mf : MergeFn) : ∀ (l : List Entry) (s : Sorter),
    Sorter.KeySorted (s.entries.items ++ l) →
    sInsertAll (sInsert' mf) s l = sInsertAll (sInsertW' mf) s l := by
  intro l
  induction l with
  | nil => intro s _; rfl
  | cons kv l ih =>
    intro s hs
    obtain ⟨k, v⟩ := kv
    have h1 : Sorter.KeySorted s.entries.items := (List.pairwise_append.mp hs).1
    simp only [sInsertAll, sInsert'_eq_sInsertW' k v h1]
    cases hi : sInsertW' mf s k v with
    | error e => rfl
    | ok s1 =>
      apply ih
      rcases sInsertW'_items hi with e | e
      · rw [e]; simpa [List.append_assoc] using hs
      · rw [e]; exact (List.pairwise_append.mp hs).2.1

/-- 64-byte buffer that may not grow (three 18-byte entries fit), `max_nb_chunks = 1`. -/
def cfg1 : SCfg :=
  { threshold := 64, minMemory := 64, initialSize := 64, allowRealloc := false, maxChunks := 1 }

def s1 : Sorter :=
  { cfg := cfg1, entries := { bufLen := 64, entriesLen := 0, boundsCount := 0, items := [] },
    chunks := [], events := [.alloc 64], calls := [] }

theorem s1_new : Sorter.new cfg1 = .ok s1 := rfl

/-- Sixteen one-byte keys in increasing order: five spills. -/
def kv16 : List Entry := (List.range 16).map (fun i => ([i.toUInt8], [0]))

theorem kv16_sorted : Sorter.KeySorted kv16 := by unfold Sorter.KeySorted; decide +kernel

/-- Number of chunks held, `create` events, `dropChunk` events. -/
def sSumm (r : Except Sorter.SErr Sorter) : Option (Nat × Nat × Nat) :=
  match r with
  | .ok s => some (s.chunks.length, Grenad.creates s.events, Grenad.drops s.events)
  | .error _ => none

/-- **C08 is falsifiable** (`C08_chunks`: at most `max (max_nb_chunks - 1) 1` chunks are held
    between calls and never more than `max_nb_chunks + 2` chunk handles are alive).  Wrong variant:
    `sInsert'` (merge trigger `=`).  With `max_nb_chunks = 1` the first spill triggers a merge
    (1 = 1), every later one finds 2, 3, … chunks and never does.  After sixteen inserts the model
    holds 1 chunk (10 creates, 9 drops); the variant holds 5 chunks, all alive (6 creates,
    1 drop): `5 > max_nb_chunks + 2 = 3`. -/
theorem C08_falsifiable :
    cfg1.maxNb + 2 = 3 ∧
    sSumm (sInsertAll (Sorter.insert C08.mfC) s1 kv16) = some (1, 10, 9) ∧
    sSumm (sInsertAll (sInsert' C08.mfC) s1 kv16) = some (5, 6, 1) := by
  have e1 : sInsertAll (Sorter.insert C08.mfC) s1 kv16 = Sorter.insertAllW C08.mfC s1 kv16 := by
    have : sInsertAll (Sorter.insert C08.mfC) = Sorter.insertAll C08.mfC := by
      funext s l
      induction l generalizing s with
      | nil => rfl
      | cons kv l ih =>
        obtain ⟨k, v⟩ := kv
        simp only [sInsertAll, Sorter.insertAll]
        cases Sorter.insert C08.mfC s k v with
        | error e => rfl
        | ok s' => exact ih s'
    rw [this]
    exact (Sorter.insertAll_eq_insertAllW (P := fun _ _ => True) (.new s1_new) kv16
      (fun _ _ => trivial) kv16_sorted).1
  rw [e1, sInsertAll_eq C08.mfC kv16 s1 kv16_sorted]
  decide +kernel

/-- Negated conclusion of `C08_chunks` for the variant: the state reached holds more than
    `max (max_nb_chunks - 1) 1` chunks, and on the whole event sequence (a prefix of itself)
    `creates > drops + (max_nb_chunks + 2)`. -/
theorem C08_falsifiable' :
    ∃ s, sInsertAll (sInsert' C08.mfC) s1 kv16 = .ok s ∧
      ¬ (s.chunks.length ≤ max (cfg1.maxNb - 1) 1) ∧
      ¬ (∀ p, p <+: s.events →
          Grenad.creates p ≤ Grenad.drops p + (cfg1.maxNb + 2) ∧ Grenad.drops p ≤ Grenad.creates p) := by
  have h := C08_falsifiable.2.2
  cases hs : sInsertAll (sInsert' C08.mfC) s1 kv16 with
  | error e => rw [hs] at h; cases h
  | ok s =>
    rw [hs] at h
    simp only [sSumm, Option.some.injEq, Prod.mk.injEq] at h
    obtain ⟨h1, h2, h3⟩ := h
    refine ⟨s, rfl, by rw [h1]; decide, fun hall => ?_⟩
    have := (hall s.events (List.prefix_refl _)).1
    rw [h2, h3] at this
    exact absurd this (by decide)

end Grenad.Props.Falsifiable

section Axioms
open Grenad.Props.Falsifiable
#print axioms C14_falsifiable
#print axioms C05_falsifiable
#print axioms C06_falsifiable
#print axioms C15_falsifiable_pending
#print axioms C15_falsifiable_pending'
#print axioms C15_falsifiable_bound
#print axioms C15_falsifiable_bound'
#print axioms C18_falsifiable
#print axioms C03_falsifiable
#print axioms C03_falsifiable'
#print axioms C07_falsifiable
#print axioms C08_falsifiable
#print axioms C08_falsifiable'
end Axioms
