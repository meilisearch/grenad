/-
  C16 — I/O per cursor operation is bounded by the index depth.

  One block load = one `seek(Start(off))` + one block read; the reader-cursor model records each in
  `RC.log`.  All bounds below are *structural*: they hold for every in-block cursor implementation
  `ops`, every loader `load` (hence every file, well-formed or not, of any size and any number of
  entries) and every state satisfying the shape invariant `Shape` (an initialised index cursor
  holds `levels + 1` per-level cursors), which holds initially and is preserved.

  Proofs: `Grenad/Proofs/Loads.lean`.
-/
import Grenad.Proofs.Loads
import Grenad.Props.C03

namespace Grenad.Props.C16

open Grenad

variable {β : Type}

/-- The shape invariant holds of a freshly opened cursor (and so does the reachable-state
    condition `Reach`). -/
theorem C16_shape_new (m : Meta.Meta) : Shape (RC.new m : RC β) ∧ Reach (RC.new m : RC β) :=
  ⟨shape_new m, reach_new m⟩

/-- **C16 (loads).** One public cursor operation loads at most `2 * (levels + 2)` blocks, never
    un-logs a load, preserves the shape invariant and leaves `levels` and `base` unchanged.
    Nothing is assumed of `ops`, `load` (the file) or the key being looked up. -/
theorem C16_loads (ops : BlockOps β) (load : Nat → Option β) (fixF1 : Bool) (c : RC β) (op : Op)
    (hs : Shape c) :
    (RC.step ops load fixF1 c op).1.log.length - c.log.length ≤ 2 * (c.levels + 2) ∧
    c.log.length ≤ (RC.step ops load fixF1 c op).1.log.length ∧
    Shape (RC.step ops load fixF1 c op).1 ∧
    (RC.step ops load fixF1 c op).1.levels = c.levels ∧
    (RC.step ops load fixF1 c op).1.base = c.base := by
  have h := step_post ops load fixF1 c op hs
  exact ⟨h.ext.log.length_le.2, h.ext.log.length_le.1, h.shape, h.ext.levels, h.ext.base⟩

/-- The log only grows at the front: the new log is the old one with the newly loaded offsets
    pushed in front (so `log.length` differences do count loads). -/
theorem C16_log_extends (ops : BlockOps β) (load : Nat → Option β) (fixF1 : Bool) (c : RC β)
    (op : Op) (hs : Shape c) :
    ∃ pre : List Nat, (RC.step ops load fixF1 c op).1.log = pre ++ c.log ∧
      pre.length ≤ Op.loadBound c.levels op :=
  (step_spec ops load fixF1 c op hs).ext.log

/-- **Tight per-operation bounds** (`Op.loadBound`): `first`/`last`/`ge`/`eq` ≤ `levels + 2`
    (`levels + 1` index blocks and one data block); `next`/`prev` ≤ `2 * levels + 2`;
    `le` ≤ `2 * levels + 4` (`ge`, then `prev` or `last`); `reset`/`current` load nothing. -/
theorem C16_loads_per_op (ops : BlockOps β) (load : Nat → Option β) (fixF1 : Bool) (c : RC β)
    (op : Op) (hs : Shape c) :
    (RC.step ops load fixF1 c op).1.log.length - c.log.length ≤ Op.loadBound c.levels op :=
  (step_spec ops load fixF1 c op hs).ext.log.length_le.2

/-- From a reachable state (`Reach`: a data block is held only under an initialised index
    cursor) `next`/`prev` load at most `levels + 2` blocks, and `Reach` is preserved.
    (`Op.loadBoundReach`.) -/
theorem C16_loads_per_op_reach (ops : BlockOps β) (load : Nat → Option β) (fixF1 : Bool)
    (c : RC β) (op : Op) (hs : Shape c) (hr : Reach c) :
    (RC.step ops load fixF1 c op).1.log.length - c.log.length ≤ Op.loadBoundReach c.levels op ∧
    Reach (RC.step ops load fixF1 c op).1 :=
  let h := step_spec_reach ops load fixF1 c op hs hr
  ⟨h.ext.log.length_le.2, h.reach hr⟩

/-- `next`/`prev` with a data block held under an initialised index cursor (the normal case of
    an iteration): at most `levels` index blocks are reloaded, plus one data block. -/
theorem C16_loads_iteration (ops : BlockOps β) (load : Nat → Option β) (fixF1 : Bool) (c : RC β)
    (hs : Shape c) (hi : c.inner.isSome) (hc : c.cur.isSome) :
    (c.next ops load fixF1).1.log.length - c.log.length ≤ c.levels + 1 ∧
    (c.prev ops load fixF1).1.log.length - c.log.length ≤ c.levels + 1 :=
  ⟨((RC.next_eq ops load fixF1 c ▸ rel_spec ops load fixF1 .next c hs).held hi hc).log.length_le.2,
   ((RC.prev_eq ops load fixF1 c ▸ rel_spec ops load fixF1 .prev c hs).held hi hc).log.length_le.2⟩

/-- **C16 (histories).** Over any history of operations from a freshly opened cursor, every
    single step loads at most `2 * (index_levels + 2)` blocks.  The bound mentions neither the
    number of entries, nor the file size, nor the length of the history, nor the keys looked up:
    it depends on the index depth recorded in the metadata only. -/
theorem C16_history (ops : BlockOps β) (load : Nat → Option β) (fixF1 : Bool) (m : Meta.Meta)
    (hist : List Op) :
    (RC.loadCounts ops load fixF1 (RC.new m) hist).length = hist.length ∧
    ∀ n ∈ RC.loadCounts ops load fixF1 (RC.new m) hist, n ≤ 2 * (m.levels + 2) :=
  ⟨loadCounts_length ops load fixF1 hist _, loadCounts_le ops load fixF1 (RC.new m) (shape_new m) hist⟩

/-- The same, stated on states: the `i`-th step of the history goes from `p.1` to `p.2`. -/
theorem C16_history_states (ops : BlockOps β) (load : Nat → Option β) (fixF1 : Bool)
    (m : Meta.Meta) (hist : List Op) :
    ∀ p ∈ RC.runStates ops load fixF1 (RC.new m) hist,
      p.2.log.length - p.1.log.length ≤ 2 * (m.levels + 2) ∧ p.1.log.length ≤ p.2.log.length ∧
      p.1.levels = m.levels ∧ p.2.levels = m.levels := by
  intro p hp
  obtain ⟨a, d⟩ := runStates_spec ops load fixF1 hist (RC.new m) (shape_new m) p hp
  exact ⟨d.ext.log.length_le.2, d.ext.log.length_le.1, a, d.ext.levels.trans a⟩

/-- **C16 (open).** Opening a file issues at most 2 seeks and reads at most 22 bytes, all within
    the last 22 bytes of the file (and within the file), whatever the bytes. -/
theorem C16_open (b : Bytes) :
    (Meta.openIO b).1 ≤ 2 ∧ (Meta.openIO b).2.1 ≤ 22 ∧ (Meta.openIO b).2.2 ≤ 22 ∧
    (Meta.openIO b).2.2 ≤ b.length ∧ (Meta.openIO b).2.1 ≤ (Meta.openIO b).2.2 + 4 := by
  unfold Meta.openIO
  simp only
  repeat' split
  all_goals (dsimp only; omega)

open Grenad.Props.C03 (witnessStore e)

/-- A fresh cursor over the two-level witness file of C03. -/
def c0 : RC LC := { base := 300, levels := 2, inner := none, cur := none }

example : Shape c0 ∧ Reach c0 := ⟨(by intro l h; cases h), (by intro h; cases h)⟩

/-- On a well-formed file (`levels = 2`): `first` costs `levels + 2 = 4` (attained, twice: the
    second `first` reloads every index block because `initial_index_blocks` records the *child*
    offset next to each cursor), `next` costs at most `levels + 1 = 3`. -/
example :
    RC.loadCounts LC.ops witnessStore.load true c0
      [.first, .first, .next, .next, .first, .le [9], .le [2, 5], .prev, .last, .ge [1], .eq [3],
       .reset, .current, .next]
    = [4, 4, 1, 2, 2, 2, 3, 1, 2, 2, 2, 0, 0, 4] := by decide +kernel

/-- A malformed file whose index over-claims (`[9]` for a block whose last key is `[4]`). -/
def badStore : Store
  | 30 => some [e 4]
  | 110 => some [([9], be64 30)]
  | 200 => some [([9], be64 110)]
  | 300 => some [([9], be64 200)]
  | _ => none

/-- The uniform bound `2 * (levels + 2) = 8` is attained: `le [7]` = `ge [7]` (3 index blocks,
    1 data block, in-block answer `None`) then `last` (3 index blocks reloaded, 1 data block). -/
example : RC.loadCounts LC.ops badStore.load true c0 [.le [7], .le [7]] = [8, 2] := by decide +kernel

example : (RC.run LC.ops badStore.load true c0 [.le [7]]).2 = [.ok (some (e 4))] := by decide +kernel

/-- A well-formed chain: every index block below the root has a single entry. -/
def chainStore : Store
  | 0 => some [e 1] | 10 => some [e 2]
  | 100 => some [([1], be64 0)] | 101 => some [([2], be64 10)]
  | 200 => some [([1], be64 100)] | 201 => some [([2], be64 101)]
  | 300 => some [([1], be64 200), ([2], be64 201)]
  | _ => none

/-- `next`/`prev` across a root-level boundary: `levels + 1 = 3` loads (attained). -/
example : RC.loadCounts LC.ops chainStore.load true c0 [.first, .next, .prev] = [4, 3, 3] := by
  decide +kernel

/-- A state allowed by `Shape` but not reachable (data block held, index cursor not
    initialised): `next` costs `2 * levels + 2 = 6` loads — `Op.loadBound` is attained, and still
    below the uniform bound. -/
def odd : RC LC :=
  { base := 300, levels := 2, inner := none, cur := some { es := [e 1], pos := some 0 } }

example : Shape odd ∧ ¬ Reach odd := ⟨(by intro l h; cases h), (fun h => by simpa [odd] using h rfl)⟩

example : RC.loadCounts LC.ops chainStore.load true odd [.next] = [6] := by decide +kernel

/-- `openIO` on a 22-byte V2 trailer: 2 seeks, 22 bytes, lowest offset-from-end 22. -/
example : Meta.openIO (Meta.encode { version := 2, root := 0, codec := 0, count := 0, levels := 3 })
    = (2, 22, 22) := by decide

end Grenad.Props.C16
