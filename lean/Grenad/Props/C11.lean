/-
  C11 — Results and emitted bytes do not depend on how I/O calls are split or interrupted.

  The I/O layer (`Grenad.Model.IO`) answers every `write` / `read` call from a schedule: partial
  acceptance of any size, `Interrupted`, or a fault.  The theorems below say that for every
  schedule without faults the bytes that reach the sink, the `CountWrite` counter, the bytes a
  `read_exact` / `take(..).read_to_end` delivers, and therefore every block the reader loads, are
  the same — those of the pure definitions the rest of the model is built on.
-/
import Grenad.Proofs.IOProofs
import Grenad.Proofs.Wave3IO
import Grenad.Proofs.MetaIOProofs

namespace Grenad.Props.C11

open Grenad Grenad.IOM

/-- `write_all`: whatever the split into partial writes and interruptions, exactly `buf` is
    appended, `count` advances by `buf.length`, no error (an exhausted schedule accepts
    everything). -/
theorem writeAll_indep (buf : Bytes) (s : Sink) (sch : List WResp) (hff : WFaultFree sch) :
    let r := writeAll buf s sch
    r.2.2 = none ∧ r.1.data = s.data ++ buf ∧ r.1.count = s.count + buf.length := by
  obtain ⟨h1, h2, h3, _⟩ := writeAll_ff hff buf s
  exact ⟨h1, h2, h3⟩

/-- A sequence of `write_all` calls: the sink receives exactly the concatenation. -/
theorem writeMany_indep (bufs : List Bytes) (s : Sink) (sch : List WResp) (hff : WFaultFree sch) :
    let r := writeMany bufs s sch
    r.2.2 = none ∧ r.1.data = s.data ++ bufs.flatten ∧
      r.1.count = s.count + bufs.flatten.length := by
  obtain ⟨h1, h2, h3, _⟩ := writeMany_ff hff bufs s
  exact ⟨h1, h2, h3⟩

/-- Two fault-free schedules are indistinguishable from the sink's contents and counter. -/
theorem writeMany_indep₂ (bufs : List Bytes) (s : Sink) (sch₁ sch₂ : List WResp)
    (h₁ : WFaultFree sch₁) (h₂ : WFaultFree sch₂) :
    (writeMany bufs s sch₁).1 = (writeMany bufs s sch₂).1 ∧
    (writeMany bufs s sch₁).2.2 = (writeMany bufs s sch₂).2.2 := by
  obtain ⟨a1, a2, a3, _⟩ := writeMany_ff h₁ bufs s
  obtain ⟨b1, b2, b3, _⟩ := writeMany_ff h₂ bufs s
  refine ⟨?_, by rw [a1, b1]⟩
  cases h : (writeMany bufs s sch₁).1
  cases h' : (writeMany bufs s sch₂).1
  simp_all

/-- The offsets recorded in index entries: under any fault-free schedule, writing
    `bufs₁ ++ bufs₂` is writing `bufs₁`, then `bufs₂` on the remaining schedule, and at the
    point in between (where the writer reads `CountWrite::count` to record the offset of the next
    block) the counter equals the total length of the buffers written so far — even when the
    sink accepted them in arbitrarily small pieces. -/
theorem C11_writer_count (bufs₁ bufs₂ : List Bytes) (s : Sink) (sch : List WResp)
    (hff : WFaultFree sch) :
    let mid := writeMany bufs₁ s sch
    writeMany (bufs₁ ++ bufs₂) s sch = writeMany bufs₂ mid.1 mid.2.1 ∧
    mid.2.2 = none ∧
    mid.1.count = s.count + bufs₁.flatten.length ∧
    mid.1.data = s.data ++ bufs₁.flatten ∧
    WFaultFree mid.2.1 := by
  obtain ⟨h1, h2, h3, h4⟩ := writeMany_ff hff bufs₁ s
  exact ⟨writeMany_append_ff hff bufs₁ bufs₂ s, h1, h3, h2, h4⟩

/-- With the first `j` buffers: `count` after them is the sum of their lengths. -/
theorem C11_writer_count_take (bufs : List Bytes) (j : Nat) (sch : List WResp)
    (hff : WFaultFree sch) :
    (writeMany (bufs.take j) {} sch).1.count = ((bufs.take j).map List.length).sum ∧
    writeMany bufs {} sch =
      writeMany (bufs.drop j) (writeMany (bufs.take j) {} sch).1
        (writeMany (bufs.take j) {} sch).2.1 := by
  obtain ⟨h1, _, h3, _, _⟩ := C11_writer_count (bufs.take j) (bufs.drop j) {} sch hff
  rw [List.take_append_drop] at h1
  refine ⟨?_, h1⟩
  rw [h3, List.length_flatten]
  show 0 + _ = _
  omega

/-- `count` is the number of bytes in the sink under *every* schedule (faults included), so an
    offset read from the counter always designates the end of the bytes actually written. -/
theorem C11_count_is_length (bufs : List Bytes) (s : Sink) (sch : List WResp)
    (h : s.count = s.data.length) :
    (writeMany bufs s sch).1.count = (writeMany bufs s sch).1.data.length :=
  writeMany_count_inv sch bufs s h

/-- `read_exact(n)` with enough data: exactly the `n` bytes at `pos`, whatever the split. -/
theorem readExact_indep (data : Bytes) (n pos : Nat) (sch : List RResp) (hff : RFaultFree sch)
    (hlen : pos + n ≤ data.length) :
    let r := readExact data n pos [] sch
    r.1 = (data.drop pos).take n ∧ r.2.1 = pos + n ∧ r.2.2.2 = none := by
  obtain ⟨h1, h2, h3, _⟩ := readExact_ff hff data n pos [] hlen
  exact ⟨by simpa using h1, h2, h3⟩

/-- `read_exact(n)` with fewer than `n` bytes available: UnexpectedEof (tag 0); what was
    delivered is the true remainder of the data — never wrong bytes, never success. -/
theorem readExact_short (data : Bytes) (n pos : Nat) (sch : List RResp) (hff : RFaultFree sch)
    (hlen : data.length - pos < n) :
    let r := readExact data n pos [] sch
    r.1 = data.drop pos ∧ r.2.2.2 = some 0 := by
  obtain ⟨got, -, ho, hc⟩ := readExact_char data sch n pos [] _ _ _ _ rfl
  rcases hc with ⟨-, -, h1, -⟩ | ⟨e, -, rfl, -⟩ | ⟨t, -, -, -, hs⟩
  · omega
  · refine ⟨?_, e⟩
    rw [ho, List.nil_append, List.take_of_length_le (by rw [List.length_drop]; exact Nat.le_refl _)]
  · exact nomatch (hs.of_noFail hff).1

/-- Under *any* schedule (faults included) the bytes `read_exact` delivers are the true bytes
    `data[pos .. pos']`. -/
theorem readExact_never_wrong (data : Bytes) (n pos : Nat) (sch : List RResp) :
    let r := readExact data n pos [] sch
    r.1 = (data.drop pos).take (r.2.1 - pos) ∧ pos ≤ r.2.1 ∧ r.2.1 - pos ≤ n := by
  rcases hr : readExact data n pos [] sch with ⟨out, pos', rest, err⟩
  obtain ⟨got, rfl, ho, hc⟩ := readExact_char data sch n pos [] _ _ _ _ hr
  refine ⟨by rw [Nat.add_sub_cancel_left]; exact ho, Nat.le_add_right _ _, ?_⟩
  show pos + got - pos ≤ n
  rw [Nat.add_sub_cancel_left]
  rcases hc with ⟨-, h1, -⟩ | ⟨-, h1, h2, -⟩ | ⟨t, -, h1, -⟩
  · exact Nat.le_of_eq h1
  · exact h2 ▸ Nat.le_of_lt h1
  · exact Nat.le_of_lt h1

/-- `take(limit).read_to_end`: up to `limit` bytes or up to the end of the data. -/
theorem readToEndTake_indep (data : Bytes) (limit pos : Nat) (sch : List RResp)
    (hff : RFaultFree sch) :
    let r := readToEndTake data limit pos [] sch
    r.1 = (data.drop pos).take limit ∧ r.2.1 = pos + min limit (data.length - pos) ∧
      r.2.2.2 = none := by
  obtain ⟨h1, h2, h3, _⟩ := readToEndTake_ff hff data limit pos []
  exact ⟨by simpa using h1, h2, h3⟩

/-- `loadBodyIO` (seek, `read_u64`, `take(len).read_to_end`) agrees with the pure definition in
    `loadBlockLen`: the header is `slice? file off 8`, the body is what follows it, cut at the
    length the header announces or at the end of the file. -/
theorem C11_load (file : Bytes) (off : Nat) (sch : List RResp) (hff : RFaultFree sch) :
    (∀ hdr, slice? file off 8 = some hdr →
        (loadBodyIO file off sch).1 = some ((file.drop (off + 8)).take (beVal hdr)) ∧
        (loadBodyIO file off sch).2.2 = none) ∧
    (slice? file off 8 = none →
        (loadBodyIO file off sch).1 = none ∧ (loadBodyIO file off sch).2.2 = some 0) := by
  obtain ⟨h1, h2, _⟩ := loadBodyIO_ff hff file off
  exact ⟨h1, h2⟩

/-- The block obtained through the I/O layer is the block of the pure `loadBlock`. -/
theorem C11_reader (cd : Codec) (file : Bytes) (off : Nat) (sch : List RResp)
    (hff : RFaultFree sch) :
    ((loadBodyIO file off sch).1.bind cd.decompress |>.bind Block.parse) = loadBlock cd file off :=
  loadBlockIO_ff hff cd file off

/-- Successive loads share one schedule: what the first leaves is again fault-free, so the
    statement applies to every load of a run. -/
theorem C11_load_rest (file : Bytes) (off : Nat) (sch : List RResp) (hff : RFaultFree sch) :
    RFaultFree (loadBodyIO file off sch).2.1 :=
  (loadBodyIO_ff hff file off).2.2

/-- The cursor reaches the file only through `load`: equal loaders, equal results. -/
theorem C11_cursor_congr {β : Type} (ops : BlockOps β) (load₁ load₂ : Nat → Option β)
    (fix : Bool) (c : RC β) (op : Op) (h : ∀ off, load₁ off = load₂ off) :
    RC.step ops load₁ fix c op = RC.step ops load₂ fix c op := by
  have : load₁ = load₂ := funext h
  rw [this]

/-- Any loader that answers each request like *some* fault-free schedule-driven load is the
    pure loader `loadCursor`. -/
theorem C11_loader (cd : Codec) (file : Bytes) (load : Nat → Option BlockCursor)
    (h : ∀ off, ∃ sch, RFaultFree sch ∧ load off = (loadBlockIO cd file off sch).map BlockCursor.ofBlock) :
    ∀ off, load off = loadCursor cd file off := by
  intro off
  obtain ⟨sch, hff, e⟩ := h off
  rw [e, loadBlockIO_ff hff, loadCursor]

/-- Cursor operations over a schedule-driven reader: the same cursor state and the same result
    as over the pure loader, for every fault-free choice of schedules. -/
theorem C11_cursor (cd : Codec) (file : Bytes) (sched : Nat → List RResp)
    (hff : ∀ off, RFaultFree (sched off)) (fix : Bool) (c : RC BlockCursor) (op : Op) :
    RC.step byteOps (ioLoader cd file sched) fix c op =
      RC.step byteOps (loadCursor cd file) fix c op :=
  C11_cursor_congr _ _ _ _ _ _
    (C11_loader cd file _ (fun off => ⟨sched off, hff off, rfl⟩))

/-- Histories of cursor operations (hence range and prefix iterators, merger sources and sorter
    chunks, which are folds of `step`): schedule independent as well. -/
theorem C11_cursor_history (cd : Codec) (file : Bytes) (sched₁ sched₂ : Nat → List RResp)
    (h₁ : ∀ off, RFaultFree (sched₁ off)) (h₂ : ∀ off, RFaultFree (sched₂ off)) (fix : Bool) :
    RC.step byteOps (ioLoader cd file sched₁) fix = RC.step byteOps (ioLoader cd file sched₂) fix := by
  funext c op
  rw [C11_cursor cd file sched₁ h₁, C11_cursor cd file sched₂ h₂]

/-- Instance for the iterators of `Grenad.Model.Iter`, which take `step` as a parameter. -/
theorem C11_range_iter (cd : Codec) (file : Bytes) (sched₁ sched₂ : Nat → List RResp)
    (h₁ : ∀ off, RFaultFree (sched₁ off)) (h₂ : ∀ off, RFaultFree (sched₂ off)) (fix : Bool)
    (it : RangeIter (RC BlockCursor)) (fuel : Nat) :
    collect (RangeIter.next (RC.step byteOps (ioLoader cd file sched₁) fix)) fuel it [] =
    collect (RangeIter.next (RC.step byteOps (ioLoader cd file sched₂) fix)) fuel it [] := by
  rw [C11_cursor_history cd file sched₁ sched₂ h₁ h₂]

/-- one-byte writes -/
example : (writeAll [1, 2, 3] {} [.accept 1, .accept 1, .accept 1]).1 =
    { data := [1, 2, 3], count := 3 } := by decide
/-- `accept 0` still makes progress by one byte (a `write` returning 0 is excluded by the
    contract), oversize acceptances are clamped -/
example : (writeAll [1, 2, 3] {} [.accept 0, .accept 100]).1 =
    { data := [1, 2, 3], count := 3 } := by decide
/-- interleaved interruptions -/
example : (writeMany [[1, 2], [3], [4, 5, 6]] {}
      [.interrupted, .accept 1, .interrupted, .interrupted, .accept 1, .accept 5, .interrupted,
       .accept 2]) =
    ({ data := [1, 2, 3, 4, 5, 6], count := 6 }, [], none) := by decide
/-- the hypotheses of the theorems are satisfiable by such a schedule -/
example : WFaultFree [.interrupted, .accept 1, .interrupted, .accept 0] := by
  intro r hr t; simp at hr; rcases hr with rfl | rfl | rfl | rfl <;> simp
example : RFaultFree [.serve 1, .interrupted, .serve 3] := by
  intro r hr t; simp at hr; rcases hr with rfl | rfl | rfl <;> simp
/-- one-byte reads with interruptions -/
example : readExact [10, 11, 12, 13, 14] 3 1 [] [.serve 1, .interrupted, .serve 1, .serve 1, .serve 1] =
    ([11, 12, 13], 4, [.serve 1], none) := by simp [readExact]
/-- short data: UnexpectedEof, the bytes delivered are the true ones -/
example : readExact [10, 11, 12] 4 1 [] [.serve 1, .interrupted] = ([11, 12], 3, [], some 0) := by
  simp [readExact]
/-- `take(limit).read_to_end` stops at the end of the data -/
example : readToEndTake [10, 11, 12] 9 1 [] [.serve 1, .interrupted, .serve 7] =
    ([11, 12], 3, [], none) := by simp [readToEndTake]
/-- a block header announcing 3 bytes, loaded in 1-byte reads -/
example : (loadBodyIO ([0, 0, 0, 0, 0, 0, 0, 3, 7, 8, 9, 99])
      0 (List.replicate 20 (.serve 1))).1 = some [7, 8, 9] := by
  simp [loadBodyIO, readExact, readToEndTake, List.replicate, beVal, leVal]
/-- a family of schedules (one per block offset) satisfying the hypothesis of `C11_cursor`:
    `off` interruptions, then one-byte reads -/
example : ∀ off, RFaultFree ((fun off => List.replicate off RResp.interrupted ++
    List.replicate 64 (.serve 1)) off) := by
  intro off r hr t
  simp only [List.mem_append, List.mem_replicate] at hr
  rcases hr with ⟨_, rfl⟩ | ⟨_, rfl⟩ <;> simp
/-- the count equation of `C11_writer_count` on a sink accepting one byte at a time -/
example : (writeMany [[1, 2], [3]] {} (List.replicate 9 (.accept 1))).1.count = 3 := by decide

end Grenad.Props.C11

/-! ### The writer under an arbitrary sink schedule (`Grenad.Model.WriterIO`)

`W.writes cd log m` is the list of `write_all` calls of a complete writer run (two per emitted
block, five for the trailer); `W.runIO cd log m sch` pushes them through the sink answering from
`sch`.  `log` is the block log of `W.run`, `m` the trailer the writer wrote (= the one parsed). -/

namespace Grenad.Props.C11

open Grenad Grenad.IOM Grenad.Wave3

section
variable {cd : Codec} {cfg : WCfg} {es : List Entry} {file : Bytes} {log : List Emitted}
  {m : Meta.Meta}

/-- **C11, write side.**  The `write_all` calls of a run concatenate to the file returned by the
    pure writer, and under every fault-free schedule — whatever the split into partial writes and
    interruptions — the writer reports no error, the sink holds exactly `file` and
    `CountWrite::count` is `file.length`: the byte stream handed to the sink is a function of the
    configuration and the entries only. -/
theorem C11_writer_bytes (H : WriterHyps cd cfg es) (hrun : W.run cd cfg es = .ok (file, log))
    (hfile : file.length < 2 ^ 64) (hcount : es.length < 2 ^ 64) (hid : cd.id ≤ 5)
    (hm : Meta.parse file = .ok m) :
    (W.writes cd log m).flatten = file ∧
    ∀ sch, WFaultFree sch →
      (W.runIO cd log m sch).2.2 = none ∧ (W.runIO cd log m sch).1.data = file ∧
      (W.runIO cd log m sch).1.count = file.length := by
  have hfl := writes_flatten_run H hrun hfile hcount hid hm
  refine ⟨hfl, fun sch hff => ?_⟩
  obtain ⟨h1, h2, h3⟩ := runIO_ff cd log m hff
  exact ⟨h1, by rw [h2, hfl], by rw [h3, hfl]⟩

/-- The same without the size side conditions, for the trailer record given explicitly
    (`root` is the offset of the last block written). -/
theorem C11_writer_bytes_root (H : WriterHyps cd cfg es)
    (hrun : W.run cd cfg es = .ok (file, log)) :
    ∃ root, (W.writes cd log ⟨2, root, cd.id, es.length, cfg.levels⟩).flatten = file ∧
      ∀ sch, WFaultFree sch →
        let r := W.runIO cd log ⟨2, root, cd.id, es.length, cfg.levels⟩ sch
        r.2.2 = none ∧ r.1.data = file ∧ r.1.count = file.length := by
  obtain ⟨root, -, hf, -⟩ := run_layout H hrun
  have hfl : (W.writes cd log ⟨2, root, cd.id, es.length, cfg.levels⟩).flatten = file := by
    rw [writes_flatten _ _ _ (by simp), ← hf]
  refine ⟨root, hfl, fun sch hff => ?_⟩
  obtain ⟨h1, h2, h3⟩ := runIO_ff cd log ⟨2, root, cd.id, es.length, cfg.levels⟩ hff
  exact ⟨h1, by rw [h2, hfl], by rw [h3, hfl]⟩

/-- Two fault-free schedules cannot be told apart from the sink. -/
theorem C11_writer_indep₂ (sch₁ sch₂ : List WResp) (h₁ : WFaultFree sch₁) (h₂ : WFaultFree sch₂) :
    (W.runIO cd log m sch₁).1 = (W.runIO cd log m sch₂).1 ∧
    (W.runIO cd log m sch₁).2.2 = (W.runIO cd log m sch₂).2.2 :=
  writeMany_indep₂ _ _ _ _ h₁ h₂

/-- **C11, recorded offsets.**  Under any fault-free schedule, at the moment block number `j` of
    the log starts being written — after the first `2·j` `write_all` calls; the next two calls are
    its big-endian length prefix and its compressed body — `CountWrite::count` equals
    `log[j].offset`, the value the writer stores in the parent index entry; the sink then holds
    exactly the first `offset` bytes of the file, and the complete run is that prefix run
    continued with the remaining calls on the remaining schedule. -/
theorem C11_writer_offsets (H : WriterHyps cd cfg es) (hrun : W.run cd cfg es = .ok (file, log))
    (m : Meta.Meta) (j : Nat) (e : Emitted) (hj : log[j]? = some e) (sch : List WResp)
    (hff : WFaultFree sch) :
    let mid := writeMany ((W.writes cd log m).take (2 * j)) {} sch
    mid.2.2 = none ∧ mid.1.count = e.offset ∧ mid.1.data = file.take e.offset ∧
    WFaultFree mid.2.1 ∧
    (W.writes cd log m).drop (2 * j) =
      be64 (cd.compress e.raw).length :: cd.compress e.raw :: W.writes cd (log.drop (j + 1)) m ∧
    W.runIO cd log m sch = writeMany ((W.writes cd log m).drop (2 * j)) mid.1 mid.2.1 := by
  obtain ⟨root, -, hf, hps⟩ := run_layout H hrun
  obtain ⟨h1, h2, h3, h4, h5, h6⟩ := runIO_offsets hps m hj hff
  refine ⟨h1, h2, ?_, h4, h5, h6⟩
  rw [h3]
  obtain ⟨hsplit, -⟩ := split_at_getElem? hj
  have hoff := hps _ _ _ hsplit
  have hfm : log.flatMap (fun e => W.blockBytes cd e.raw) =
      (log.take j).flatMap (fun e => W.blockBytes cd e.raw) ++
        (log.drop j).flatMap (fun e => W.blockBytes cd e.raw) := by
    rw [← List.flatMap_append, List.take_append_drop]
  rw [hf, hoff, hfm, List.append_assoc, List.take_left]

/-- The counter value read at that moment is the prefix sum of the lengths of the calls made so
    far (`C11_writer_count_take`), whatever the schedule did to them. -/
theorem C11_writer_offsets_sum (H : WriterHyps cd cfg es)
    (hrun : W.run cd cfg es = .ok (file, log)) (m : Meta.Meta) (j : Nat) (e : Emitted)
    (hj : log[j]? = some e) :
    e.offset = (((W.writes cd log m).take (2 * j)).map List.length).sum := by
  have h := C11_writer_offsets H hrun m j e hj [] NoFail.nil
  have h' := (C11_writer_count_take (W.writes cd log m) (2 * j) [] NoFail.nil).1
  rw [← h']; exact h.2.1.symm

end

-- the instance `wxCfg`, `wxEs`, `wxFile`, `wxLog`, `wxMeta` (three entries, one index level below the
-- root) is defined in `Grenad.Proofs.Wave3IO`

/-- hypotheses of `C11_writer_bytes` / `C11_writer_offsets` hold for the instance; conclusion for
    a schedule of interruptions and tiny acceptances -/
example : (W.runIO Codec.none wxLog wxMeta
      ([.interrupted, .accept 1, .accept 0, .interrupted] ++ List.replicate 50 (.accept 3))).1.data
    = wxFile := by
  refine ((C11_writer_bytes wxHyps wxRun wxFile_lt (by decide) (by decide)
    wxParse).2 _ ?_).2.1
  intro r hr t
  simp only [List.mem_append, List.mem_replicate, List.mem_cons, List.not_mem_nil, or_false] at hr
  rcases hr with (rfl | rfl | rfl | rfl) | ⟨_, rfl⟩ <;> simp

/-- when block 3 (offset 74, the first index block) starts being written the counter reads 74 -/
example (sch : List WResp) (hff : WFaultFree sch) :
    (writeMany ((W.writes Codec.none wxLog wxMeta).take (2 * 3)) {} sch).1.count = 74 := by
  have h : wxLog[3]?.map (·.offset) = some 74 := by
    have := wxShape.2.1
    rw [← List.getElem?_map, this]; rfl
  cases he : wxLog[3]? with
  | none => rw [he] at h; cases h
  | some e =>
    rw [he] at h
    simp only [Option.map_some, Option.some.injEq] at h
    rw [← h]
    exact (C11_writer_offsets wxHyps wxRun wxMeta 3 e he sch hff).2.1

/-- the same by evaluation, with one-byte writes -/
example : (writeMany ((W.writes Codec.none wxLog wxMeta).take 6) {}
    (List.replicate 200 (.accept 1))).1.count = 74 := by
  decide +kernel

end Grenad.Props.C11

section Audit
open Grenad.Props.C11
#print axioms C11_writer_bytes
#print axioms C11_writer_bytes_root
#print axioms C11_writer_offsets
#print axioms C11_writer_offsets_sum
end Audit

/-! ### Opening a file through a scheduled source (`Grenad.Model.MetaIO`)

`Meta.parseIO b sch` is `Metadata::read_from` call by call — `seek(End(-4))`, `read_u32`,
`seek(End(-21|-22))`, `read_u64`, `read_u8`, codec check, `read_u64`, [`read_u8`] — every
`read_uN` being one `read_exact` loop answered from the schedule `sch`.  `Meta.parse b` is the
pure mirror over an in-memory cursor the rest of the model is built on. -/

namespace Grenad.Props.C11

open Grenad Grenad.IOM Grenad.Meta Grenad.MetaIO

/-- **C11, open.**  For every byte string and every fault-free schedule — reads served in pieces
    of any size, `Interrupted` answers anywhere — the open returns exactly what the pure parse
    returns (the same `Metadata` or the same error), reports no I/O fault, and leaves a
    fault-free schedule to the loads that follow. -/
theorem C11_open_indep (b : Bytes) (sch : List RResp) (hff : RFaultFree sch) :
    (parseIO b sch).1 = parse b ∧ (parseIO b sch).2.2 = none ∧ RFaultFree (parseIO b sch).2.1 :=
  parseIO_ff hff b

/-- Two fault-free schedules cannot be told apart from the result of the open. -/
theorem C11_open_indep₂ (b : Bytes) (sch₁ sch₂ : List RResp) (h₁ : RFaultFree sch₁)
    (h₂ : RFaultFree sch₂) :
    (parseIO b sch₁).1 = (parseIO b sch₂).1 ∧ (parseIO b sch₁).2.2 = (parseIO b sch₂).2.2 := by
  obtain ⟨a1, a2, _⟩ := parseIO_ff h₁ b
  obtain ⟨b1, b2, _⟩ := parseIO_ff h₂ b
  exact ⟨by rw [a1, b1], by rw [a2, b2]⟩

/-- The 22-byte V2 trailer `root = 7, codec = 5, count = 3, levels = 2`. -/
def trailerV2 : Bytes := [7, 0, 0, 0, 0, 0, 0, 0, 5, 3, 0, 0, 0, 0, 0, 0, 0, 2, 0xC4, 0xD4, 0x23, 0x67]

example : trailerV2 = encode { version := 2, root := 7, codec := 5, count := 3, levels := 2 } := by
  decide

/-- the trailer read one byte at a time, every read preceded by an interruption -/
example : parseIO trailerV2 (List.replicate 22 [RResp.interrupted, .serve 1]).flatten =
    (.ok { version := 2, root := 7, codec := 5, count := 3, levels := 2 }, [], none) := by
  simp [trailerV2, parseIO, parseIOL, readExact, List.replicate, leVal, magicV1, magicV2]

/-- the same behind 3 bytes of payload, `serve 0` (clamped to 1), oversize serves, and a schedule
    that runs out (an exhausted schedule serves everything): still the pure result, and the read
    log is the five calls of `read_from` -/
example : parseIOL ([9, 9, 9] ++ trailerV2)
      [.serve 0, .interrupted, .interrupted, .serve 100, .serve 3, .interrupted, .serve 2] =
    (.ok { version := 2, root := 7, codec := 5, count := 3, levels := 2 }, [], none,
      [(21, 4), (3, 8), (11, 1), (12, 8), (20, 1)]) := by
  simp [trailerV2, parseIOL, readExact, leVal, magicV1, magicV2]

/-- the pure parse of the same bytes -/
example : (parse trailerV2).toOption =
    some { version := 2, root := 7, codec := 5, count := 3, levels := 2 } := by decide

/-- the hypothesis of `C11_open_indep` holds for the schedule of the first example -/
example : RFaultFree (List.replicate 22 [RResp.interrupted, .serve 1]).flatten := by
  intro r hr t
  simp only [List.mem_flatten, List.mem_replicate] at hr
  obtain ⟨l, ⟨_, rfl⟩, hr⟩ := hr
  simp at hr
  rcases hr with rfl | rfl <;> simp

end Grenad.Props.C11

section AuditOpen
open Grenad.Props.C11
#print axioms C11_open_indep
#print axioms C11_open_indep₂
end AuditOpen
