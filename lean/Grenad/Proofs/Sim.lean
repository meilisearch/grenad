/-
  Grenad.Proofs.Sim — simulation lifting for the reader cursor.

  The reader cursor `RC β` is generic in the in-block cursor implementation.  If two
  implementations `ops : BlockOps β`, `ops' : BlockOps β'` are related by a simulation
  `R : β → β' → Prop` (every move keeps the cursors related and returns the same entry) and two
  loaders return related cursors at every offset, then the two reader cursors stay related
  (`RCRel R`) and return the same results, step by step and over histories.

  `OptRel`, `OpsSim`, `LoadSim`, `LvlRel`, `RCRel` are the relations of `AssemblySim.lean` (namespace
  `Grenad.Assembly`) under the names of namespace `Grenad`.  Each is equivalent to its twin
  (`OptRel_iff`, `OpsSim.toAssembly`, `LvlRel_iff`, `RCRel_iff`; the two `LoadSim` unfold to the same
  proposition), `RC.run` of `Loads.lean` is `Assembly.run` (`run_eq_assembly`), and the theorems of this file follow from
  those of `AssemblySim.lean` through these equivalences; `RC_loadCounts_sim` adds that both sides
  perform the same loads.
-/
import Grenad.Proofs.Loads
import Grenad.Proofs.AssemblySim

namespace Grenad

variable {β β' : Type}

/-- Both `none`, or both `some` and related. -/
def OptRel {α α' : Type} (R : α → α' → Prop) : Option α → Option α' → Prop
  | some a, some a' => R a a'
  | none, none => True
  | _, _ => False

@[simp] theorem OptRel_some_some {α α' : Type} (R : α → α' → Prop) (a : α) (a' : α') :
    OptRel R (some a) (some a') ↔ R a a' := Iff.rfl
@[simp] theorem OptRel_none_none {α α' : Type} (R : α → α' → Prop) :
    OptRel R (none : Option α) (none : Option α') ↔ True := Iff.rfl
@[simp] theorem OptRel_some_none {α α' : Type} (R : α → α' → Prop) (a : α) :
    OptRel R (some a) (none : Option α') ↔ False := Iff.rfl
@[simp] theorem OptRel_none_some {α α' : Type} (R : α → α' → Prop) (a' : α') :
    OptRel R (none : Option α) (some a') ↔ False := Iff.rfl

theorem OptRel_iff {α α' : Type} {R S : α → α' → Prop} (hRS : ∀ a a', R a a' ↔ S a a') :
    ∀ x x', OptRel R x x' ↔ Assembly.OptRel S x x'
  | some a, some a' => hRS a a'
  | none, none => Iff.rfl
  | some _, none => Iff.rfl
  | none, some _ => Iff.rfl

theorem OptRel.isSome_eq {α α' : Type} {R : α → α' → Prop} {x : Option α} {x' : Option α'}
    (h : OptRel R x x') : x.isSome = x'.isSome :=
  ((OptRel_iff (fun _ _ => Iff.rfl) x x').1 h).isSome_eq

/-- The in-block cursor operations of `ops` and `ops'` preserve `R` and return the same entry. -/
structure OpsSim (ops : BlockOps β) (ops' : BlockOps β') (R : β → β' → Prop) : Prop where
  current : ∀ b b', R b b' → ops.current b = ops'.current b'
  first : ∀ b b', R b b' → R (ops.first b).1 (ops'.first b').1 ∧ (ops.first b).2 = (ops'.first b').2
  last : ∀ b b', R b b' → R (ops.last b).1 (ops'.last b').1 ∧ (ops.last b).2 = (ops'.last b').2
  next : ∀ b b', R b b' → R (ops.next b).1 (ops'.next b').1 ∧ (ops.next b).2 = (ops'.next b').2
  prev : ∀ b b', R b b' → R (ops.prev b).1 (ops'.prev b').1 ∧ (ops.prev b).2 = (ops'.prev b').2
  ge : ∀ b b' q, R b b' → R (ops.ge b q).1 (ops'.ge b' q).1 ∧ (ops.ge b q).2 = (ops'.ge b' q).2

theorem OpsSim.toAssembly {ops : BlockOps β} {ops' : BlockOps β'} {R : β → β' → Prop}
    (h : OpsSim ops ops' R) : Assembly.OpsSim ops ops' R :=
  ⟨h.current, h.first, h.last, h.next, h.prev, h.ge⟩

/-- The two loaders fail at the same offsets and return related cursors elsewhere. -/
def LoadSim (load : Nat → Option β) (load' : Nat → Option β') (R : β → β' → Prop) : Prop :=
  ∀ off, match load off, load' off with
    | some b, some b' => R b b'
    | none, none => True
    | _, _ => False

/-- Per-level lists: same length, same recorded offsets, related cursors. -/
def LvlRel (R : β → β' → Prop) : List (Nat × β) → List (Nat × β') → Prop
  | [], [] => True
  | x :: l, x' :: l' => x.1 = x'.1 ∧ R x.2 x'.2 ∧ LvlRel R l l'
  | _, _ => False

@[simp] theorem LvlRel_nil (R : β → β' → Prop) : LvlRel R [] [] ↔ True := Iff.rfl
@[simp] theorem LvlRel_cons (R : β → β' → Prop) (x : Nat × β) (x' : Nat × β') (l l') :
    LvlRel R (x :: l) (x' :: l') ↔ x.1 = x'.1 ∧ R x.2 x'.2 ∧ LvlRel R l l' := Iff.rfl
@[simp] theorem LvlRel_nil_cons (R : β → β' → Prop) (x' : Nat × β') (l') :
    LvlRel R [] (x' :: l') ↔ False := Iff.rfl
@[simp] theorem LvlRel_cons_nil (R : β → β' → Prop) (x : Nat × β) (l) :
    LvlRel R (x :: l) ([] : List (Nat × β')) ↔ False := Iff.rfl

theorem LvlRel_iff (R : β → β' → Prop) :
    ∀ l l', LvlRel R l l' ↔ Assembly.LvlRel R l l'
  | [], [] => Iff.rfl
  | _ :: l, _ :: l' => and_congr_right fun _ => and_congr_right fun _ => LvlRel_iff R l l'
  | [], _ :: _ => Iff.rfl
  | _ :: _, [] => Iff.rfl

theorem LvlRel.length_eq {R : β → β' → Prop} :
    ∀ {l : List (Nat × β)} {l' : List (Nat × β')}, LvlRel R l l' → l.length = l'.length :=
  fun h => ((LvlRel_iff R _ _).1 h).length_eq

theorem LvlRel.reverse {R : β → β' → Prop} :
    ∀ {l : List (Nat × β)} {l' : List (Nat × β')}, LvlRel R l l' → LvlRel R l.reverse l'.reverse :=
  fun h => (LvlRel_iff R _ _).2 ((LvlRel_iff R _ _).1 h).reverse

theorem LvlRel_iff_getElem {R : β → β' → Prop} (l : List (Nat × β)) (l' : List (Nat × β')) :
    LvlRel R l l' ↔ l.length = l'.length ∧
      ∀ i (h : i < l.length) (h' : i < l'.length), (l[i]).1 = (l'[i]).1 ∧ R (l[i]).2 (l'[i]).2 :=
  (LvlRel_iff R l l').trans (Assembly.LvlRel_iff_getElem l l')

/-- Reader-cursor states: same base, levels and load log; related index and data cursors. -/
structure RCRel (R : β → β' → Prop) (c : RC β) (c' : RC β') : Prop where
  base : c.base = c'.base
  levels : c.levels = c'.levels
  log : c.log = c'.log
  inner : OptRel (LvlRel R) c.inner c'.inner
  cur : OptRel R c.cur c'.cur

theorem RCRel_iff (R : β → β' → Prop) (c : RC β) (c' : RC β') :
    RCRel R c c' ↔ Assembly.RCRel R c c' :=
  ⟨fun h => ⟨h.base, h.levels, h.log, (OptRel_iff (LvlRel_iff R) _ _).1 h.inner,
      (OptRel_iff (fun _ _ => Iff.rfl) _ _).1 h.cur⟩,
    fun h => ⟨h.base, h.levels, h.log, (OptRel_iff (LvlRel_iff R) _ _).2 h.inner,
      (OptRel_iff (fun _ _ => Iff.rfl) _ _).2 h.cur⟩⟩

theorem run_eq_assembly (ops : BlockOps β) (load : Nat → Option β) (fixF1 : Bool) :
    ∀ (hist : List Op) (c : RC β), RC.run ops load fixF1 c hist = Assembly.run ops load fixF1 c hist
  | [], _ => rfl
  | op :: rest, c => by
    simp only [RC.run, Assembly.run, run_eq_assembly ops load fixF1 rest]

section
variable {ops : BlockOps β} {ops' : BlockOps β'} {load : Nat → Option β}
  {load' : Nat → Option β'} {R : β → β' → Prop}

theorem RC_step_sim (hops : OpsSim ops ops' R) (hload : LoadSim load load' R) (fixF1 : Bool)
    (c : RC β) (c' : RC β') (h : RCRel R c c') (op : Op) :
    RCRel R (RC.step ops load fixF1 c op).1 (RC.step ops' load' fixF1 c' op).1 ∧
      (RC.step ops load fixF1 c op).2 = (RC.step ops' load' fixF1 c' op).2 :=
  (Assembly.RC_step_sim hops.toAssembly hload fixF1 c c' ((RCRel_iff R c c').1 h) op).imp_left
    (RCRel_iff R _ _).2

/-- **Simulation lifting, histories**: related final states, equal result lists. -/
theorem RC_run_sim (hops : OpsSim ops ops' R) (hload : LoadSim load load' R) (fixF1 : Bool)
    (hist : List Op) (c : RC β) (c' : RC β') (h : RCRel R c c') :
    RCRel R (RC.run ops load fixF1 c hist).1 (RC.run ops' load' fixF1 c' hist).1 ∧
      (RC.run ops load fixF1 c hist).2 = (RC.run ops' load' fixF1 c' hist).2 := by
  rw [run_eq_assembly, run_eq_assembly]
  exact (Assembly.RC_run_sim hops.toAssembly hload fixF1 hist c c'
    ((RCRel_iff R c c').1 h)).imp_left (RCRel_iff R _ _).2

/-- Both sides also perform the same loads, step by step. -/
theorem RC_loadCounts_sim (hops : OpsSim ops ops' R) (hload : LoadSim load load' R) (fixF1 : Bool) :
    ∀ (hist : List Op) (c : RC β) (c' : RC β'), RCRel R c c' →
      RC.loadCounts ops load fixF1 c hist = RC.loadCounts ops' load' fixF1 c' hist := by
  intro hist
  induction hist with
  | nil => intro c c' h; rfl
  | cons op rest ih =>
    intro c c' h
    obtain ⟨h1, -⟩ := RC_step_sim hops hload fixF1 c c' h op
    have := ih _ _ h1
    simp only [RC.loadCounts, RC.runStates, List.map_cons] at this ⊢
    rw [this, h1.log, h.log]

theorem RC_run_sim_new (hops : OpsSim ops ops' R) (hload : LoadSim load load' R) (fixF1 : Bool)
    (m : Meta.Meta) (hist : List Op) :
    (RC.run ops load fixF1 (RC.new m) hist).2 = (RC.run ops' load' fixF1 (RC.new m) hist).2 :=
  (RC_run_sim hops hload fixF1 hist (RC.new m) (RC.new m) ⟨rfl, rfl, rfl, trivial, trivial⟩).2

end

/-! ### A concrete instance: the hypotheses are satisfiable by two genuinely different
implementations (the abstract cursor `LC`, and `LC` instrumented with a move counter). -/

namespace SimExample

/-- `LC` with a counter of the moves performed. -/
def countedOps : BlockOps (LC × Nat) :=
  { current := fun b => b.1.current
    first := fun b => (((LC.first b.1).1, b.2 + 1), (LC.first b.1).2)
    last := fun b => (((LC.last b.1).1, b.2 + 1), (LC.last b.1).2)
    next := fun b => (((LC.next b.1).1, b.2 + 1), (LC.next b.1).2)
    prev := fun b => (((LC.prev b.1).1, b.2 + 1), (LC.prev b.1).2)
    ge := fun b q => (((LC.ge b.1 q).1, b.2 + 1), (LC.ge b.1 q).2) }

def Rc (b : LC) (b' : LC × Nat) : Prop := b = b'.1

theorem countedOps_sim : OpsSim LC.ops countedOps Rc := by
  constructor <;> intros <;> simp_all [Rc, LC.ops, countedOps]

theorem countedLoad_sim (s : Store) :
    LoadSim s.load (fun off => (s.load off).map (fun b => (b, 0))) Rc := by
  intro off
  simp only []
  generalize s.load off = x
  cases x <;> simp [Rc]

/-- Hence both cursors answer every history identically, over every store. -/
example (s : Store) (fixF1 : Bool) (m : Meta.Meta) (hist : List Op) :
    (RC.run LC.ops s.load fixF1 (RC.new m) hist).2 =
      (RC.run countedOps (fun off => (s.load off).map (fun b => (b, 0))) fixF1 (RC.new m) hist).2 :=
  RC_run_sim_new countedOps_sim (countedLoad_sim s) fixF1 m hist

end SimExample

end Grenad
