/-
  Fixed-width integers of `Model/Basic.lean`: lengths and round trips of `leN`/`beN` and of their
  32- and 64-bit instances, the bounds `leVal_lt`/`beVal_lt`, and the length of a run of `be64` values
  (`flatMap_be64_length`).  `takeWhile_spec`: `takeWhile` as the specification of a search.  The strict
  order of byte strings (lexicographic, as `&[u8]` compares): `blt_irrefl`, `blt_trans`.
-/
import Grenad.Model.Basic

namespace Grenad

theorem leN_length (n v : Nat) : (leN n v).length = n := by
  induction n generalizing v with
  | zero => rfl
  | succ n ih => simp [leN, ih]

theorem leVal_leN (n v : Nat) : leVal (leN n v) = v % 256 ^ n := by
  induction n generalizing v with
  | zero => simp [leN, leVal, Nat.mod_one]
  | succ n ih =>
    have h : (v % 256).toUInt8.toNat = v % 256 := by simp [Nat.toUInt8, UInt8.toNat_ofNat']
    simp only [leN, leVal, ih, h]
    rw [Nat.pow_succ, Nat.mul_comm (256 ^ n) 256, Nat.mod_mul]

theorem beN_length (n v : Nat) : (beN n v).length = n := by simp [beN, leN_length]

theorem beVal_beN (n v : Nat) : beVal (beN n v) = v % 256 ^ n := by
  simp [beVal, beN, leVal_leN]

@[simp] theorem be32_length (v : Nat) : (be32 v).length = 4 := beN_length 4 v
@[simp] theorem be64_length (v : Nat) : (be64 v).length = 8 := beN_length 8 v
@[simp] theorem le32_length (v : Nat) : (le32 v).length = 4 := leN_length 4 v
@[simp] theorem le64_length (v : Nat) : (le64 v).length = 8 := leN_length 8 v

theorem beVal_be32 {v : Nat} (h : v < 2 ^ 32) : beVal (be32 v) = v := by
  rw [be32, beVal_beN]; exact Nat.mod_eq_of_lt (by simpa using h)

theorem beVal_be64 {v : Nat} (h : v < 2 ^ 64) : beVal (be64 v) = v := by
  rw [be64, beVal_beN]; exact Nat.mod_eq_of_lt (by simpa using h)

theorem leVal_le32 {v : Nat} (h : v < 2 ^ 32) : leVal (le32 v) = v := by
  rw [le32, leVal_leN]; exact Nat.mod_eq_of_lt (by simpa using h)

theorem leVal_le64 {v : Nat} (h : v < 2 ^ 64) : leVal (le64 v) = v := by
  rw [le64, leVal_leN]; exact Nat.mod_eq_of_lt (by simpa using h)

theorem flatMap_be64_length (l : List Nat) : (l.flatMap be64).length = l.length * 8 := by
  induction l with
  | nil => rfl
  | cons x l ih => simp [List.flatMap_cons, ih]; omega

theorem leVal_lt : ∀ (l : List UInt8), leVal l < 256 ^ l.length
  | [] => by simp [leVal]
  | b :: bs => by
    have := leVal_lt bs
    have hb := UInt8.toNat_lt b
    simp only [leVal, List.length_cons, Nat.pow_succ]
    omega

theorem beVal_lt (l : List UInt8) : beVal l < 256 ^ l.length := by
  simpa [beVal] using leVal_lt l.reverse

/-- `takeWhile` as a specification of search: `p` holds before the length of the prefix, fails at it. -/
theorem takeWhile_spec {α : Type} (p : α → Bool) (l : List α) :
    (l.takeWhile p).length ≤ l.length ∧
    (∀ m (_ : m < (l.takeWhile p).length) (h' : m < l.length), p l[m] = true) ∧
    (∀ h : (l.takeWhile p).length < l.length, p l[(l.takeWhile p).length] = false) := by
  induction l with
  | nil => simp
  | cons a l ih =>
    by_cases hp : p a = true
    · simp only [List.takeWhile_cons, hp, if_true, List.length_cons]
      refine ⟨by omega, ?_, ?_⟩
      · intro m hm hm'
        cases m with
        | zero => simpa using hp
        | succ m => simpa using ih.2.1 m (by omega) (by simpa using hm')
      · intro h
        simpa using ih.2.2 (by omega)
    · simp only [List.takeWhile_cons, hp, List.length_cons]
      simp
      simpa using hp

theorem blt_irrefl (a : Bytes) : ¬ a < a := List.lt_irrefl a
theorem blt_trans {a b c : Bytes} (h1 : a < b) (h2 : b < c) : a < c := List.lt_trans h1 h2

end Grenad
