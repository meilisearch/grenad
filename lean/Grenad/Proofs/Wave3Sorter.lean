/-
  Grenad.Proofs.Wave3Sorter — assembly lemmas joining the merger / sorter developments
  (C06, C07, C08, C17) with the byte-level round trip (C01).

  * `RoundTrips cd cfg es`: "writing `es` with `(cd, cfg)` succeeds, and the file scans back to
    `es`" — the conclusion of `C01_roundtrip` as one proposition; `roundTrips` proves it for every
    admissible configuration and strictly ascending `es` of admissible sizes.
  * `run_isSome_of_total`: with a merge function that never fails `Merger.run` returns a result
    on ANY sources (discharges the hypothesis `hrun` of `C17_total`).
  * `Inserted mf cfg kvs s`: `s` is reached by `Sorter.new cfg` and the successful inserts of
    `kvs`, in order.  Content invariants of such states (`inserted_inv`, `inserted_chunk`),
    in particular: every chunk is `G mf' S` for some `S`, hence strictly
    ascending.
  * `Handed mf cfg kvs s'`: `s'` is `finishChunks` of such a state; its chunks are the ones
    handed out (`handed_inv`, `handed_chunk`).
  * `finish` is `finishChunks` followed by the merge of the chunks (`finish_eq`, `finalMerge`).
  * `totalize mf` (failures become `[]`): a grouping or a merge that succeeded with `mf` is the one
    of `totalize mf` (`base_totalize`), so the chunk facts hold for any merge function.
-/
import Grenad.Props.C01
import Grenad.Proofs.SorterSteps
import Grenad.Proofs.SorterSortedRun

namespace Grenad.Wave3

open Grenad Grenad.Assembly Grenad.Props.C01

/-! ### A. The byte-level round trip as one proposition -/

/-- The configuration hypotheses of `C01_roundtrip`: lawful codec with a known id, at most 255
    index levels, index key interval at least 1.  Any block size. -/
structure Admissible (cd : Codec) (cfg : WCfg) : Prop where
  lawful : cd.Lawful
  id : cd.id ≤ 5
  levels : cfg.levels ≤ 255
  interval : 1 ≤ cfg.interval

/-- The size hypotheses of `C01_roundtrip` on the input. -/
structure SizesOk (es : List Entry) : Prop where
  lens : ∀ e ∈ es, e.1.length < 2 ^ 32 ∧ e.2.length < 2 ^ 32
  count : es.length < 2 ^ 64

/-- The entries a list of cursor results carries. -/
def yielded (rs : List Res) : List Entry :=
  rs.filterMap (fun r => match r with
    | .ok (some e) => some e
    | _ => none)

theorem yielded_scan (es : List Entry) :
    yielded (es.map (fun e => Res.ok (some e)) ++ [Res.ok none]) = es := by
  induction es with
  | nil => rfl
  | cons e r ih =>
    simp only [yielded, List.map_cons, List.cons_append, List.filterMap_cons] at ih ⊢
    rw [ih]

/-- Writing `es` with `(cd, cfg)` succeeds; and if the output is smaller than `2^64` bytes and
    every block smaller than `2^32` bytes (the two output-size side conditions of
    `C01_roundtrip`), the file opens, reports `es.length` entries and the codec, `next()` ×
    `(n+1)` from the fresh cursor returns exactly `es` in order and then `None`, and `prev()` ×
    `(n+1)` returns `es` reversed and then `None`. -/
def RoundTrips (cd : Codec) (cfg : WCfg) (es : List Entry) : Prop :=
  ∃ file log, W.run cd cfg es = .ok (file, log) ∧
    (file.length < 2 ^ 64 → (∀ e ∈ log, e.raw.length < 2 ^ 32) →
      ∃ m, Meta.parse file = .ok m ∧ m.count = es.length ∧ m.codec = cd.id ∧
        scanForward cd file (es.length + 1) (RC.new m) =
          es.map (fun e => Res.ok (some e)) ++ [Res.ok none] ∧
        scanBackward cd file (es.length + 1) (RC.new m) =
          es.reverse.map (fun e => Res.ok (some e)) ++ [Res.ok none] ∧
        yielded (scanForward cd file (es.length + 1) (RC.new m)) = es)

theorem roundTrips {cd : Codec} {cfg : WCfg} {es : List Entry} (A : Admissible cd cfg)
    (hasc : StrictAsc es) (hs : SizesOk es) : RoundTrips cd cfg es := by
  obtain ⟨file, log, hrun, h⟩ :=
    C01_roundtrip cd cfg es A.lawful A.id A.levels A.interval hasc hs.lens hs.count
  refine ⟨file, log, hrun, fun h1 h2 => ?_⟩
  obtain ⟨m, hm, g1, g2, -, -, g5, g6⟩ := h h1 h2
  exact ⟨m, hm, g1, g2, g5, g6, by rw [g5, yielded_scan]⟩

/-- The same on a run that is already known (`Setting` holds all hypotheses, the output-size
    conditions included): the file opens and its cursor yields exactly `es`. -/
theorem setting_yields {cd : Codec} {cfg : WCfg} {es : List Entry} {file : Bytes}
    {log : List Emitted} (S : Setting cd cfg es file log) :
    ∃ m, Meta.parse file = .ok m ∧ m.count = es.length ∧
      scanForward cd file (es.length + 1) (RC.new m) =
        es.map (fun e => Res.ok (some e)) ++ [Res.ok none] ∧
      yielded (scanForward cd file (es.length + 1) (RC.new m)) = es := by
  obtain ⟨m, hm⟩ := C01_opens S
  obtain ⟨h1, -, -, -, h5, -⟩ := C01_roundtrip_of_run S hm
  exact ⟨m, hm, h1, h5, by rw [h5, yielded_scan]⟩

/-! ### B. A total merge function never makes the merger fail (any sources) -/

/-- With a merge function that never fails, `Merger.run` returns a result whatever the sources
    (sorted or not).  This is the hypothesis `hrun` of `C17_total`. -/
theorem run_isSome_of_total {mf : MergeFn} (hmf : ∀ k vs, (mf k vs).isSome)
    (srcs : List (List Entry)) : (Merger.run mf srcs).1.isSome :=
  Option.isSome_iff_ne_none.mpr (Merger.run_ne_none mf hmf srcs)

/-! ### C. Reachable sorter states and their chunks -/

/-- `s` is reached by `Sorter.new cfg` and the successful inserts of `kvs`, in order
    (`= Sorter.program mf cfg kvs false = .ok s`, see `inserted_iff_program`). -/
def Inserted (mf : MergeFn) (cfg : SCfg) (kvs : List Entry) (s : Sorter) : Prop :=
  ∃ s0, Sorter.new cfg = .ok s0 ∧ Sorter.insertAll mf s0 kvs = .ok s

/-- `s'` is the state after the final spill of such a run: its `chunks` are what
    `extract_reader_cursors_and_merger` hands out
    (`= Sorter.program mf cfg kvs true = .ok s'`, see `handed_iff_program`). -/
def Handed (mf : MergeFn) (cfg : SCfg) (kvs : List Entry) (s' : Sorter) : Prop :=
  ∃ s, Inserted mf cfg kvs s ∧ Sorter.finishChunks mf s = .ok s'

theorem inserted_iff_program {mf : MergeFn} {cfg : SCfg} {kvs : List Entry} {s : Sorter} :
    Inserted mf cfg kvs s ↔ Sorter.program mf cfg kvs false = .ok s := by
  unfold Inserted Sorter.program
  cases hn : Sorter.new cfg with
  | error t => simp
  | ok s0 =>
    simp only [Except.ok.injEq, exists_eq_left']
    cases hi : Sorter.insertAll mf s0 kvs with
    | error e => simp
    | ok s1 => simp

theorem handed_iff_program {mf : MergeFn} {cfg : SCfg} {kvs : List Entry} {s' : Sorter} :
    Handed mf cfg kvs s' ↔ Sorter.program mf cfg kvs true = .ok s' := by
  unfold Handed
  simp only [inserted_iff_program]
  unfold Sorter.program
  cases hn : Sorter.new cfg with
  | error t => simp
  | ok s0 =>
    simp only
    cases hi : Sorter.insertAll mf s0 kvs with
    | error e => simp
    | ok s1 => simp

theorem inserted_reach {mf : MergeFn} {cfg : SCfg} {P : Bytes → Bytes → Prop} {s : Sorter}
    {kvs : List Entry} (h : Inserted mf cfg kvs s) (hP : ∀ kv ∈ kvs, P kv.1 kv.2) :
    ∃ sp mg, Sorter.Reach mf cfg P s sp mg := by
  obtain ⟨s0, hn, hi⟩ := h
  exact (Sorter.Reach.new hn : Sorter.Reach mf cfg P s0 0 0).insertAll hP hi

section Inv
variable {mf : MergeFn} {mf' : Bytes → List Bytes → Bytes}
  {P : List (List Entry) → List Entry → List Entry → Prop}

/-- A content invariant (`ContentInv`, stable spill order) is kept by a list of inserts. -/
theorem insertAll_inv (B : Base mf mf') (I : ContentInv mf' stableSrt P) :
    ∀ (kvs : List Entry) (s s' : Sorter) (kvs0 : List Entry), P s.chunks s.entries.items kvs0 →
      Sorter.insertAll mf s kvs = .ok s' → P s'.chunks s'.entries.items (kvs0 ++ kvs) := by
  intro kvs s s' kvs0 hP h
  have := Sorter.insertAll_fold (fun pre s => P s.chunks s.entries.items (kvs0 ++ pre))
    (fun _ => True) kvs [] s
    (fun pre s1 k v _ h1 => by
      cases hi : Sorter.insert mf s1 k v with
      | error e => trivial
      | ok s2 =>
        have := insertWith_ok B I stableSrt_oracle h1
          (show insertWith mf stableSrt s1 k v = .ok s2 from hi)
        simpa only [List.append_assoc] using this)
    (by simpa only [List.append_nil] using hP)
  rw [h] at this
  simpa only [List.nil_append] using this

/-- … and by the final spill. -/
theorem finishChunks_inv (B : Base mf mf') (I : ContentInv mf' stableSrt P) {s s' : Sorter}
    {kvs : List Entry} (hP : P s.chunks s.entries.items kvs)
    (h : Sorter.finishChunks mf s = .ok s') : P s'.chunks [] kvs := by
  have hc : s'.chunks = s.chunks ++ [G mf' (Sorter.sortStable s.entries.items)] := by
    unfold Sorter.finishChunks at h
    split at h
    · cases h
    rename_i s1 hw
    cases B.writeChunkWith (sortStable_sorted _) hw
    simp only at h
    split at h
    · cases h
    · cases h; rfl
  rw [hc]
  exact I.spill s hP

theorem inserted_inv (B : Base mf mf') (I : ContentInv mf' stableSrt P) (h0 : P [] [] [])
    {cfg : SCfg} {kvs : List Entry} {s : Sorter} (h : Inserted mf cfg kvs s) :
    P s.chunks s.entries.items kvs := by
  obtain ⟨s0, hn, hi⟩ := h
  obtain ⟨hc, hit⟩ := new_state hn
  have := insertAll_inv B I kvs s0 s [] (by rw [hc, hit]; exact h0) hi
  simpa using this

theorem handed_inv (B : Base mf mf') (I : ContentInv mf' stableSrt P) (h0 : P [] [] [])
    {cfg : SCfg} {kvs : List Entry} {s' : Sorter} (h : Handed mf cfg kvs s') :
    P s'.chunks [] kvs := by
  obtain ⟨s, hs, hf⟩ := h
  exact finishChunks_inv B I (inserted_inv B I h0 hs) hf

end Inv

/-- Every chunk is the grouped-and-merged image `G mf' S` of some sequence `S` of pairs
    (no law on the merge function is needed for this). -/
def PShape (mf' : Bytes → List Bytes → Bytes) (cs : List (List Entry)) (_items _kvs : List Entry) :
    Prop := ∀ c ∈ cs, ∃ S, c = G mf' S

theorem pshape_inv (mf' : Bytes → List Bytes → Bytes) (srt : Sorter → List Entry) :
    ContentInv mf' srt (PShape mf') where
  asc := by
    intro cs items kvs h c hc
    obtain ⟨S, rfl⟩ := h c hc
    exact G_asc mf' S
  push := fun _ h => h
  spill := by
    intro s kvs h c hc
    rcases List.mem_append.mp hc with h1 | h1
    · exact h c h1
    · exact ⟨srt s, List.mem_singleton.mp h1⟩
  merge := by
    intro cs items kvs h c hc
    exact ⟨cs.flatten, by rw [List.mem_singleton.mp hc]; rfl⟩

theorem pshape_init (mf' : Bytes → List Bytes → Bytes) : PShape mf' [] [] [] := by
  intro c hc; cases hc

/-- Sizes of a strictly ascending list whose keys were all inserted. -/
theorem sizes_of_keys {c kvs : List Entry} (hasc : StrictAsc c)
    (hsub : ∀ k, k ∈ c.map (·.1) → k ∈ kvs.map (·.1))
    (hk : ∀ kv ∈ kvs, kv.1.length < 2 ^ 32) (hv : ∀ e ∈ c, e.2.length < 2 ^ 32)
    (hn : kvs.length < 2 ^ 64) : SizesOk c := by
  refine ⟨fun e he => ⟨?_, hv e he⟩, ?_⟩
  · obtain ⟨kv, hkv, hkeq⟩ := List.mem_map.mp (hsub e.1 (List.mem_map_of_mem he))
    rw [← hkeq]; exact hk kv hkv
  · have hnd : (c.map (·.1)).Nodup := by
      rw [List.nodup_iff_pairwise_ne, List.pairwise_map]
      exact hasc.imp (fun h e => by rw [e] at h; exact blt_irrefl _ h)
    have := hnd.length_le_of_subset (l₂ := kvs.map (·.1)) (fun k hk => hsub k hk)
    simp only [List.length_map] at this
    omega

/-- The values of `G mf' S` are outputs of `mf'`. -/
theorem G_val_lens {mf' : Bytes → List Bytes → Bytes} (hv : ∀ k vs, (mf' k vs).length < 2 ^ 32)
    (S : List Entry) : ∀ e ∈ G mf' S, e.2.length < 2 ^ 32 := by
  intro e he
  obtain ⟨k, v⟩ := e
  rw [((mem_G mf' S k v).mp he).2]
  exact hv _ _

/-- What is known of the chunks of a state (chunks `cs`, nothing pending or not): each is
    strictly ascending, is `G mf' S` for some `S`, and has only inserted keys. -/
theorem chunk_facts {mf' : Bytes → List Bytes → Bytes} {cs : List (List Entry)}
    {items kvs : List Entry} (h1 : PShape mf' cs items kvs) (h2 : PKeys cs items kvs)
    {c : List Entry} (hc : c ∈ cs) :
    StrictAsc c ∧ (∃ S, c = G mf' S) ∧ ∀ k, k ∈ c.map (·.1) → k ∈ kvs.map (·.1) := by
  refine ⟨h2.1 c hc, h1 c hc, fun k hk => (h2.2 k).mp (Or.inl ?_)⟩
  obtain ⟨e, he, rfl⟩ := List.mem_map.mp hk
  exact List.mem_map_of_mem (List.mem_flatten.mpr ⟨c, hc, he⟩)

/-- Chunks of a state between public calls. -/
theorem inserted_chunk {mf : MergeFn} {mf' : Bytes → List Bytes → Bytes} (B : Base mf mf')
    {cfg : SCfg} {kvs : List Entry}
    {s : Sorter} (h : Inserted mf cfg kvs s) {c : List Entry} (hc : c ∈ s.chunks) :
    StrictAsc c ∧ (∃ S, c = G mf' S) ∧ ∀ k, k ∈ c.map (·.1) → k ∈ kvs.map (·.1) :=
  chunk_facts (inserted_inv B (pshape_inv mf' _) (pshape_init mf') h)
    (inserted_inv B (pkeys_inv mf' _ stableSrt_oracle) pkeys_init h) hc

/-- Chunks handed out by `finishChunks`. -/
theorem handed_chunk {mf : MergeFn} {mf' : Bytes → List Bytes → Bytes} (B : Base mf mf')
    {cfg : SCfg} {kvs : List Entry}
    {s' : Sorter} (h : Handed mf cfg kvs s') {c : List Entry} (hc : c ∈ s'.chunks) :
    StrictAsc c ∧ (∃ S, c = G mf' S) ∧ ∀ k, k ∈ c.map (·.1) → k ∈ kvs.map (·.1) :=
  chunk_facts (handed_inv B (pshape_inv mf' _) (pshape_init mf') h)
    (handed_inv B (pkeys_inv mf' _ stableSrt_oracle) pkeys_init h) hc

/-! ### D. `finish` = `finishChunks` + final merge -/

/-- The last step of `Sorter.finish`: merge the chunks handed out. -/
def finalMerge (mf : MergeFn) (s' : Sorter) : Except Sorter.SErr (List Entry × Sorter) :=
  match Merger.run mf s'.chunks with
  | (none, _) => .error .merge
  | (some out, m) => .ok (out, { s' with calls := s'.calls ++ m.calls.reverse })

theorem finish_eq (mf : MergeFn) (s : Sorter) :
    Sorter.finish mf s = match Sorter.finishChunks mf s with
      | .error e => .error e
      | .ok s' => finalMerge mf s' := rfl

theorem finalMerge_ok_iff {mf : MergeFn} {s' s'' : Sorter} {out : List Entry} :
    finalMerge mf s' = .ok (out, s'') ↔
      (Merger.run mf s'.chunks).1 = some out ∧
      s'' = { s' with calls := s'.calls ++ (Merger.run mf s'.chunks).2.calls.reverse } := by
  unfold finalMerge
  cases hr : Merger.run mf s'.chunks with
  | mk o m =>
    cases o with
    | none => simp
    | some o =>
      simp only [Except.ok.injEq, Prod.mk.injEq, Option.some.injEq]
      constructor
      · rintro ⟨rfl, rfl⟩; exact ⟨rfl, rfl⟩
      · rintro ⟨rfl, rfl⟩; exact ⟨rfl, rfl⟩

theorem finalMerge_no_trap (mf : MergeFn) (s' : Sorter) (t : Trap) :
    finalMerge mf s' ≠ .error (.trap t) := by
  unfold finalMerge
  split <;> simp

/-! ### E. Where a partial merge function succeeds it is a total one

A merge function that may fail is replaced by `totalize mf` (failures become `[]`): a grouping or a
merge that returned a result with `mf` returns the same with it (`base_totalize`), which is all the
content invariants of section C ask of a merge function. -/

/-- `mf` with its failures replaced by the empty value. -/
def totalize (mf : MergeFn) : Bytes → List Bytes → Bytes := fun k vs => (mf k vs).getD []

theorem totalize_of_some {mf : MergeFn} {k : Bytes} {vs : List Bytes} {v : Bytes}
    (h : mf k vs = some v) : tot (totalize mf) k vs = some v := by
  simp [totalize, h]

theorem mergeGroups_totalize (mf : MergeFn) : ∀ (l : List Entry)
    (cur : Option (Bytes × List Bytes)) (out : List Entry) (calls : List (Bytes × List Bytes))
    (r : List Entry × List (Bytes × List Bytes)),
    Sorter.mergeGroups mf l cur out calls = some r →
    Sorter.mergeGroups (tot (totalize mf)) l cur out calls = some r := by
  intro l
  induction l with
  | nil =>
    intro cur out calls r h
    cases cur with
    | none => exact h
    | some c =>
      obtain ⟨k, vs⟩ := c
      simp only [Sorter.mergeGroups] at h ⊢
      cases hm : mf k vs with
      | none => rw [hm] at h; cases h
      | some m => rw [hm] at h; rw [totalize_of_some hm]; exact h
  | cons e rest ih =>
    intro cur out calls r h
    obtain ⟨k, v⟩ := e
    cases cur with
    | none => simp only [Sorter.mergeGroups] at h ⊢; exact ih _ _ _ _ h
    | some c =>
      obtain ⟨ck, vs⟩ := c
      simp only [Sorter.mergeGroups] at h ⊢
      split
      · rename_i hk; rw [if_pos hk] at h; exact ih _ _ _ _ h
      · rename_i hk
        rw [if_neg hk] at h
        cases hm : mf ck vs with
        | none => rw [hm] at h; cases h
        | some m =>
          rw [hm] at h
          have hm' : totalize mf ck vs = m := by simp [totalize, hm]
          rw [hm']
          exact ih _ _ _ _ h

theorem next_totalize (mf : MergeFn) (m : Merger) (h : (Merger.next mf m).2 ≠ .mergeErr) :
    Merger.next (tot (totalize mf)) m = Merger.next mf m := by
  cases hpop : heapPop m.heap with
  | none => simp only [Merger.next, hpop]
  | some p =>
    obtain ⟨first, h1⟩ := p
    simp only [Merger.next, hpop] at h ⊢
    cases hm : mf first.key
        (first.val :: List.map MSrc.val (popSame first.key (h1.length + 1) h1 []).1) with
    | none => rw [hm] at h; exact absurd rfl h
    | some v =>
      have hm' : totalize mf first.key
          (first.val :: List.map MSrc.val (popSame first.key (h1.length + 1) h1 []).1) = v := by
        simp [totalize, hm]
      rw [hm']

theorem collect_totalize (mf : MergeFn) : ∀ (fuel : Nat) (m : Merger) (acc : List Entry),
    (Merger.collect mf fuel m acc).1.isSome →
    Merger.collect (tot (totalize mf)) fuel m acc = Merger.collect mf fuel m acc := by
  intro fuel
  induction fuel with
  | zero => intro m acc _; rfl
  | succ fuel ih =>
    intro m acc h
    have hne : (Merger.next mf m).2 ≠ .mergeErr := by
      intro e
      unfold Merger.collect at h
      cases hn : Merger.next mf m with
      | mk m1 r1 =>
        rw [hn] at h e
        simp only at e
        subst e
        simp at h
    unfold Merger.collect at h ⊢
    rw [next_totalize mf m hne]
    cases hn : Merger.next mf m with
    | mk m1 r1 =>
      rw [hn] at h
      match r1, h with
      | .ok none, _ => rfl
      | .ok (some e), h => exact ih m1 (e :: acc) h
      | .mergeErr, h => simp at h

/-- Where the calls of `mf` succeed they are those of `totalize mf`. -/
theorem base_totalize (mf : MergeFn) : Base mf (totalize mf) where
  groups := fun hs h => (base_tot _).groups hs (mergeGroups_totalize mf _ _ _ _ _ h)
  run := fun {cs out m} hasc h => by
    have hs : (Merger.run mf cs).1.isSome := by rw [h]; rfl
    have he : Merger.run (tot (totalize mf)) cs = Merger.run mf cs := collect_totalize mf _ _ _ hs
    exact (base_tot _).run hasc (he.trans h)

end Grenad.Wave3
