/-
  Grenad.Proofs.SorterSortedRun — for inputs whose keys arrive in non-decreasing order the stable
  sort of `write_chunk` is the identity, so a run can be evaluated by the kernel (`List.mergeSort`
  is defined by well-founded recursion and does not reduce).  Used for the concrete `example`s.
-/
import Grenad.Proofs.SorterRun

namespace Grenad
namespace Sorter

open Entries

/-- `Sorter.insert` with the pending entries written in insertion order. -/
def insertW (mf : MergeFn) (s : Sorter) (k v : Bytes) : Except SErr Sorter :=
  match s.entries.fits k v with
  | .error t => .error (.trap t)
  | .ok fit =>
    let thresholdExceeded := decide (s.entries.bufLen ≥ s.cfg.budget)
    if fit || (!thresholdExceeded && s.cfg.allowRealloc) then
      match s.entries.insert k v 64 with
      | .error t => .error (.trap t)
      | .ok (e, ev) => .ok { s with entries := e, events := s.events ++ ev }
    else
      match writeChunkWith mf s s.entries.items with
      | .error e => .error e
      | .ok s =>
        match s.entries.insert k v 64 with
        | .error t => .error (.trap t)
        | .ok (e, ev) =>
          let s := { s with entries := e, events := s.events ++ ev }
          if s.chunks.length ≥ s.cfg.maxNb then mergeChunks mf s else .ok s

def finishChunksW (mf : MergeFn) (s : Sorter) : Except SErr Sorter :=
  match writeChunkWith mf s s.entries.items with
  | .error e => .error e
  | .ok s =>
    match s.entries.drop with
    | .error t => .error (.trap t)
    | .ok (e, ev) => .ok { s with entries := e, events := s.events ++ ev }

def insertAllW (mf : MergeFn) : Sorter → List Entry → Except SErr Sorter
  | s, [] => .ok s
  | s, (k, v) :: r =>
    match insertW mf s k v with
    | .error e => .error e
    | .ok s' => insertAllW mf s' r

def programW (mf : MergeFn) (cfg : SCfg) (l : List Entry) (fin : Bool) : Except SErr Sorter :=
  match Sorter.new cfg with
  | .error t => .error (.trap t)
  | .ok s =>
    match insertAllW mf s l with
    | .error e => .error e
    | .ok s => if fin then finishChunksW mf s else .ok s

/-- Keys in non-decreasing order. -/
def KeySorted (l : List Entry) : Prop := l.Pairwise (fun a b => decide (a.1 ≤ b.1) = true)

theorem sortStable_of_sorted {l : List Entry} (h : KeySorted l) : sortStable l = l :=
  List.mergeSort_of_pairwise h

theorem insert_eq_insertW {mf : MergeFn} {s : Sorter} (k v : Bytes)
    (h : KeySorted s.entries.items) : Sorter.insert mf s k v = insertW mf s k v := by
  unfold Sorter.insert insertW writeChunk
  rw [sortStable_of_sorted h]
  cases s.entries.fits k v with
  | error t => rfl
  | ok fit =>
    dsimp only
    split
    · cases s.entries.insert k v 64 with
      | error t => rfl
      | ok r => rfl
    · cases writeChunkWith mf s s.entries.items with
      | error e => rfl
      | ok s1 =>
        dsimp only
        cases s1.entries.insert k v 64 with
        | error t => rfl
        | ok r => rfl

theorem finishChunks_eq_finishChunksW {mf : MergeFn} {s : Sorter}
    (h : KeySorted s.entries.items) : finishChunks mf s = finishChunksW mf s := by
  unfold finishChunks finishChunksW writeChunk
  rw [sortStable_of_sorted h]
  cases writeChunkWith mf s s.entries.items with
  | error e => rfl
  | ok s1 =>
    dsimp only
    cases s1.entries.drop with
    | error t => rfl
    | ok r => rfl

theorem insert_items {mf : MergeFn} {s s' : Sorter} {k v : Bytes} (hinv : Inv s.entries)
    (h : Sorter.insert mf s k v = .ok s') :
    s'.entries.items = s.entries.items ++ [(k, v)] ∨ s'.entries.items = [(k, v)] := by
  rcases insert_cases hinv h with ⟨_, j, _, rfl⟩ | ⟨_, chunk, calls, j, _, hm⟩
  · left; rfl
  · right
    rcases hm with ⟨_, rfl⟩ | ⟨_, merged, calls', rfl⟩ <;> rfl

theorem insertAll_eq_insertAllW {mf : MergeFn} {cfg : SCfg} {P : Bytes → Bytes → Prop}
    {s : Sorter} {sp mg : Nat} (r : Reach mf cfg P s sp mg) (l : List Entry)
    (hP : ∀ kv ∈ l, P kv.1 kv.2) (hs : KeySorted (s.entries.items ++ l)) :
    Sorter.insertAll mf s l = insertAllW mf s l ∧
    ∀ s', Sorter.insertAll mf s l = .ok s' → KeySorted s'.entries.items := by
  induction l generalizing s sp mg with
  | nil =>
    refine ⟨rfl, ?_⟩
    intro s' h
    simp only [Sorter.insertAll, Except.ok.injEq] at h
    subst h; simpa using hs
  | cons kv l ih =>
    obtain ⟨k, v⟩ := kv
    have h1 : KeySorted s.entries.items := (List.pairwise_append.mp hs).1
    simp only [Sorter.insertAll, insertAllW, ← insert_eq_insertW k v h1]
    cases hi : Sorter.insert mf s k v with
    | error e => simp
    | ok s1 =>
      have r1 := r.insert (hP (k, v) (by simp)) hi
      have hs1 : KeySorted (s1.entries.items ++ l) := by
        rcases insert_items r.core.1.inv hi with e | e
        · rw [e]; simpa [List.append_assoc] using hs
        · rw [e]; exact (List.pairwise_append.mp hs).2.1
      exact ih r1 (fun kv hkv => hP kv (by simp [hkv])) hs1

/-- On key-sorted input the run is the kernel-evaluable `programW`. -/
theorem program_eq_programW (mf : MergeFn) (cfg : SCfg) (l : List Entry) (fin : Bool)
    (hs : KeySorted l) : program mf cfg l fin = programW mf cfg l fin := by
  unfold program programW
  cases hn : Sorter.new cfg with
  | error t => rfl
  | ok s0 =>
    have r0 : Reach mf cfg (fun _ _ => True) s0 0 0 := .new hn
    have h0 : s0.entries.items = [] := by obtain ⟨_, _, rfl⟩ := new_ok hn; rfl
    have ⟨e1, e2⟩ := insertAll_eq_insertAllW r0 l (fun _ _ => trivial) (by rw [h0]; exact hs)
    simp only [← e1]
    cases hi : Sorter.insertAll mf s0 l with
    | error e => rfl
    | ok s1 =>
      cases fin with
      | false => rfl
      | true => simp only [if_true]; exact finishChunks_eq_finishChunksW (e2 s1 hi)

/-- A run on key-sorted input, evaluated through `programW`: the state it returns is reachable,
    and `f` takes on it the value that was computed. -/
theorem reach_of_programW {mf : MergeFn} {cfg : SCfg} {P : Bytes → Bytes → Prop}
    {l : List Entry} {α : Type} (f : Sorter → α) (a : α) (hs : KeySorted l)
    (hl : ∀ kv ∈ l, P kv.1 kv.2)
    (v : (programW mf cfg l false).toOption.map f = some a) :
    ∃ s, program mf cfg l false = .ok s ∧ (∃ sp mg, Reach mf cfg P s sp mg) ∧ f s = a := by
  rw [← program_eq_programW _ _ _ _ hs] at v
  cases h : program mf cfg l false with
  | error err => rw [h] at v; cases v
  | ok s =>
    rw [h] at v
    exact ⟨s, rfl, program_reach hl h, Option.some.inj v⟩

end Sorter
end Grenad
