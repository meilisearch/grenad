/-
  Grenad.Proofs.Wave3IO — the writer seen from its sink (`Grenad.Model.WriterIO`), assembled from
  the I/O-layer characterisations (`IOProofs`) and T-writer (`WriterTree`): the `write_all` calls of
  a complete run concatenate to the file, their prefix sums are the recorded block offsets, and
  what a fault leaves in the sink is a strict prefix of the file.  The concrete instance
  `wxCfg`, `wxEs`, `wxFile`, `wxLog`, `wxMeta` (with `wxHyps`, `wxRun`, `wxShape`, `wxParse`,
  `wxFile_lt`) serves the examples of Props/C11, C12, C13.
-/
import Grenad.Proofs.IOProofs
import Grenad.Proofs.WriterTree
import Grenad.Model.WriterIO

namespace Grenad.Wave3

open Grenad Grenad.IOM

theorem blockWrites_nil (cd : Codec) : W.blockWrites cd [] = [] := rfl

theorem blockWrites_cons (cd : Codec) (e : Emitted) (l : List Emitted) :
    W.blockWrites cd (e :: l) =
      be64 (cd.compress e.raw).length :: cd.compress e.raw :: W.blockWrites cd l := by
  simp [W.blockWrites]

theorem blockWrites_append (cd : Codec) (l1 l2 : List Emitted) :
    W.blockWrites cd (l1 ++ l2) = W.blockWrites cd l1 ++ W.blockWrites cd l2 := by
  simp [W.blockWrites]

theorem blockWrites_length (cd : Codec) (log : List Emitted) :
    (W.blockWrites cd log).length = 2 * log.length := by
  induction log with
  | nil => rfl
  | cons e l ih => rw [blockWrites_cons]; simp only [List.length_cons, ih]; omega

theorem blockWrites_flatten (cd : Codec) (log : List Emitted) :
    (W.blockWrites cd log).flatten = log.flatMap (fun e => W.blockBytes cd e.raw) := by
  induction log with
  | nil => rfl
  | cons e l ih =>
    rw [blockWrites_cons]
    simp only [List.flatten_cons, ih, List.flatMap_cons, W.blockBytes, List.append_assoc]

theorem writes_flatten (cd : Codec) (log : List Emitted) (m : Meta.Meta) (hv : m.version ≠ 1) :
    (W.writes cd log m).flatten =
      log.flatMap (fun e => W.blockBytes cd e.raw) ++ Meta.encode m := by
  simp [W.writes, blockWrites_flatten, W.trailerWrites, Meta.encode, hv]

theorem writes_take (cd : Codec) (l1 l2 : List Emitted) (m : Meta.Meta) :
    (W.writes cd (l1 ++ l2) m).take (2 * l1.length) = W.blockWrites cd l1 := by
  simp only [W.writes, blockWrites_append, List.append_assoc]
  rw [← blockWrites_length cd l1, List.take_left]

theorem writes_drop (cd : Codec) (l1 : List Emitted) (e : Emitted) (l2 : List Emitted)
    (m : Meta.Meta) :
    (W.writes cd (l1 ++ e :: l2) m).drop (2 * l1.length) =
      be64 (cd.compress e.raw).length :: cd.compress e.raw :: W.writes cd l2 m := by
  simp only [W.writes, blockWrites_append, List.append_assoc]
  rw [← blockWrites_length cd l1, List.drop_left, blockWrites_cons]
  rfl

section
variable {cd : Codec} {cfg : WCfg} {es : List Entry} {file : Bytes} {log : List Emitted}

theorem run_layout (H : WriterHyps cd cfg es) (hrun : W.run cd cfg es = .ok (file, log)) :
    ∃ root, root < (log.flatMap (fun e => W.blockBytes cd e.raw)).length ∧
      file = log.flatMap (fun e => W.blockBytes cd e.raw) ++
        Meta.encode ⟨2, root, cd.id, es.length, cfg.levels⟩ ∧
      (∀ l1 e l2, log = l1 ++ e :: l2 →
        e.offset = (l1.flatMap (fun e => W.blockBytes cd e.raw)).length) := by
  obtain ⟨idx, out, root, hf, hF, -⟩ := W.run_out H hrun
  refine ⟨root, ?_, ?_, hF.lay.prefix_sum⟩
  · rw [← hF.lay.out_eq]; exact hF.root
  · rw [hf, ← hF.lay.out_eq]

theorem run_trailer (H : WriterHyps cd cfg es) (hrun : W.run cd cfg es = .ok (file, log))
    (hfile : file.length < 2 ^ 64) (hcount : es.length < 2 ^ 64) (hid : cd.id ≤ 5)
    {m : Meta.Meta} (hm : Meta.parse file = .ok m) :
    m = ⟨2, m.root, cd.id, es.length, cfg.levels⟩ ∧
    m.root < (log.flatMap (fun e => W.blockBytes cd e.raw)).length ∧
    file = log.flatMap (fun e => W.blockBytes cd e.raw) ++ Meta.encode m := by
  obtain ⟨idx, out, root, hf, hF, -⟩ := W.run_out H hrun
  have ho : out = log.flatMap (fun e => W.blockBytes cd e.raw) := hF.lay.out_eq
  have hp := hF.parse (levels := cfg.levels) (hf ▸ hfile) hcount hid H.levels
  rw [← hf, hm] at hp
  cases hp
  exact ⟨rfl, ho ▸ hF.root, ho ▸ hf⟩

theorem writes_flatten_run (H : WriterHyps cd cfg es) (hrun : W.run cd cfg es = .ok (file, log))
    (hfile : file.length < 2 ^ 64) (hcount : es.length < 2 ^ 64) (hid : cd.id ≤ 5)
    {m : Meta.Meta} (hm : Meta.parse file = .ok m) :
    (W.writes cd log m).flatten = file := by
  obtain ⟨hmeq, -, hf⟩ := run_trailer H hrun hfile hcount hid hm
  have hv : m.version ≠ 1 := by rw [hmeq]; simp
  rw [writes_flatten cd log m hv, ← hf]

theorem runIO_ff (cd : Codec) (log : List Emitted) (m : Meta.Meta) {sch : List WResp}
    (hff : WFaultFree sch) :
    (W.runIO cd log m sch).2.2 = none ∧
    (W.runIO cd log m sch).1.data = (W.writes cd log m).flatten ∧
    (W.runIO cd log m sch).1.count = (W.writes cd log m).flatten.length := by
  obtain ⟨h1, h2, h3, -⟩ := writeMany_ff hff (W.writes cd log m) {}
  refine ⟨h1, ?_, ?_⟩
  · rw [W.runIO, h2]; rfl
  · rw [W.runIO, h3]; show 0 + _ = _; omega

theorem runIO_offsets (hps : ∀ l1 e l2, log = l1 ++ e :: l2 →
      e.offset = (l1.flatMap (fun e => W.blockBytes cd e.raw)).length)
    (m : Meta.Meta) {j : Nat} {e : Emitted} (hj : log[j]? = some e) {sch : List WResp}
    (hff : WFaultFree sch) :
    let mid := writeMany ((W.writes cd log m).take (2 * j)) {} sch
    mid.2.2 = none ∧ mid.1.count = e.offset ∧
    mid.1.data = (log.take j).flatMap (fun e => W.blockBytes cd e.raw) ∧
    WFaultFree mid.2.1 ∧
    (W.writes cd log m).drop (2 * j) =
      be64 (cd.compress e.raw).length :: cd.compress e.raw :: W.writes cd (log.drop (j + 1)) m ∧
    W.runIO cd log m sch = writeMany ((W.writes cd log m).drop (2 * j)) mid.1 mid.2.1 := by
  obtain ⟨hsplit, hlen⟩ := split_at_getElem? hj
  have hoff := hps _ _ _ hsplit
  have htake : (W.writes cd log m).take (2 * j) = W.blockWrites cd (log.take j) := by
    have := writes_take cd (log.take j) (e :: log.drop (j + 1)) m
    rwa [← hsplit, hlen] at this
  have hdrop := writes_drop cd (log.take j) e (log.drop (j + 1)) m
  rw [← hsplit, hlen] at hdrop
  obtain ⟨h1, h2, h3, h4⟩ := writeMany_ff hff ((W.writes cd log m).take (2 * j)) {}
  have hfl : ((W.writes cd log m).take (2 * j)).flatten =
      (log.take j).flatMap (fun e => W.blockBytes cd e.raw) := by
    rw [htake, blockWrites_flatten]
  refine ⟨h1, ?_, ?_, h4, hdrop, ?_⟩
  · rw [h3, hfl, hoff]; show 0 + _ = _; omega
  · rw [h2, hfl]; rfl
  · have := writeMany_append_ff hff ((W.writes cd log m).take (2 * j))
      ((W.writes cd log m).drop (2 * j)) {}
    rwa [List.take_append_drop] at this

theorem runIO_prefix (cd : Codec) (log : List Emitted) (m : Meta.Meta) (sch : List WResp) :
    ∃ done todo, (W.writes cd log m).flatten = done ++ todo ∧
      (W.runIO cd log m sch).1.data = done ∧ (W.runIO cd log m sch).1.count = done.length ∧
      ((W.runIO cd log m sch).2.2 = none ↔ todo = []) := by
  obtain ⟨done, todo, hf, hd, hc, he⟩ := writeMany_prefix (W.writes cd log m) {} sch
  exact ⟨done, todo, hf, hd, by rw [W.runIO, hc]; exact Nat.zero_add _, he⟩

end

/-! A concrete instance: three entries, one index level below the root. -/

def wxCfg : WCfg := { blockSize := 0, minBlock := 16, interval := 2, levels := 1 }
def wxEs : List Entry := [([1], [10]), ([2], [20, 21]), ([3, 0], [30])]

theorem wxHyps : WriterHyps Codec.none wxCfg wxEs :=
  ⟨by decide, fun _ => rfl, by unfold StrictAsc wxEs; decide, by simp [wxEs]⟩

def wxFile : Bytes := match W.run Codec.none wxCfg wxEs with | .ok (f, _) => f | .error _ => []
def wxLog : List Emitted := match W.run Codec.none wxCfg wxEs with | .ok (_, l) => l | .error _ => []
def wxMeta : Meta.Meta := match Meta.parse wxFile with | .ok m => m | .error _ => default

theorem wxRun : W.run Codec.none wxCfg wxEs = .ok (wxFile, wxLog) := by
  obtain ⟨file, log, h⟩ := T_writer_ok wxHyps
  simp only [wxFile, wxLog, h]

theorem wxShape : wxFile.length = 190 ∧ wxLog.map (·.offset) = [0, 24, 49, 74, 136] ∧
    wxMeta = ⟨2, 136, 0, 3, 1⟩ := by
  decide +kernel

theorem wxParse : Meta.parse wxFile = .ok wxMeta := by
  have h := wxShape.2.2
  unfold wxMeta at h ⊢
  cases hp : Meta.parse wxFile with
  | ok m => rfl
  | error e => rw [hp] at h; cases h

theorem wxFile_lt : wxFile.length < 2 ^ 64 := by rw [wxShape.1]; decide

end Grenad.Wave3
