/-
  The representation relation `BRepr` between the byte-level cursor and the list cursor `LC`, and its
  preservation by `current`, `first`, `next`, `last`, `prev`.
-/
import Grenad.Proofs.TBlock3

set_option linter.unusedSimpArgs false

namespace Grenad

/-- The byte-level cursor `c` over block `b` represents the list cursor `l` over `es`. -/
def BRepr (es : List Entry) (b : Block) (c : BlockCursor) (l : LC) : Prop :=
  c.block = b ∧ l.es = es ∧ c.off = l.pos.map (offAt es) ∧ (∀ i, l.pos = some i → i ≤ es.length)

theorem BRepr.cases {es : List Entry} {b : Block} {c : BlockCursor} {l : LC} (h : BRepr es b c l) :
    ∃ pos : Option Nat, c = ⟨b, pos.map (offAt es)⟩ ∧ l = ⟨es, pos⟩ ∧
      ∀ i, pos = some i → i ≤ es.length := by
  obtain ⟨h1, h2, h3, h4⟩ := h
  obtain ⟨cb, co⟩ := c
  obtain ⟨le, lp⟩ := l
  simp only at h1 h2 h3 h4
  subst h1 h2 h3
  exact ⟨lp, rfl, rfl, h4⟩

theorem BRepr.mk' {es : List Entry} {b : Block} (pos : Option Nat)
    (h : ∀ i, pos = some i → i ≤ es.length) :
    BRepr es b ⟨b, pos.map (offAt es)⟩ ⟨es, pos⟩ :=
  ⟨rfl, rfl, rfl, h⟩

theorem BRepr.ofBlock (es : List Entry) (b : Block) :
    BRepr es b (BlockCursor.ofBlock b) (LC.ofList es) :=
  BRepr.mk' none (by simp)

section Ops

variable {iv : Nat} {es : List Entry} {b : Block} {c : BlockCursor} {l : LC}

theorem current_sim (hb : BlockOf iv es b) (h : BRepr es b c l) : c.current = l.current := by
  obtain ⟨pos, rfl, rfl, hpos⟩ := h.cases
  cases pos with
  | none => rfl
  | some i =>
    rcases Nat.lt_or_eq_of_le (hpos i rfl) with h | rfl
    · simp [BlockCursor.current, LC.current, entryAt_offAt hb.payload hb.lens h, h]
    · simp [BlockCursor.current, LC.current, entryAt_offAt_end hb.payload]

theorem first_sim (hb : BlockOf iv es b) (h : BRepr es b c l) :
    BRepr es b c.first.1 l.first.1 ∧ c.first.2 = l.first.2 := by
  have h' : BRepr es b c.first.1 l.first.1 := by
    obtain ⟨pos, rfl, rfl, hpos⟩ := h.cases
    simp only [BlockCursor.first, LC.first, hb.offs_head?]
    exact BRepr.mk' (some 0) (by simp)
  exact ⟨h', current_sim hb h'⟩

theorem next_sim (hb : BlockOf iv es b) (h : BRepr es b c l) :
    BRepr es b c.next.1 l.next.1 ∧ c.next.2 = l.next.2 := by
  obtain ⟨pos, rfl, rfl, hpos⟩ := h.cases
  cases pos with
  | none => exact first_sim hb (BRepr.mk' none hpos)
  | some i =>
    have hi := hpos i rfl
    rcases Nat.lt_or_ge i es.length with h' | h'
    · have h2 : BRepr es b ⟨b, some (offAt es (i + 1))⟩ ⟨es, some (i + 1)⟩ :=
        BRepr.mk' (some (i + 1)) (by simp; omega)
      simp only [BlockCursor.next, LC.next, Option.map_some, entryAt_offAt hb.payload hb.lens h',
        h', if_true]
      exact ⟨h2, current_sim hb h2⟩
    · have : i = es.length := by omega
      subst this
      simp only [BlockCursor.next, LC.next, Option.map_some, entryAt_offAt_end hb.payload,
        Nat.lt_irrefl, if_false]
      exact ⟨BRepr.mk' (some es.length) hpos, trivial⟩

theorem last_sim (hb : BlockOf iv es b) (h : BRepr es b c l) :
    BRepr es b c.last.1 l.last.1 ∧ c.last.2 = l.last.2 := by
  obtain ⟨pos, rfl, rfl, hpos⟩ := h.cases
  obtain ⟨s, hs, hs'⟩ := hb.offs_getLast?
  have hfuel := hb.fuel
  -- `scanLast` never stops early: it ends on the last entry
  have hscan := scanGen_spec hb.payload hb.lens (fun _ => false) (Nat.le_refl _) (fun _ _ _ => rfl)
    (fun h => absurd h (Nat.lt_irrefl _)) (b.payload.length + 1) s none (by omega) (by omega)
  simp only [BlockCursor.last, LC.last, hs, scanLast_eq, hscan]
  rcases Nat.eq_zero_or_pos es.length with h0 | h0
  · have he : es = [] := List.eq_nil_of_length_eq_zero h0
    subst he
    have h2 : BRepr [] b ⟨b, pos.map (offAt [])⟩ ⟨[], pos⟩ := BRepr.mk' pos hpos
    have hc := current_sim hb h2
    have : (LC.mk [] pos).current = none := by
      cases pos <;> simp [LC.current]
    simp
    exact ⟨h2, by rw [hc, this]⟩
  · have hlt : s < es.length := by omega
    have hne : es.isEmpty = false := by
      cases es with
      | nil => simp at h0
      | cons _ _ => rfl
    have h2 : BRepr es b ⟨b, some (offAt es (es.length - 1))⟩ ⟨es, some (es.length - 1)⟩ :=
      BRepr.mk' (some (es.length - 1)) (by simp)
    simp only [hlt, if_true, hne, Bool.false_eq_true, if_false]
    exact ⟨h2, current_sim hb h2⟩

theorem searchOffsets_spec (hb : BlockOf iv es b) {i : Nat} (hi : i ≤ es.length) :
    (BlockCursor.searchOffsets b.offsets (offAt es i) = 0 ↔ i = 0) ∧
    BlockCursor.searchOffsets b.offsets (offAt es i) ≤ b.offsets.length ∧
    (0 < BlockCursor.searchOffsets b.offsets (offAt es i) →
      (BlockCursor.searchOffsets b.offsets (offAt es i) - 1) * iv < i) := by
  unfold BlockCursor.searchOffsets
  obtain ⟨s0, s1, s2⟩ := takeWhile_spec (fun x => decide (x < offAt es i)) b.offsets
  generalize (List.takeWhile (fun x => decide (x < offAt es i)) b.offsets).length = j at s0 s1 s2
  have hpos := hb.offs_pos
  refine ⟨⟨?_, ?_⟩, s0, ?_⟩
  · intro hj
    subst hj
    have := s2 hpos
    rw [hb.offs_get hpos] at this
    simp at this
    have := le_offAt es hi
    omega
  · intro h0
    subst h0
    rcases Nat.eq_zero_or_pos j with h | h
    · exact h
    · have := s1 0 h hpos
      simp at this
  · intro hj
    have hlt : j - 1 < b.offsets.length := by omega
    have := s1 (j - 1) (by omega) hlt
    rw [hb.offs_get hlt] at this
    simp at this
    have hidx := hb.offs_idx hlt
    exact Nat.lt_of_not_le fun h => by have := offAt_mono_le es h (by omega); omega

theorem prev_sim (hb : BlockOf iv es b) (h : BRepr es b c l) :
    BRepr es b c.prev.1 l.prev.1 ∧ c.prev.2 = l.prev.2 := by
  obtain ⟨pos, rfl, rfl, hpos⟩ := h.cases
  cases pos with
  | none => exact last_sim hb (BRepr.mk' none hpos)
  | some i =>
    have hi := hpos i rfl
    obtain ⟨j0, jle, jlt⟩ := searchOffsets_spec hb hi
    have hsame : BRepr es b ⟨b, some (offAt es i)⟩ ⟨es, some i⟩ := BRepr.mk' (some i) hpos
    simp only [BlockCursor.prev, LC.prev, Option.map_some]
    by_cases hi0 : i = 0
    · have hj := j0.mpr hi0
      subst hi0
      simp only [hj, if_true, true_or]
      exact ⟨hsame, trivial⟩
    · have hj : ¬ BlockCursor.searchOffsets b.offsets (offAt es i) = 0 := fun h => hi0 (j0.mp h)
      simp only [hj, if_false]
      rcases Nat.lt_or_ge i es.length with h' | h'
      · have hcond : ¬ (i = 0 ∨ es.length ≤ i) := by omega
        have hjp : 0 < BlockCursor.searchOffsets b.offsets (offAt es i) := by omega
        have hlt : BlockCursor.searchOffsets b.offsets (offAt es i) - 1 < b.offsets.length := by
          omega
        have hstart : b.offsets.getD (BlockCursor.searchOffsets b.offsets (offAt es i) - 1) 0
            = offAt es ((BlockCursor.searchOffsets b.offsets (offAt es i) - 1) * iv) := by
          rw [List.getD_eq_getElem?_getD, hb.offs_get? hlt]; rfl
        have hfuel := hb.fuel
        -- the keys ascend strictly, so the scan stops exactly at entry `i`
        have hscan := scanGen_spec hb.payload hb.lens (fun k => decide (es[i].1 = k)) (Nat.le_of_lt h')
          (fun m hm _ => decide_eq_false fun he => Std.lt_irrefl (he ▸ asc_get hb.asc hm h'))
          (fun _ => decide_eq_true rfl) (b.payload.length + 1)
          ((BlockCursor.searchOffsets b.offsets (offAt es i) - 1) * iv) none
          (Nat.le_of_lt (jlt hjp)) (by omega)
        have h2 : BRepr es b ⟨b, some (offAt es (i - 1))⟩ ⟨es, some (i - 1)⟩ :=
          BRepr.mk' (some (i - 1)) (by simp; omega)
        simp only [entryAt_offAt hb.payload hb.lens h', hstart, scanPrev_eq, hscan, jlt hjp, if_true, hcond,
          if_false]
        exact ⟨h2, current_sim hb h2⟩
      · have : i = es.length := by omega
        subst this
        simp only [entryAt_offAt_end hb.payload, Nat.le_refl, or_true, if_true]
        exact ⟨hsame, trivial⟩

end Ops

end Grenad
