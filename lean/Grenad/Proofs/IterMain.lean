/-
  Grenad.Proofs.IterMain — C04 / C05, main theorems: the four iterators over any cursor that
  simulates the specification cursor (`Sim es step' R`).
-/
import Grenad.Proofs.IterProofs

namespace Grenad.IterP

open Spec (Pos SRes land lowerBound upperBound)

/-- Second half of every iterator's `next`: filter the positioned entry through `g`. -/
def finish {ι γ : Type} (mk : γ → ι) (g : Bytes → Bool) : γ × Res → ι × Res
  | (c, .err) => (mk c, .err)
  | (c, .ok (some (k, v))) => if g k then (mk c, .ok (some (k, v))) else (mk c, .ok none)
  | (c, .ok none) => (mk c, .ok none)

theorem finish_cases {ι γ : Type} (mk : γ → ι) (g : Bytes → Bool) (c : γ) (r : Option Entry) :
    (∃ e, r = some e ∧ g e.1 = true ∧ finish mk g (c, .ok r) = (mk c, .ok (some e))) ∨
    ((∀ e, r = some e → g e.1 = false) ∧ finish mk g (c, .ok r) = (mk c, .ok none)) := by
  cases r with
  | none => exact .inr ⟨fun e h => (by cases h), rfl⟩
  | some e =>
    obtain ⟨k, v⟩ := e
    by_cases hg : g k = true
    · exact .inl ⟨(k, v), rfl, hg, by simp [finish, hg]⟩
    · refine .inr ⟨fun e h => ?_, by simp [finish, hg]⟩
      cases h; simpa using hg

section
variable {γ : Type} (step : γ → Op → γ × Res)

theorem RangeIter.next_finish (it : RangeIter γ) :
    RangeIter.next step it =
      finish (fun c => { it with cursor := c, start := false }) (endContains it.hi)
        (rangeSeek step it) := by
  unfold RangeIter.next rangeSeek
  generalize (if it.start = true then _ else _ : γ × Res) = x
  rcases x with ⟨c, r⟩
  cases r with
  | err => rfl
  | ok o => cases o <;> rfl

theorem RangeIter.nextRev_finish (it : RangeIter γ) :
    RangeIter.nextRev step it =
      finish (fun c => { it with cursor := c, start := false }) (startContains it.lo)
        (rangeSeekRev step it) := by
  unfold RangeIter.nextRev rangeSeekRev
  generalize (if it.start = true then _ else _ : γ × Res) = x
  rcases x with ⟨c, r⟩
  cases r with
  | err => rfl
  | ok o => cases o <;> rfl

theorem PrefixIter.next_finish (it : PrefixIter γ) :
    PrefixIter.next step it =
      finish (fun c => { it with cursor := c, start := false }) (it.pre.isPrefixOf)
        (prefixSeek step it) := by
  unfold PrefixIter.next prefixSeek
  generalize (if it.start = true then _ else _ : γ × Res) = x
  rcases x with ⟨c, r⟩
  cases r with
  | err => rfl
  | ok o => cases o <;> rfl

theorem PrefixIter.nextRev_finish (it : PrefixIter γ) :
    PrefixIter.nextRev step it =
      finish (fun c => { it with cursor := c, start := false }) (it.pre.isPrefixOf)
        (prefixSeekRev step it) := by
  unfold PrefixIter.nextRev prefixSeekRev
  generalize (if it.start = true then _ else _ : γ × Res) = x
  rcases x with ⟨c, r⟩
  cases r with
  | err => rfl
  | ok o => cases o <;> rfl

end

section main
variable {γ : Type} {es : List Entry} {step' : γ → Op → γ × Res} {R : γ → Pos → Prop}

theorem rangeSeek_start (hsim : Sim es step' R) (hasc : StrictAsc es) (it : RangeIter γ)
    (pos : Pos) (hR : R it.cursor pos) (hs : it.start = true) :
    ∃ c', rangeSeek step' it = (c', .ok es[startIdx es it.lo]?) ∧
      (startIdx es it.lo < es.length → R c' (.at (startIdx es it.lo))) := by
  obtain ⟨c, lo, hi, st⟩ := it
  simp only at hs hR ⊢
  subst hs
  unfold rangeSeek
  simp only [if_true]
  cases lo with
  | unbounded =>
    rw [startIdx_unbounded]
    exact sim_land hsim hR (TCursor.step_first pos)
  | included s =>
    rw [startIdx_included]
    exact sim_land hsim hR (TCursor.step_ge pos s)
  | excluded s =>
    rw [startIdx_excluded]
    obtain ⟨c1, h1, hR1⟩ := sim_land hsim hR (TCursor.step_ge pos s)
    simp only [h1]
    rcases bound_cases es hasc s with ⟨hub, hne, _⟩ | ⟨hub, e, he, hk⟩
    · rw [hub]
      cases hlb : es[lowerBound es s]? with
      | none => exact ⟨c1, rfl, fun h => hR1 h⟩
      | some e =>
        obtain ⟨k, v⟩ := e
        have hks : k ≠ s := hne (k, v) hlb
        simp only [if_neg hks]
        exact ⟨c1, rfl, fun h => hR1 h⟩
    · rw [hub, he]
      obtain ⟨k, v⟩ := e
      simp only at hk
      subst hk
      simp only [if_true]
      exact sim_land hsim (hR1 (List.getElem?_eq_some_iff.mp he).1) (step_next_at es _)

/-- Invariant of the ascending iterators: the next call examines `es[i]`. -/
def RangeFwdInv (R : γ → Pos → Prop) (es : List Entry) (lo hi : Bound) (it : RangeIter γ)
    (i : Nat) : Prop :=
  it.lo = lo ∧ it.hi = hi ∧
    ((it.start = true ∧ (∃ pos, R it.cursor pos) ∧ i = startIdx es lo) ∨
     (it.start = false ∧ ∃ j, i = j + 1 ∧ R it.cursor (.at j)))

theorem rangeSeek_inv (hsim : Sim es step' R) (hasc : StrictAsc es) {lo hi : Bound}
    (it : RangeIter γ) (i : Nat) (hI : RangeFwdInv R es lo hi it i) :
    ∃ c', rangeSeek step' it = (c', .ok es[i]?) ∧ (i < es.length → R c' (.at i)) := by
  obtain ⟨hlo, _, ⟨hs, ⟨pos, hR⟩, hi0⟩ | ⟨hs, j, hij, hR⟩⟩ := hI
  · subst hi0; subst hlo
    exact rangeSeek_start hsim hasc it pos hR hs
  · subst hij
    unfold rangeSeek
    simp only [hs, Bool.false_eq_true, if_false]
    exact sim_land hsim hR (step_next_at es j)

/-- The second half of an ascending `next` after a positioning that examines `es[i]`: the entry is
    yielded, and the cursor stands on it, when `g` accepts it; otherwise the iteration ends. -/
theorem fwd_finish {ι : Type} (mk : γ → ι) (g : Bytes → Bool) {c' : γ} {i : Nat}
    (hR' : i < es.length → R c' (.at i)) :
    (∃ e, es[i]? = some e ∧ g e.1 = true ∧ finish mk g (c', .ok es[i]?) = (mk c', .ok (some e)) ∧
      R c' (.at i)) ∨
    ((∀ e, es[i]? = some e → g e.1 = false) ∧ finish mk g (c', .ok es[i]?) = (mk c', .ok none)) := by
  rcases finish_cases mk g c' es[i]? with ⟨e, he, hg, hf⟩ | h
  · exact .inl ⟨e, he, hg, hf, hR' (List.getElem?_eq_some_iff.mp he).1⟩
  · exact .inr h

theorem rangeFwd_step (hsim : Sim es step' R) (hasc : StrictAsc es) (lo hi : Bound)
    (it : RangeIter γ) (i : Nat) (hI : RangeFwdInv R es lo hi it i) :
    ∃ it',
      (∃ e, es[i]? = some e ∧ endContains hi e.1 = true ∧
        RangeIter.next step' it = (it', .ok (some e)) ∧ RangeFwdInv R es lo hi it' (i + 1)) ∨
      ((∀ e, es[i]? = some e → endContains hi e.1 = false) ∧
        RangeIter.next step' it = (it', .ok none)) := by
  obtain ⟨c', hseek, hR'⟩ := rangeSeek_inv hsim hasc it i hI
  obtain ⟨hlo, hhi, _⟩ := hI
  subst hlo; subst hhi
  rw [RangeIter.next_finish, hseek]
  refine ⟨{ it with cursor := c', start := false }, ?_⟩
  rcases fwd_finish (fun c => { it with cursor := c, start := false }) (endContains it.hi) hR' with
    ⟨e, he, hg, hf, hR⟩ | h
  · exact .inl ⟨e, he, hg, hf, rfl, rfl, .inr ⟨rfl, i, rfl, hR⟩⟩
  · exact .inr h

/-- C04 (forward), for any cursor simulating the specification cursor, from any position. -/
theorem range_collect (hsim : Sim es step' R) (hasc : StrictAsc es) (c0 : γ) (pos0 : Pos)
    (hR : R c0 pos0) (lo hi : Bound) (fuel : Nat) (hf : es.length < fuel) :
    collect (RangeIter.next step') fuel { cursor := c0, lo := lo, hi := hi } [] =
      some (Spec.range es lo hi) := by
  have := collect_fwd (RangeIter.next step') es (fun e => endContains hi e.1)
    (RangeFwdInv R es lo hi) (rangeFwd_step hsim hasc lo hi) fuel
    { cursor := c0, lo := lo, hi := hi } (startIdx es lo) []
    ⟨rfl, rfl, .inl ⟨rfl, ⟨pos0, hR⟩, rfl⟩⟩ (by omega)
  rw [this, range_eq_fwd es hasc]
  rfl

/-- Invariant of the descending iterators: the next call examines `es[n-1]`. -/
def RangeBwdInv (R : γ → Pos → Prop) (es : List Entry) (lo hi : Bound) (it : RangeIter γ)
    (n : Nat) : Prop :=
  it.lo = lo ∧ it.hi = hi ∧ n ≤ es.length ∧
    ((it.start = true ∧ (∃ pos, R it.cursor pos) ∧ n = endIdx es hi) ∨
     (it.start = false ∧ R it.cursor (.at n)))

/-- Result shape of a backward positioning that examines `es[n-1]` and, when there is no such entry,
    may still hand back an entry as long as the filter `g` of the iterator rejects it (the backward
    prefix positioning does, through `LostCurrentOK`). -/
def BwdSeekP (R : γ → Pos → Prop) (es : List Entry) (g : Bytes → Bool) (n : Nat) (x : γ × Res) : Prop :=
  (n = 0 ∧ ∃ r, x.2 = .ok r ∧ ∀ e, r = some e → g e.1 = false) ∨
  (∃ m e, n = m + 1 ∧ es[m]? = some e ∧ x.2 = .ok (some e) ∧ R x.1 (.at m))

/-- The second half of a descending `next` after such a positioning: `es[n-1]` is yielded and the
    cursor stands on it when `g` accepts it, otherwise the iteration ends. -/
theorem bwd_finish {ι : Type} (mk : γ → ι) {g : Bytes → Bool} {n : Nat} {x : γ × Res}
    (h : BwdSeekP R es g n x) :
    (∃ m e, n = m + 1 ∧ es[m]? = some e ∧ g e.1 = true ∧
      finish mk g x = (mk x.1, .ok (some e)) ∧ R x.1 (.at m)) ∨
    ((∀ m e, n = m + 1 → es[m]? = some e → g e.1 = false) ∧ finish mk g x = (mk x.1, .ok none)) := by
  obtain ⟨c', r⟩ := x
  rcases h with ⟨h0, r', hr, hbad⟩ | ⟨m, e, h0, he, hr, hR'⟩
  · simp only at hr
    subst hr
    rcases finish_cases mk g c' r' with ⟨e', he', hg, _⟩ | ⟨_, hf⟩
    · rw [hbad e' he'] at hg; cases hg
    · exact .inr ⟨fun m e h => (by omega), hf⟩
  · simp only at hr hR'
    subst hr
    rcases finish_cases mk g c' (some e) with ⟨e', he', hg, hf⟩ | ⟨hb, hf⟩
    · cases he'
      exact .inl ⟨m, e, h0, he, hg, hf, hR'⟩
    · refine .inr ⟨fun m' e' hm' he'' => ?_, hf⟩
      have : m' = m := by omega
      subst this
      rw [he] at he''
      cases he''
      exact hb e rfl

theorem bwdSeek_of_landB (hsim : Sim es step' R) {g : Bytes → Bool} {c : γ} {pos : Pos} {op : Op}
    {n : Nat} (hR : R c pos) (hn : n ≤ es.length) (hs : Spec.step es pos op = landB es n) :
    BwdSeekP R es g n (step' c op) := by
  obtain ⟨c', ⟨h0, h1, _⟩ | ⟨m, e, h0, h1, h2, h3⟩⟩ := sim_landB hsim hR hn hs
  · exact .inl ⟨h0, none, by rw [h1], fun e h => by cases h⟩
  · exact .inr ⟨m, e, h0, h1, by rw [h2], by rw [h2]; exact h3⟩

/-- The "floor, then step back if equal" positioning used by the excluded upper bound. -/
theorem bwdSeek_excluded (hsim : Sim es step' R) (hasc : StrictAsc es) (c : γ) (pos : Pos)
    (hR : R c pos) {g : Bytes → Bool} (q : Bytes) :
    BwdSeekP R es g (lowerBound es q)
      (match step' c (.le q) with
       | (c, .ok (some (k, v))) => if k = q then step' c .prev else (c, .ok (some (k, v)))
       | (c, r) => (c, r)) := by
  obtain ⟨c1, ⟨h0, h1, _⟩ | ⟨m, e, h0, h1, h2, h3⟩⟩ :=
    sim_landB hsim hR (upperBound_le_length es q) (TCursor.step_le pos q)
  · simp only [h1]
    refine .inl ⟨?_, none, rfl, fun e h => by cases h⟩
    rcases bound_cases es hasc q with ⟨hub, _⟩ | ⟨hub, _⟩ <;> omega
  · simp only [h2]
    obtain ⟨k, v⟩ := e
    rcases bound_cases es hasc q with ⟨hub, _, hne⟩ | ⟨hub, e1, he1, hk⟩
    · have hkq : k ≠ q := hne m (k, v) (by omega) h1
      simp only [if_neg hkq]
      exact .inr ⟨m, (k, v), by omega, h1, rfl, h3⟩
    · have hm : m = lowerBound es q := by omega
      subst hm
      rw [he1] at h1
      cases h1
      simp only at hk
      subst hk
      simp only [if_true]
      exact bwdSeek_of_landB hsim h3 (TCursor.lowerBound_le es k) (TCursor.step_prev_at _)

theorem rangeSeekRev_inv (hsim : Sim es step' R) (hasc : StrictAsc es) {lo hi : Bound}
    (it : RangeIter γ) (n : Nat) (hI : RangeBwdInv R es lo hi it n) :
    BwdSeekP R es (startContains lo) n (rangeSeekRev step' it) := by
  obtain ⟨_, hhi, hn, ⟨hs, ⟨pos, hR⟩, hn0⟩ | ⟨hs, hR⟩⟩ := hI
  · obtain ⟨c, lo', hi', st⟩ := it
    simp only at hs hR hhi
    subst hs; subst hhi; subst hn0
    unfold rangeSeekRev
    simp only [if_true]
    cases hi' with
    | unbounded =>
      rw [endIdx_unbounded]
      exact bwdSeek_of_landB hsim hR (Nat.le_refl _) (step_last es pos)
    | included e =>
      rw [endIdx_included]
      exact bwdSeek_of_landB hsim hR (upperBound_le_length es e) (TCursor.step_le pos e)
    | excluded e =>
      rw [endIdx_excluded]
      exact bwdSeek_excluded hsim hasc c pos hR e
  · unfold rangeSeekRev
    simp only [hs, Bool.false_eq_true, if_false]
    exact bwdSeek_of_landB hsim hR hn (TCursor.step_prev_at n)

theorem rangeBwd_step (hsim : Sim es step' R) (hasc : StrictAsc es) (lo hi : Bound)
    (it : RangeIter γ) (n : Nat) (hI : RangeBwdInv R es lo hi it n) :
    ∃ it',
      (∃ m e, n = m + 1 ∧ es[m]? = some e ∧ startContains lo e.1 = true ∧
        RangeIter.nextRev step' it = (it', .ok (some e)) ∧ RangeBwdInv R es lo hi it' m) ∨
      ((∀ m e, n = m + 1 → es[m]? = some e → startContains lo e.1 = false) ∧
        RangeIter.nextRev step' it = (it', .ok none)) := by
  have hseek := rangeSeekRev_inv hsim hasc it n hI
  obtain ⟨hlo, hhi, hn, _⟩ := hI
  subst hlo; subst hhi
  rw [RangeIter.nextRev_finish]
  refine ⟨{ it with cursor := (rangeSeekRev step' it).1, start := false }, ?_⟩
  rcases bwd_finish (fun c => { it with cursor := c, start := false }) hseek with
    ⟨m, e, h0, he, hg, hf, hR'⟩ | ⟨hb, hf⟩
  · exact .inl ⟨m, e, h0, he, hg, hf, rfl, rfl, by omega, .inr ⟨rfl, hR'⟩⟩
  · exact .inr ⟨hb, hf⟩

/-- C04 (backward), for any cursor simulating the specification cursor, from any position. -/
theorem range_collect_rev (hsim : Sim es step' R) (hasc : StrictAsc es) (c0 : γ) (pos0 : Pos)
    (hR : R c0 pos0) (lo hi : Bound) (fuel : Nat) (hf : es.length < fuel) :
    collect (RangeIter.nextRev step') fuel { cursor := c0, lo := lo, hi := hi } [] =
      some (Spec.range es lo hi).reverse := by
  have hle := endIdx_le_length es hi
  have := collect_bwd (RangeIter.nextRev step') es (fun e => startContains lo e.1)
    (RangeBwdInv R es lo hi) (rangeBwd_step hsim hasc lo hi) fuel
    { cursor := c0, lo := lo, hi := hi } (endIdx es hi) []
    ⟨rfl, rfl, hle, .inl ⟨rfl, ⟨pos0, hR⟩, rfl⟩⟩ hle (by omega)
  rw [this, range_reverse_eq_bwd es hasc]
  rfl

/-- The forward prefix iterator positions its cursor as the forward range iterator from
    `Included(prefix)` does; only the filter of the second half differs. -/
def asRange (it : PrefixIter γ) : RangeIter γ :=
  { cursor := it.cursor, lo := .included it.pre, hi := .unbounded, start := it.start }

theorem prefixSeek_eq (step : γ → Op → γ × Res) (it : PrefixIter γ) :
    prefixSeek step it = rangeSeek step (asRange it) := by
  obtain ⟨c, p, s⟩ := it
  cases s <;> rfl

theorem prefixFwd_step (hsim : Sim es step' R) (hasc : StrictAsc es) (p : Bytes)
    (it : PrefixIter γ) (i : Nat) (hI : RangeFwdInv R es (.included p) .unbounded (asRange it) i) :
    ∃ it',
      (∃ e, es[i]? = some e ∧ p.isPrefixOf e.1 = true ∧
        PrefixIter.next step' it = (it', .ok (some e)) ∧
        RangeFwdInv R es (.included p) .unbounded (asRange it') (i + 1)) ∨
      ((∀ e, es[i]? = some e → p.isPrefixOf e.1 = false) ∧
        PrefixIter.next step' it = (it', .ok none)) := by
  obtain ⟨c', hseek, hR'⟩ := rangeSeek_inv hsim hasc (asRange it) i hI
  have hp : it.pre = p := by injection hI.1
  subst hp
  rw [PrefixIter.next_finish, prefixSeek_eq, hseek]
  refine ⟨{ it with cursor := c', start := false }, ?_⟩
  rcases fwd_finish (fun c => { it with cursor := c, start := false }) it.pre.isPrefixOf hR' with
    ⟨e, he, hg, hf, hR⟩ | h
  · exact .inl ⟨e, he, hg, hf, rfl, rfl, .inr ⟨rfl, i, rfl, hR⟩⟩
  · exact .inr h

/-- C05 (forward), for any cursor simulating the specification cursor, from any position. -/
theorem prefix_collect (hsim : Sim es step' R) (hasc : StrictAsc es) (c0 : γ) (pos0 : Pos)
    (hR : R c0 pos0) (p : Bytes) (fuel : Nat) (hf : es.length < fuel) :
    collect (PrefixIter.next step') fuel { cursor := c0, pre := p } [] =
      some (Spec.withPrefix es p) := by
  have := collect_fwd (PrefixIter.next step') es (fun e => p.isPrefixOf e.1)
    (fun it i => RangeFwdInv R es (.included p) .unbounded (asRange it) i) (prefixFwd_step hsim hasc p) fuel
    { cursor := c0, pre := p } (startIdx es (.included p)) []
    ⟨rfl, rfl, .inl ⟨rfl, ⟨pos0, hR⟩, rfl⟩⟩ (by omega)
  rw [this, startIdx_included, withPrefix_eq_fwd es hasc]
  rfl

/-- The side condition of the backward prefix iterator.  `move_on_last_prefix` calls `current()`
    right after a floor seek `le np` (`np = advance_key(p)`) that returned `None`; the specification
    leaves that `current()` open (position `lost`).  All that is needed — and it is necessary, see
    `lostCurrentOK_of_prefix_collect_rev` — is that this one call does not fail and does not
    return an entry that starts with `p`. -/
def LostCurrentOK (step' : γ → Op → γ × Res) (c0 : γ) (p : Bytes) : Prop :=
  ∀ np c1, advanceKey p = some np → step' c0 (.le np) = (c1, .ok none) →
    ∃ c2 r, step' c1 .current = (c2, .ok r) ∧ ∀ e, r = some e → p.isPrefixOf e.1 = false

theorem lostCurrentOK_stepTotal (es : List Entry) (pos : Pos) (p : Bytes) :
    LostCurrentOK (Spec.stepTotal es) pos p := by
  intro np c1 _ hle
  have h1 : c1 = .lost := by
    have hs : Spec.step es pos (.le np) = landB es (upperBound es np) := TCursor.step_le pos np
    unfold Spec.stepTotal at hle
    rw [hs] at hle
    unfold landB at hle
    by_cases h0 : upperBound es np = 0
    · simp only [h0, if_true] at hle
      exact (Prod.mk.inj hle).1.symm
    · simp only [h0, if_false, TCursor.land_eq] at hle
      have hlt : upperBound es np - 1 < es.length := by
        have := upperBound_le_length es np; omega
      simp [hlt] at hle
  subst h1
  exact ⟨.lost, none, rfl, fun e h => by cases h⟩

theorem moveOnLastPrefix_seek (hsim : Sim es step' R) (hasc : StrictAsc es) (c : γ) (pos : Pos)
    (hR : R c pos) (p : Bytes) (hside : LostCurrentOK step' c p) :
    BwdSeekP R es p.isPrefixOf (prefixEndIdx es p) (moveOnLastPrefix step' c p) := by
  unfold moveOnLastPrefix prefixEndIdx
  cases hp : advanceKey p with
  | none =>
    simp only
    exact bwdSeek_of_landB hsim hR (Nat.le_refl _) (step_last es pos)
  | some np =>
    simp only
    obtain ⟨c1, ⟨h0, h1, _⟩ | ⟨m, e, h0, h1, h2, h3⟩⟩ :=
      sim_landB hsim hR (upperBound_le_length es np) (TCursor.step_le pos np)
    · obtain ⟨c2, r, hc, hr⟩ := hside np c1 hp h1
      simp only [h1, hc]
      refine .inl ⟨?_, r, rfl, hr⟩
      rcases bound_cases es hasc np with ⟨hub, _⟩ | ⟨hub, _⟩ <;> omega
    · simp only [h2]
      obtain ⟨k, v⟩ := e
      rcases bound_cases es hasc np with ⟨hub, _, hne⟩ | ⟨hub, e1, he1, hk⟩
      · have hkq : k ≠ np := hne m (k, v) (by omega) h1
        simp only [if_neg hkq]
        obtain ⟨c2, hc, hR2⟩ := sim_some hsim h3 (step_current_at es m)
        rw [hc, h1]
        exact .inr ⟨m, (k, v), by omega, h1, rfl, hR2⟩
      · have hm : m = lowerBound es np := by omega
        subst hm
        rw [he1] at h1
        cases h1
        simp only at hk
        subst hk
        simp only [if_true]
        exact bwdSeek_of_landB hsim h3 (TCursor.lowerBound_le es k) (TCursor.step_prev_at _)

def PrefixBwdInv (R : γ → Pos → Prop) (es : List Entry) (step' : γ → Op → γ × Res) (p : Bytes)
    (it : PrefixIter γ) (n : Nat) : Prop :=
  it.pre = p ∧ n ≤ es.length ∧
    ((it.start = true ∧ (∃ pos, R it.cursor pos) ∧ LostCurrentOK step' it.cursor p ∧
        n = prefixEndIdx es p) ∨
     (it.start = false ∧ R it.cursor (.at n)))

theorem prefixSeekRev_inv (hsim : Sim es step' R) (hasc : StrictAsc es) {p : Bytes}
    (it : PrefixIter γ) (n : Nat) (hI : PrefixBwdInv R es step' p it n) :
    BwdSeekP R es p.isPrefixOf n (prefixSeekRev step' it) := by
  obtain ⟨hp, hn, ⟨hs, ⟨pos, hR⟩, hside, hn0⟩ | ⟨hs, hR⟩⟩ := hI
  · subst hn0
    unfold prefixSeekRev
    simp only [hs, if_true, hp]
    exact moveOnLastPrefix_seek hsim hasc it.cursor pos hR p hside
  · unfold prefixSeekRev
    simp only [hs, Bool.false_eq_true, if_false]
    exact bwdSeek_of_landB hsim hR hn (TCursor.step_prev_at n)

theorem prefixBwd_step (hsim : Sim es step' R) (hasc : StrictAsc es) (p : Bytes)
    (it : PrefixIter γ) (n : Nat) (hI : PrefixBwdInv R es step' p it n) :
    ∃ it',
      (∃ m e, n = m + 1 ∧ es[m]? = some e ∧ p.isPrefixOf e.1 = true ∧
        PrefixIter.nextRev step' it = (it', .ok (some e)) ∧ PrefixBwdInv R es step' p it' m) ∨
      ((∀ m e, n = m + 1 → es[m]? = some e → p.isPrefixOf e.1 = false) ∧
        PrefixIter.nextRev step' it = (it', .ok none)) := by
  have hseek := prefixSeekRev_inv hsim hasc it n hI
  obtain ⟨hp, hn, _⟩ := hI
  subst hp
  rw [PrefixIter.nextRev_finish]
  refine ⟨{ it with cursor := (prefixSeekRev step' it).1, start := false }, ?_⟩
  rcases bwd_finish (fun c => { it with cursor := c, start := false }) hseek with
    ⟨m, e, h0, he, hg, hf, hR'⟩ | ⟨hb, hf⟩
  · exact .inl ⟨m, e, h0, he, hg, hf, rfl, by omega, .inr ⟨rfl, hR'⟩⟩
  · exact .inr ⟨hb, hf⟩

/-- C05 (backward), for any cursor simulating the specification cursor, from any position,
    under the side condition `LostCurrentOK`. -/
theorem prefix_collect_rev (hsim : Sim es step' R) (hasc : StrictAsc es) (c0 : γ) (pos0 : Pos)
    (hR : R c0 pos0) (p : Bytes) (hside : LostCurrentOK step' c0 p)
    (fuel : Nat) (hf : es.length < fuel) :
    collect (PrefixIter.nextRev step') fuel { cursor := c0, pre := p } [] =
      some (Spec.withPrefix es p).reverse := by
  have hle := prefixEndIdx_le_length es p
  have := collect_bwd (PrefixIter.nextRev step') es (fun e => p.isPrefixOf e.1)
    (PrefixBwdInv R es step' p) (prefixBwd_step hsim hasc p) fuel
    { cursor := c0, pre := p } (prefixEndIdx es p) []
    ⟨rfl, hle, .inl ⟨rfl, ⟨pos0, hR⟩, hside, rfl⟩⟩ hle (by omega)
  rw [this, withPrefix_reverse_eq_bwd es hasc]
  rfl

/-! ### the side condition is necessary -/

theorem collect_acc_prefix {ι : Type} (nxt : ι → ι × Res) :
    ∀ (fuel : Nat) (it : ι) (acc l : List Entry), collect nxt fuel it acc = some l →
      ∃ l', l = acc.reverse ++ l' := by
  intro fuel
  induction fuel with
  | zero =>
    intro it acc l h
    simp only [collect, Option.some.injEq] at h
    exact ⟨[], by simp [h]⟩
  | succ fuel ih =>
    intro it acc l h
    rcases hn : nxt it with ⟨it', r⟩
    simp only [collect, hn] at h
    cases r with
    | err => cases h
    | ok o =>
      cases o with
      | none =>
        simp only [Option.some.injEq] at h
        exact ⟨[], by simp [h]⟩
      | some e =>
        obtain ⟨l', hl⟩ := ih it' (e :: acc) l h
        exact ⟨e :: l', by simp [hl]⟩

/-- `LostCurrentOK` is the weakest side condition: whenever the backward prefix iterator over a
    simulating cursor yields the specified list (with any non-zero fuel), the condition holds. -/
theorem lostCurrentOK_of_prefix_collect_rev (hsim : Sim es step' R) (hasc : StrictAsc es) (c0 : γ)
    (pos0 : Pos) (hR : R c0 pos0) (p : Bytes) (fuel : Nat) (hf : 0 < fuel)
    (h : collect (PrefixIter.nextRev step') fuel { cursor := c0, pre := p } [] =
      some (Spec.withPrefix es p).reverse) :
    LostCurrentOK step' c0 p := by
  intro np c1 hp hle
  -- the floor seek failed, so no entry is `≤ np`, and the specified list is empty
  have hub : upperBound es np = 0 := by
    obtain ⟨c', ⟨h0, _⟩ | ⟨m, e, _, _, h2, _⟩⟩ :=
      sim_landB hsim hR (upperBound_le_length es np) (TCursor.step_le pos0 np)
    · exact h0
    · rw [hle] at h2; cases h2
  have hlb : lowerBound es np = 0 := by
    rcases bound_cases es hasc np with ⟨h1, _⟩ | ⟨h1, _⟩ <;> omega
  have hnil : (Spec.withPrefix es p).reverse = [] := by
    rw [withPrefix_reverse_eq_bwd es hasc, prefixEndIdx, hp]
    simp [hlb]
  rw [hnil] at h
  obtain ⟨fuel, rfl⟩ : ∃ f, fuel = f + 1 := ⟨fuel - 1, by omega⟩
  rcases hcur : step' c1 .current with ⟨c2, r⟩
  have hseek : prefixSeekRev step' { cursor := c0, pre := p } = (c2, r) := by
    simp only [prefixSeekRev, moveOnLastPrefix, if_true, hp, hle, hcur]
  simp only [collect, PrefixIter.nextRev_finish, hseek] at h
  cases r with
  | err => simp [finish] at h
  | ok o =>
    refine ⟨c2, o, rfl, fun e he => ?_⟩
    subst he
    cases hpe : p.isPrefixOf e.1 with
    | false => rfl
    | true =>
      obtain ⟨k, v⟩ := e
      simp only at hpe
      simp only [finish, hpe, if_true] at h
      obtain ⟨l', hl⟩ := collect_acc_prefix _ _ _ _ _ h
      simp at hl

/-! ### another sufficient condition: `current()` only ever returns entries of the file -/

theorem lt_of_upperBound_eq_zero (es : List Entry) (hasc : StrictAsc es) (q : Bytes)
    (h0 : upperBound es q = 0) : ∀ e ∈ es, q < e.1 := by
  obtain ⟨a, b, h1, h2, _, h4⟩ := TCursor.upperBound_split_asc hasc q
  rw [h0, List.length_eq_zero_iff] at h2
  subst h2; subst h1
  exact h4

/-- If, after a failed floor seek, `current()` returns nothing or *some entry of the file*
    (whichever), the side condition holds. -/
theorem lostCurrentOK_of_mem (hsim : Sim es step' R) (hasc : StrictAsc es) (c0 : γ)
    (pos0 : Pos) (hR : R c0 pos0) (p : Bytes)
    (hmem : ∀ q c1, step' c0 (.le q) = (c1, .ok none) →
      ∃ c2 r, step' c1 .current = (c2, .ok r) ∧ ∀ e, r = some e → e ∈ es) :
    LostCurrentOK step' c0 p := by
  intro np c1 hp hle
  have hub : upperBound es np = 0 := by
    obtain ⟨c', ⟨h0, _⟩ | ⟨m, e, _, _, h2, _⟩⟩ :=
      sim_landB hsim hR (upperBound_le_length es np) (TCursor.step_le pos0 np)
    · exact h0
    · rw [hle] at h2; cases h2
  obtain ⟨c2, r, h1, h2⟩ := hmem np c1 hle
  refine ⟨c2, r, h1, fun e he => ?_⟩
  exact not_isPrefixOf_of_advanceKey_le hp
    (List.le_of_lt (lt_of_upperBound_eq_zero es hasc np hub e (h2 e he)))

end main

end Grenad.IterP
