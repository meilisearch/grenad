/-
  Grenad.Proofs.Assembly — composition of T-block, T-writer, T-cursor and the simulation lifting
  into statements about the byte-level reader `RC.step byteOps (loadCursor cd file) true` over a
  file produced by the writer.

  Layout
  * `ByteSim s load Rb`: a byte-level loader whose blocks, at the offsets of an abstract store `s`,
    are `Rb`-related to the abstract blocks, and `Rb` is a simulation of `LC.ops` by `byteOps`.
    At offsets the store does not know the byte loader may return anything (garbage parses);
    `ByteSim.step` shows this never matters, because the abstract cursor never reports an error
    (`NE_step`, AssemblyNoErr.lean) and an operation that does not fail is stable under
    extensions of the loader (`step_load_mono`, NoFault.lean).
  * `RS`: the relation between byte-level reader states and specification positions; `RS_sim` is
    the hypothesis `IterP.Sim` of the iterator theorems, `RS_lostCurrent` their side condition.
  * `scan`: repeated `next` / `prev`; `scan_next`, `scan_prev` over any simulating cursor.
  * `Setting`: the writer's hypotheses; `Setting.byteSim`, `Setting.fileOK`.
-/
import Grenad.Proofs.AssemblySim
import Grenad.Proofs.AssemblyNoErr
import Grenad.Proofs.TBlock
import Grenad.Proofs.WriterTreeDecodeTB
import Grenad.Proofs.NoFault
import Grenad.Proofs.IterMain
import Grenad.Proofs.Loads

namespace Grenad.Assembly

open Grenad Grenad.TCursor Grenad.IterP

/-! ### Byte-level loader against an abstract store -/

/-- The byte-level loader agrees (up to `Rb`) with the abstract store wherever the latter has a
    block, and `byteOps` simulates `LC.ops` on `Rb`-related cursors. -/
structure ByteSim (s : Store) (load : Nat → Option BlockCursor) (Rb : BlockCursor → LC → Prop) :
    Prop where
  ops : OpsSim byteOps LC.ops Rb
  load : ∀ off x, s off = some x → ∃ b, load off = some b ∧ Rb b (LC.ofList x)

/-- The loader restricted to the offsets of the store. -/
def restrict (s : Store) (load : Nat → Option BlockCursor) : Nat → Option BlockCursor :=
  fun off => if (s off).isSome then load off else none

section
variable {s : Store} {load : Nat → Option BlockCursor} {Rb : BlockCursor → LC → Prop}

theorem ByteSim.loadSim (B : ByteSim s load Rb) : LoadSim (restrict s load) s.load Rb := by
  intro off
  cases hs : s off with
  | none => simp [restrict, hs, Store.load]
  | some x =>
    obtain ⟨b, hb, hr⟩ := B.load off x hs
    simp only [restrict, hs, Store.load, Option.isSome_some, if_true, hb, Option.map_some]
    exact hr

theorem restrict_le (s : Store) (load : Nat → Option BlockCursor) :
    ∀ off b, restrict s load off = some b → load off = some b := by
  intro off b hb
  unfold restrict at hb
  split at hb
  · exact hb
  · cases hb

/-- One operation of a byte-level reader (unrestricted loader, any in-block operations `ops` that
    simulate `LC.ops` on `Rb`) against one operation of the abstract reader that does not fail:
    related states, equal results. -/
theorem ByteSim.step (B : ByteSim s load Rb) {ops : BlockOps BlockCursor}
    (hops : OpsSim ops LC.ops Rb) {c : RC BlockCursor} {a : RC LC}
    (h : RCRel Rb c a) (op : Op) (hne : (RC.stepA s true a op).2 ≠ .err) :
    RCRel Rb (RC.step ops load true c op).1 (RC.stepA s true a op).1 ∧
      (RC.step ops load true c op).2 = (RC.stepA s true a op).2 := by
  have h1 := RC_step_sim hops B.loadSim true c a h op
  have hne' : (RC.step ops (restrict s load) true c op).2 ≠ .err := by
    rw [h1.2]; exact hne
  have h2 := step_load_mono ops (restrict s load) load (restrict_le s load) true c op hne'
  rw [h2]; exact h1

/-- Byte-level reader state `c` is at specification position `p`: it is related to an abstract
    reader state that satisfies the T-cursor invariant and the no-error invariant. -/
def RS (s : Store) (root levels : Nat) (es : List Entry) (Rb : BlockCursor → LC → Prop)
    (c : RC BlockCursor) (p : Spec.Pos) : Prop :=
  ∃ a, RCRel Rb c a ∧ Inv s root levels es a p ∧ NE s root levels es a

variable {root levels : Nat} {es : List Entry}

/-- The byte-level reader simulates the specification cursor, with `byteOps` (`B.ops`) as with any
    other in-block operations that simulate `LC.ops` on `Rb`. -/
theorem RS_sim (h : FileOK s root levels es) (B : ByteSim s load Rb)
    {ops : BlockOps BlockCursor} (hops : OpsSim ops LC.ops Rb) :
    Sim es (RC.step ops load true) (RS s root levels es Rb) := by
  intro c p op hR
  obtain ⟨a, hrel, hinv, hne⟩ := hR
  obtain ⟨n1, n2⟩ := NE_step h hne op
  obtain ⟨i1, i2⟩ := step_inv h hinv op
  obtain ⟨b1, b2⟩ := B.step hops hrel op n1
  exact ⟨⟨_, b1, i2, n2⟩, by rw [b2]; exact i1⟩

theorem RS_new (h : FileOK s root levels es) (Rb : BlockCursor → LC → Prop) (m : Meta.Meta)
    (hr : m.root = root) (hl : m.levels = levels) :
    RS s root levels es Rb (RC.new m) .fresh := by
  subst hr hl
  exact ⟨RC.new m, RCRel_new Rb m, Inv_c0 h, NE_c0 h⟩

/-- After any operation, `current()` on the byte-level reader returns nothing or an entry of the
    file (in particular in position `lost`, where the specification leaves it open). -/
theorem RS_current_mem (B : ByteSim s load Rb) {c : RC BlockCursor} {p : Spec.Pos}
    (hR : RS s root levels es Rb c p) {e : Entry} (he : c.current byteOps = some e) : e ∈ es := by
  obtain ⟨a, hrel, -, hne⟩ := hR
  have := Res.ok.inj (RC_step_sim B.ops B.loadSim true c a hrel .current).2
  exact hne.current_mem (this ▸ he)

/-- The side condition of the backward prefix iterator. -/
theorem RS_lostCurrent (h : FileOK s root levels es) (B : ByteSim s load Rb)
    {c0 : RC BlockCursor} {p0 : Spec.Pos} (hR : RS s root levels es Rb c0 p0) :
    ∀ q c1, RC.step byteOps load true c0 (.le q) = (c1, .ok none) →
      ∃ c2 r, RC.step byteOps load true c1 .current = (c2, .ok r) ∧ ∀ e, r = some e → e ∈ es := by
  intro q c1 hle
  have h1 := (RS_sim h B B.ops c0 p0 (.le q) hR).1
  rw [hle] at h1
  exact ⟨c1, c1.current byteOps, rfl, fun e he => RS_current_mem B h1 he⟩

end

/-! ### Histories and scans over any cursor simulating the specification cursor -/

section
variable {γ : Type}

/-- Run a history on a cursor and on the specification cursor; collect the result pairs. -/
def runBothG (step' : γ → Op → γ × Res) (es : List Entry) : γ → Spec.Pos → List Op → List (Res × Spec.SRes)
  | _, _, [] => []
  | c, p, op :: ops =>
    ((step' c op).2, (Spec.step es p op).2) ::
      runBothG step' es (step' c op).1 (Spec.step es p op).1 ops

/-- The same operation `n` times; the results in order. -/
def scan (step' : γ → Op → γ × Res) (op : Op) : Nat → γ → List Res
  | 0, _ => []
  | n + 1, c => (step' c op).2 :: scan step' op n (step' c op).1

variable {step' : γ → Op → γ × Res} {R : γ → Spec.Pos → Prop} {es : List Entry}

theorem runBothG_agree (hsim : Sim es step' R) {c : γ} {p : Spec.Pos} (hR : R c p)
    (ops : List Op) : ∀ x ∈ runBothG step' es c p ops, Spec.Agree x.1 x.2 := by
  induction ops generalizing c p with
  | nil => intro x hx; cases hx
  | cons op ops ih =>
    intro x hx
    obtain ⟨h1, h2⟩ := hsim c p op hR
    rcases List.mem_cons.1 hx with rfl | hx
    · exact h2
    · exact ih h1 x hx

/-- The cursor state after a history. -/
def stateAfter (step' : γ → Op → γ × Res) (c : γ) (ops : List Op) : γ :=
  ops.foldl (fun c op => (step' c op).1) c

/-- The specification position after a history. -/
def posAfter (es : List Entry) (p : Spec.Pos) (ops : List Op) : Spec.Pos :=
  ops.foldl (fun p op => (Spec.step es p op).1) p

theorem stateAfter_R (hsim : Sim es step' R) {c : γ} {p : Spec.Pos} (hR : R c p)
    (ops : List Op) : R (stateAfter step' c ops) (posAfter es p ops) := by
  induction ops generalizing c p with
  | nil => exact hR
  | cons op ops ih => exact ih (hsim c p op hR).1

/-- Two step functions that agree on a relation one of them preserves lead to the same state. -/
theorem stateAfter_congr {g : γ → Op → γ × Res} (hsim : Sim es step' R)
    (heq : ∀ c p, R c p → ∀ op, step' c op = g c op) :
    ∀ (ops : List Op) (c : γ) (p : Spec.Pos), R c p → stateAfter step' c ops = stateAfter g c ops
  | [], _, _, _ => rfl
  | op :: ops, c, p, hc => by
    simp only [stateAfter, List.foldl_cons]
    rw [← heq c p hc op]
    exact stateAfter_congr hsim heq ops _ _ (hsim c p op hc).1

/-- … and, for two readers over one loader, to the same run. -/
theorem run_congr {β : Type} {ops ops' : BlockOps β} {load : Nat → Option β} {fx : Bool}
    {R : RC β → Spec.Pos → Prop} (hsim : Sim es (RC.step ops load fx) R)
    (heq : ∀ c p, R c p → ∀ op, RC.step ops load fx c op = RC.step ops' load fx c op) :
    ∀ (hist : List Op) (c : RC β) (p : Spec.Pos), R c p →
      RC.run ops load fx c hist = RC.run ops' load fx c hist
  | [], _, _, _ => rfl
  | op :: rest, c, p, hc => by
    simp only [RC.run]
    rw [← heq c p hc op, run_congr hsim heq rest _ _ (hsim c p op hc).1]

/-- Key searches over any simulating cursor, from any related state. -/
theorem sim_ge (hsim : Sim es step' R) {c : γ} {p : Spec.Pos} (hR : R c p) (q : Bytes) :
    (step' c (.ge q)).2 = .ok (Spec.ceiling es q) := by
  have := (hsim c p (.ge q) hR).2
  rwa [step_ge_res] at this

theorem sim_le (hsim : Sim es step' R) (hasc : StrictAsc es) {c : γ} {p : Spec.Pos} (hR : R c p)
    (q : Bytes) : (step' c (.le q)).2 = .ok (Spec.floor es q) := by
  have := (hsim c p (.le q) hR).2
  rwa [step_le_res hasc] at this

theorem sim_eq (hsim : Sim es step' R) (hasc : StrictAsc es) {c : γ} {p : Spec.Pos} (hR : R c p)
    (q : Bytes) : (step' c (.eq q)).2 = .ok (Spec.lookup es q) := by
  have := (hsim c p (.eq q) hR).2
  rwa [step_eq_res hasc] at this

/-- Position before the forward scan emits entry `j`. -/
def posF : Nat → Spec.Pos
  | 0 => .fresh
  | j + 1 => .at j

theorem step_next_posF (es : List Entry) (j : Nat) :
    Spec.step es (posF j) .next = Spec.land es j := by
  cases j <;> rfl

theorem scan_next_aux (hsim : Sim es step' R) :
    ∀ (k j : Nat) (c : γ), j + k = es.length → R c (posF j) →
      scan step' .next (k + 1) c = (es.drop j).map (fun e => Res.ok (some e)) ++ [Res.ok none] := by
  intro k
  induction k with
  | zero =>
    intro j c hj hR
    obtain ⟨-, h2⟩ := hsim c _ .next hR
    rw [step_next_posF, land_of_length_le (by omega)] at h2
    simp only [Spec.Agree] at h2
    have : es.drop j = [] := List.drop_eq_nil_of_le (by omega)
    simp only [scan, h2, this, List.map_nil, List.nil_append]
  | succ k ih =>
    intro j c hj hR
    have hlt : j < es.length := by omega
    obtain ⟨h1, h2⟩ := hsim c _ .next hR
    rw [step_next_posF, land_of_lt hlt] at h1 h2
    simp only [Spec.Agree] at h2
    have := ih (j + 1) (step' c .next).1 (by omega) h1
    rw [scan, h2, this, List.drop_eq_getElem_cons hlt]
    rfl

/-- Forward scan: `next` × `(n + 1)` from a fresh cursor returns the entries in order, then
    `None`. -/
theorem scan_next (hsim : Sim es step' R) {c : γ} (hR : R c .fresh) :
    scan step' .next (es.length + 1) c = es.map (fun e => Res.ok (some e)) ++ [Res.ok none] := by
  have := scan_next_aux hsim es.length 0 c (by omega) hR
  simpa using this

/-- Position before the backward scan emits entry `j - 1` (with `j` entries left). -/
def posB (es : List Entry) (j : Nat) : Spec.Pos := if j = es.length then .fresh else .at j

theorem step_prev_posB (es : List Entry) {j : Nat} (hj : j ≤ es.length) :
    Spec.step es (posB es j) .prev =
      if j = 0 then (.lost, some none) else Spec.land es (j - 1) := by
  unfold posB
  by_cases h : j = es.length
  · subst h
    simp only [if_true]
    show (if es.isEmpty then _ else _) = _
    cases es with
    | nil => rfl
    | cons x xs => simp
  · simp only [h, if_false]
    rfl

theorem scan_prev_aux (hsim : Sim es step' R) :
    ∀ (j : Nat) (c : γ), j ≤ es.length → R c (posB es j) →
      scan step' .prev (j + 1) c =
        (es.take j).reverse.map (fun e => Res.ok (some e)) ++ [Res.ok none] := by
  intro j
  induction j with
  | zero =>
    intro c hj hR
    obtain ⟨-, h2⟩ := hsim c _ .prev hR
    rw [step_prev_posB es hj] at h2
    simp only [if_true, Spec.Agree] at h2
    simp only [scan, h2, List.take_zero, List.reverse_nil, List.map_nil, List.nil_append]
  | succ j ih =>
    intro c hj hR
    have hlt : j < es.length := by omega
    obtain ⟨h1, h2⟩ := hsim c _ .prev hR
    rw [step_prev_posB es hj] at h1 h2
    simp only [Nat.add_one_ne_zero, if_false, Nat.add_sub_cancel, land_of_lt hlt] at h1 h2
    simp only [Spec.Agree] at h2
    have hpos : posB es j = .at j := by unfold posB; simp; omega
    have := ih (step' c .prev).1 (by omega) (hpos ▸ h1)
    rw [scan, h2, this, List.take_succ_eq_append_getElem hlt]
    simp only [List.reverse_append, List.reverse_cons, List.reverse_nil, List.nil_append,
      List.map_cons, List.cons_append]

/-- Backward scan: `prev` × `(n + 1)` from a fresh cursor returns the entries in reverse order,
    then `None`. -/
theorem scan_prev (hsim : Sim es step' R) {c : γ} (hR : R c .fresh) :
    scan step' .prev (es.length + 1) c =
      es.reverse.map (fun e => Res.ok (some e)) ++ [Res.ok none] := by
  have := scan_prev_aux hsim es.length c (Nat.le_refl _) (by unfold posB; simpa using hR)
  simpa using this

end

/-- The block relation: the byte-level cursor is over the parse of one of the emitted blocks and
    represents the list cursor over that block's entries. -/
def Rb (iv : Nat) (log : List Emitted) (c : BlockCursor) (l : LC) : Prop :=
  ∃ e ∈ log, ∃ b, BlockOf iv e.items b ∧ BRepr e.items b c l

theorem Rb_ops (iv : Nat) (log : List Emitted) : OpsSim byteOps LC.ops (Rb iv log) := by
  have h : ∀ mov c l, Rb iv log c l → Rb iv log (byteOps.apply mov c).1 (LC.ops.apply mov l).1 ∧
      (byteOps.apply mov c).2 = (LC.ops.apply mov l).2 := by
    rintro mov c l ⟨e, he, b, hb, hr⟩
    obtain ⟨h1, h2⟩ := byteOps_sim hb hr mov
    exact ⟨⟨e, he, b, hb, h1⟩, h2⟩
  refine ⟨?_, h .first, h .last, h .next, h .prev, fun b b' q => h (.ge q) b b'⟩
  rintro c l ⟨e, he, b, hb, hr⟩
  exact byteOps_current hb hr

/-- The hypotheses of the round trip: lawful codec, `index_levels ≤ 255`, strictly ascending
    input with key/value lengths below `2^32`, `index_key_interval ≥ 1`, a successful run, and the
    size side conditions (file and entry count below `2^64`, codec id valid, every emitted block
    shorter than `2^32` bytes — T-block's footer assumption). -/
structure Setting (cd : Codec) (cfg : WCfg) (es : List Entry) (file : Bytes) (log : List Emitted) :
    Prop where
  H : WriterHyps cd cfg es
  hiv : 1 ≤ cfg.interval
  hrun : W.run cd cfg es = .ok (file, log)
  hfile : file.length < 2 ^ 64
  hcount : es.length < 2 ^ 64
  hid : cd.id ≤ 5
  hsmall : ∀ e ∈ log, e.raw.length < 2 ^ 32

section
variable {cd : Codec} {cfg : WCfg} {es : List Entry} {file : Bytes} {log : List Emitted}

/-- A byte loader that reads every emitted block back at its offset agrees with the abstract
    store of the log, whatever else the bytes `f` hold. -/
theorem Setting.byteSim_of_loads (S : Setting cd cfg es file log) (f : Bytes)
    (hload : ∀ e ∈ log, loadBlock cd f e.offset = Block.parse e.raw) :
    ByteSim (storeOf log) (loadCursor cd f) (Rb cfg.interval log) where
  ops := Rb_ops _ _
  load := by
    intro off x hs
    obtain ⟨e, he, rfl, rfl⟩ := storeOf_some hs
    obtain ⟨-, -, -, hmade, -⟩ := T_writer_bytes S.H S.hrun S.hfile
    obtain ⟨w, hw, hraw, hitems⟩ := hmade e he
    have hbl : w.buffer.length < 2 ^ 32 := by
      have h1 : w.buffer.length ≤ w.finish.length := by simp [BW.finish]
      have h2 := S.hsmall e he
      rw [hraw] at h2
      omega
    obtain ⟨b, hp, -, -, hb⟩ := parse_built S.hiv hw.built hbl
    refine ⟨BlockCursor.ofBlock b, ?_, e, he, b, hitems ▸ hb, byteOps_init _ _⟩
    unfold loadCursor
    rw [hload e he, hraw, hp]
    rfl

/-- The byte loader on the written file against the abstract store of the log. -/
theorem Setting.byteSim (S : Setting cd cfg es file log) :
    ByteSim (storeOf log) (loadCursor cd file) (Rb cfg.interval log) :=
  S.byteSim_of_loads file (T_writer_bytes S.H S.hrun S.hfile).1

/-- The abstract store of the log is a well-formed file and the trailer parses. -/
theorem Setting.fileOK (S : Setting cd cfg es file log) :
    ∃ root, FileOK (storeOf log) root cfg.levels es ∧
      Meta.parse file = .ok { version := 2, root := root, codec := cd.id, count := es.length,
                              levels := cfg.levels } :=
  T_writer_tree S.H S.hrun S.hfile S.hcount S.hid

/-- Everything the property theorems need, in one statement: the parsed metadata, and the
    simulation of the specification cursor by the byte-level reader from the freshly opened
    cursor. -/
theorem Setting.main (S : Setting cd cfg es file log) {m : Meta.Meta}
    (hm : Meta.parse file = .ok m) :
    (m.version = 2 ∧ m.codec = cd.id ∧ m.count = es.length ∧ m.levels = cfg.levels) ∧
    ∃ (R : RC BlockCursor → Spec.Pos → Prop),
      Sim es (RC.step byteOps (loadCursor cd file) true) R ∧ R (RC.new m) .fresh ∧
      (∀ c p, R c p → ∀ q c1, RC.step byteOps (loadCursor cd file) true c (.le q) = (c1, .ok none) →
        ∃ c2 r, RC.step byteOps (loadCursor cd file) true c1 .current = (c2, .ok r) ∧
          ∀ e, r = some e → e ∈ es) := by
  obtain ⟨root, hok, hparse⟩ := S.fileOK
  rw [hm] at hparse
  cases hparse
  refine ⟨⟨rfl, rfl, rfl, rfl⟩, RS (storeOf log) root cfg.levels es (Rb cfg.interval log),
    RS_sim hok S.byteSim S.byteSim.ops, RS_new hok _ _ rfl rfl, ?_⟩
  intro c p hR
  exact RS_lostCurrent hok S.byteSim hR

end

end Grenad.Assembly
