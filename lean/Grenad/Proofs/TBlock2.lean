/-
  The footer parse inverts `BW.finish` (`parse_finish`, `parse_built`); `entryAt` on a written payload
  decodes the entry at every entry offset (`entryAt_offAt`).
-/
import Grenad.Proofs.TBlock1

set_option linter.unusedSimpArgs false

namespace Grenad

theorem be64s_flatMap (l : List Nat) (h : ∀ x ∈ l, x < 2^64) :
    Block.be64s l.length (l.flatMap be64) = l := by
  induction l with
  | nil => rfl
  | cons x l ih =>
    have hx : (be64 x).length = 8 := be64_length x
    simp only [List.flatMap_cons, List.length_cons, Block.be64s]
    rw [List.take_left' hx, List.drop_left' hx, beVal_be64 (h x (by simp)),
      ih (fun y hy => h y (by simp [hy]))]

theorem parse_finish (w : BW) (h1 : w.offsets.length < 2^32) (h2 : ∀ x ∈ w.offsets, x < 2^64) :
    Block.parse w.finish = some { payload := w.buffer, offsets := w.offsets } := by
  have hlen : w.finish.length = w.buffer.length + w.offsets.length * 8 + 4 := by
    simp only [BW.finish, List.length_append, flatMap_be64_length, be32_length]
  have hdrop : w.finish.drop (w.finish.length - 4) = be32 w.offsets.length := by
    have : w.finish.length - 4 = (w.buffer ++ w.offsets.flatMap be64).length := by
      simp only [hlen, List.length_append, flatMap_be64_length]; omega
    rw [this, BW.finish, List.drop_left]
  unfold Block.parse
  simp only [hdrop, beVal_be32 h1]
  have hn1 : ¬ w.finish.length < 4 := by omega
  have hn2 : ¬ w.finish.length < 4 + w.offsets.length * 8 := by omega
  have hp : w.finish.length - 4 - w.offsets.length * 8 = w.buffer.length := by omega
  simp only [hn1, hn2, if_false, hp]
  have e1 : w.finish.take w.buffer.length = w.buffer := by
    simp [BW.finish, List.append_assoc]
  have e2 : (w.finish.drop w.buffer.length).take (w.offsets.length * 8) = w.offsets.flatMap be64 := by
    rw [BW.finish, List.append_assoc, List.drop_left, ← flatMap_be64_length, List.take_left]
  rw [e1, e2, be64s_flatMap _ h2]

/-- `b` is the block with entries `es` and an offset table with interval `iv`, as produced by
    the block writer (`parse_built`). -/
structure BlockOf (iv : Nat) (es : List Entry) (b : Block) : Prop where
  iv_pos : 1 ≤ iv
  asc : StrictAsc es
  lens : ∀ e ∈ es, e.1.length < 2^32 ∧ e.2.length < 2^32
  payload : b.payload = frames es
  offsets : b.offsets = offsetTable iv es

theorem offAt_le (es : List Entry) (i : Nat) : offAt es i ≤ (frames es).length := by
  rw [offAt_eq_length]
  conv => rhs; rw [← List.take_append_drop i es, frames_append]
  simp

theorem offsetTable_length_le (iv : Nat) (es : List Entry) :
    2 * (offsetTable iv es).length ≤ (frames es).length + 2 := by
  simp only [offsetTable, List.length_map, List.length_range]
  have := Nat.div_le_self (es.length - 1) iv
  have := length_le_frames es
  omega

/-- **T-block, parse side (footer).**  Assumption: the payload is shorter than `2^32` bytes
    (this bounds both the offsets, `< 2^64`, and their number, `< 2^32`). -/
theorem parse_built {iv : Nat} (hiv : 1 ≤ iv) {es : List Entry} {w : BW} (h : BW.Built iv es w)
    (hlen : w.buffer.length < 2^32) :
    ∃ b, Block.parse w.finish = some b ∧ b.payload = w.buffer ∧ b.offsets = w.offsets ∧
      BlockOf iv es b := by
  have hi := h.inv hiv
  have hbuf := hi.buffer
  have hoff := hi.offsets_eq hiv
  refine ⟨{ payload := w.buffer, offsets := w.offsets }, ?_, rfl, rfl, ?_⟩
  · apply parse_finish
    · have := offsetTable_length_le iv es
      rw [hoff]; rw [hbuf] at hlen; omega
    · intro x hx
      simp only [hoff, offsetTable, List.mem_map] at hx
      obtain ⟨j, _, rfl⟩ := hx
      have := offAt_le es (j * iv)
      rw [hbuf] at hlen; omega
  · exact ⟨hiv, hi.asc, hi.lens, hbuf, hoff⟩

theorem entryAt_offAt {es : List Entry} {b : Block} (hp : b.payload = frames es)
    (hl : ∀ e ∈ es, e.1.length < 2^32 ∧ e.2.length < 2^32) {i : Nat} (hi : i < es.length) :
    b.entryAt (offAt es i) = some (es[i].1, es[i].2, offAt es (i + 1)) := by
  have hb : b = { payload := frames (es.take i) ++ BW.frame es[i].1 es[i].2 ++ frames (es.drop (i + 1)),
                  offsets := b.offsets } := by
    rw [← frames_split es hi, ← hp]
  have hle := hl es[i] (List.getElem_mem hi)
  rw [hb, offAt_succ es hi, offAt_eq_length]
  exact entryAt_frame _ _ _ _ _ hle.1 hle.2

theorem entryAt_offAt_end {es : List Entry} {b : Block} (hp : b.payload = frames es) :
    b.entryAt (offAt es es.length) = none := by
  simp [Block.entryAt, hp, offAt_length]

end Grenad
