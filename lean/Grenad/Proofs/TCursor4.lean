/-
  T-cursor, part 4: the public absolute move `ge` from any cache-sound state of a non-empty
  file (`first` and `last` are `abs_finish` as it stands).
-/
import Grenad.Proofs.TCursor3

namespace Grenad.TCursor

open Grenad Spec

section
variable {s : Store} {lvl : Nat → Nat} {root levels : Nat} {es : List Entry}

theorem Ctx.es_pos (cx : Ctx s lvl (levels + 1) root es) : 0 < es.length :=
  List.length_pos_iff.2 (Sub.flat_ne cx.sub)

/-- `ge q` beyond the last key: answers `None`, stays cache-sound. -/
theorem ge_miss (cx : Ctx s lvl (levels + 1) root es) {c : RC LC}
    (hc : CScore s lvl root levels c) (q : Bytes) (hq : lowerBound es q = es.length) :
    ∃ c', RC.ge LC.ops s.load q c = (c', .ok none) ∧ CScore s lvl root levels c' := by
  obtain ⟨kids, hkne, hblk, hkids, hfl⟩ := Sub.inv_node cx.sub
  have hne : ∀ k ∈ kids, k.2 ≠ [] := fun k hk => Sub.flat_ne (hkids k hk)
  have hmiss : lowerBound (idx kids) q = (idx kids).length :=
    target_node_miss hne (hfl ▸ cx.asc) q (hfl ▸ hq)
  -- any cursor over the root block answers `None`
  have hroot : ∀ c2 : LC, c2.es = idx kids →
      LC.ops.apply (.ge q) c2 = (⟨c2.es, some (lowerBound c2.es q)⟩, none) := by
    intro c2 h2
    have hcne : c2.es ≠ [] := by rw [h2]; simpa using hkne
    rw [apply_abs (mov := .ge q) trivial c2 hcne]
    simp only [target, h2, hmiss]
    rw [List.getElem?_eq_none (Nat.le_refl _)]
  rw [RC.ge_eq]
  cases hin : c.inner with
  | none =>
    have hi : RC.iterIndex LC.ops s.load (.ge q) c =
        some ({ c with inner := none, log := root :: c.log }, none) := by
      rw [RC.iterIndex_none hin, hc.hbase,
        RC.initialIndex_stop (load_eq hblk) (hroot (LC.ofList (idx kids)) rfl)]
      rfl
    rw [RC.seek_none hi, if_pos rfl]
    exact ⟨_, rfl, hc.hbase, hc.hlevels, fun _ => hc.cur_none hin, (by intro l hl; cases hl)⟩
  | some inner =>
    obtain ⟨hlen, hcs⟩ := hc.inner inner hin
    cases inner with
    | nil => simp at hlen
    | cons x r =>
      obtain ⟨o, c0⟩ := x
      simp only [List.reverse_cons, CSr_append, List.length_reverse] at hcs
      simp only [List.length_cons] at hlen
      have hre : ∃ c2 log2, s root = some c2.es ∧
          RC.reload s.load root (o, c0) c.log = some (root, c2, log2) := by
        by_cases hj : root = o
        · subst hj
          refine ⟨c0, c.log, hcs.2.1 ?_, RC.reload_same _ _ _⟩
          have := Sub.lvl_eq cx.sub; omega
        · exact ⟨LC.ofList (idx kids), root :: c.log, hblk,
            by rw [RC.reload_other hj, load_eq hblk]; rfl⟩
      obtain ⟨c2, log2, hc2, hre⟩ := hre
      have hc2e : c2.es = idx kids := by rw [hblk] at hc2; exact (Option.some.inj hc2).symm
      have hi : RC.iterIndex LC.ops s.load (.ge q) c = some ({ c with
          inner := some ((root, ⟨c2.es, some (lowerBound c2.es q)⟩) :: r), log := log2 }, none) := by
        rw [RC.iterIndex_some hin, hc.hbase, RC.iterLevels_stop hre (hroot c2 hc2e)]
        rfl
      rw [RC.seek_none hi, if_pos rfl]
      refine ⟨_, rfl, hc.hbase, hc.hlevels, (by intro h; cases h), ?_⟩
      · intro l hl
        simp only [Option.some.injEq] at hl
        subst hl
        refine ⟨by simp [hlen], ?_⟩
        simp only [List.reverse_cons, CSr_append, List.length_reverse]
        exact ⟨hcs.1, ⟨fun _ => hc2, trivial⟩⟩

theorem ge_spec (cx : Ctx s lvl (levels + 1) root es) {c : RC LC}
    (hc : CScore s lvl root levels c) (q : Bytes) :
    ∃ c', RC.ge LC.ops s.load q c = (c', .ok es[lowerBound es q]?) ∧ CScore s lvl root levels c' ∧
      (lowerBound es q < es.length → PosInv s lvl root levels es c' (lowerBound es q)) := by
  by_cases ht : lowerBound es q < es.length
  · obtain ⟨c', h1, h2, h3⟩ := abs_finish cx (mov := .ge q) trivial true hc ht
    exact ⟨c', h1, h2, fun _ => h3⟩
  · have hq : lowerBound es q = es.length := by have := lowerBound_le es q; omega
    obtain ⟨c', h1, h2⟩ := ge_miss cx hc q hq
    refine ⟨c', ?_, h2, fun h => absurd h ht⟩
    rw [h1, hq, List.getElem?_eq_none (Nat.le_refl _)]

end

end Grenad.TCursor
