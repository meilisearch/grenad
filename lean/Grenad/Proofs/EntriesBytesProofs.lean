/-
  Grenad.Proofs.EntriesBytesProofs — the byte-level buffer `EntriesB` (Model/EntriesBytes.lean)
  refines the numeric `Entries` (Model/Sorter.lean):

  * `Rep b e view`: same numbers, and the allocation is
        `encodeBounds bounds ++ gap ++ backBytes e.items`
    where every bound is in range of the entry bytes and denotes the corresponding element of
    `view` (`view` is a permutation of `e.items`; equal to it as long as the bounds are not sorted).
  * `withCapacity`, `insert` (with any number of reallocations), `sortBoundsWith`, `clear`
    preserve `Rep` and succeed / trap exactly as the numeric model does; `iter` returns `view`.
  * `SorterB` simulates `Sorter` call by call.
-/
import Grenad.Model.EntriesBytes
import Grenad.Proofs.Bytes
import Grenad.Proofs.SorterRun

namespace Grenad
namespace EntriesB

/-! ### Fixed-width little-endian integers, bound records -/

@[simp] theorem encodeBound_length (a b c : Nat) : (encodeBound a b c).length = 16 := by
  simp [encodeBound, le64_length, le32_length]

@[simp] theorem encode_length (bd : EntryBound) : bd.encode.length = 16 := encodeBound_length _ _ _

theorem decodeBound_encodeBound {a b c : Nat} (ha : a < 2 ^ 64) (hb : b < 2 ^ 32)
    (hc : c < 2 ^ 32) : decodeBound (encodeBound a b c) = ⟨a, b, c⟩ := by
  have h1 : (encodeBound a b c).take 8 = le64 a := by
    unfold encodeBound; rw [List.append_assoc]; exact List.take_left' (le64_length a)
  have h2 : (encodeBound a b c).drop 8 = le32 b ++ le32 c := by
    unfold encodeBound; rw [List.append_assoc]; exact List.drop_left' (le64_length a)
  have h3 : (encodeBound a b c).drop 12 = le32 c := by
    unfold encodeBound; exact List.drop_left' (by simp [le64_length, le32_length])
  unfold decodeBound
  rw [h1, h2, h3, List.take_left' (le32_length b), List.take_of_length_le (by simp [le32_length]),
    leVal_le64 ha, leVal_le32 hb, leVal_le32 hc]

/-- The fields of a bound fit their machine types. -/
def Fits (bd : EntryBound) : Prop :=
  bd.keyStart < 2 ^ 64 ∧ bd.keyLen < 2 ^ 32 ∧ bd.dataLen < 2 ^ 32

theorem decode_encode {bd : EntryBound} (h : Fits bd) : decodeBound bd.encode = bd :=
  decodeBound_encodeBound h.1 h.2.1 h.2.2

@[simp] theorem encodeBounds_length (l : List EntryBound) :
    (encodeBounds l).length = 16 * l.length := by
  induction l with
  | nil => rfl
  | cons b r ih => simp [encodeBounds, ih]; omega

theorem encodeBounds_append (l r : List EntryBound) :
    encodeBounds (l ++ r) = encodeBounds l ++ encodeBounds r := by
  induction l with
  | nil => rfl
  | cons b l ih => simp [encodeBounds, ih]

theorem decodeBounds_encodeBounds (l : List EntryBound) (h : ∀ bd ∈ l, Fits bd) (rest : Bytes) :
    decodeBounds l.length (encodeBounds l ++ rest) = l := by
  induction l with
  | nil => rfl
  | cons b r ih =>
    simp only [encodeBounds, List.length_cons, decodeBounds, boundSize, List.append_assoc]
    rw [List.take_left' (encode_length b), List.drop_left' (encode_length b),
      decode_encode (h b (by simp)), ih (fun bd hbd => h bd (by simp [hbd]))]

/-! ### Guarded slice reads and writes -/

theorem sub_ok {a b : Nat} (h : b ≤ a) : Entries.sub a b = .ok (a - b) := by
  simp [Entries.sub, h]

theorem writeAt_mid (A old C new : Bytes) (off : Nat) (hoff : off = A.length)
    (hlen : new.length = old.length) :
    writeAt (A ++ (old ++ C)) off new = .ok (A ++ (new ++ C)) := by
  subst hoff
  unfold writeAt
  have h : A.length + new.length ≤ (A ++ (old ++ C)).length := by simp; omega
  rw [if_pos h, List.take_left' rfl, ← List.append_assoc A old C,
    List.drop_left' (by simp [hlen]), List.append_assoc]

theorem writeAt_front (old C new : Bytes) (hlen : new.length = old.length) :
    writeAt (old ++ C) 0 new = .ok (new ++ C) := by
  have := writeAt_mid [] old C new 0 rfl hlen
  simpa using this

theorem writeAt_length {s src s' : Bytes} {a : Nat} (h : writeAt s a src = .ok s') :
    s'.length = s.length := by
  unfold writeAt at h
  split at h
  · cases h; simp; omega
  · cases h

theorem readAt_mid (A M C : Bytes) (off n : Nat) (hoff : off = A.length) (hn : n = M.length) :
    readAt (A ++ (M ++ C)) off n = .ok M := by
  subst hoff hn
  unfold readAt
  have h : A.length + M.length ≤ (A ++ (M ++ C)).length := by simp
  rw [if_pos h, List.drop_left' rfl, List.take_left' rfl]

theorem split_at_len (l : Bytes) (n : Nat) (h : n ≤ l.length) :
    ∃ a b, l = a ++ b ∧ a.length = n :=
  ⟨l.take n, l.drop n, (List.take_append_drop n l).symm, by simp; omega⟩

/-- A list splits into a front of length `n`, a back of length `m` and what lies between. -/
theorem split3 (l : Bytes) (n m : Nat) (h : n + m ≤ l.length) :
    ∃ a c d, l = a ++ (c ++ d) ∧ a.length = n ∧ d.length = m := by
  obtain ⟨a, r, hl, ha⟩ := split_at_len l n (by omega)
  obtain ⟨c, d, hr', hc⟩ := split_at_len r (l.length - n - m) (by rw [hl]; simp; omega)
  have hr : l.length = a.length + (c.length + d.length) := by rw [hl, hr']; simp
  exact ⟨a, c, d, by rw [hl, hr'], ha, by omega⟩

/-- `buffer.len() - entries_len` is where the entry bytes start. -/
theorem sub_back (A c : Bytes) (n : Nat) (hn : n = c.length) :
    Entries.sub (A ++ c).length n = .ok A.length := by
  subst hn
  rw [List.length_append, sub_ok (Nat.le_add_left _ _), Nat.add_sub_cancel]

theorem length_sub_front (A c : Bytes) : (A ++ c).length - A.length = c.length := by
  rw [List.length_append, Nat.add_sub_cancel_left]

/-- Two consecutive writes, of `k` then of `v`, over a segment as long as both. -/
theorem writeAt_pair (A old C k v : Bytes) (hlen : old.length = k.length + v.length) :
    ∃ mid, writeAt (A ++ (old ++ C)) A.length k = .ok mid ∧
      writeAt mid (A.length + k.length) v = .ok (A ++ ((k ++ v) ++ C)) := by
  obtain ⟨o1, o2, ho, hl1⟩ := split_at_len old k.length (by omega)
  have hl2 : o2.length = v.length := by
    have : old.length = o1.length + o2.length := by rw [ho]; simp
    omega
  refine ⟨A ++ (k ++ (o2 ++ C)), ?_, ?_⟩
  · rw [ho, List.append_assoc]
    exact writeAt_mid A o1 (o2 ++ C) k _ rfl hl1.symm
  · have := writeAt_mid (A ++ k) o2 C v (A.length + k.length) (by simp) hl2.symm
    simpa only [List.append_assoc] using this

@[simp] theorem fresh_length (g : Nat → Nat → UInt8) (n : Nat) : (fresh g n).length = n := by
  simp [fresh]

/-! ### The entry bytes at the back; what a bound denotes -/

/-- The bytes of the entries region: the last inserted entry first (lowest address). -/
def backBytes : List Entry → Bytes
  | [] => []
  | e :: r => backBytes r ++ (e.1 ++ e.2)

theorem backBytes_snoc (l : List Entry) (k v : Bytes) :
    backBytes (l ++ [(k, v)]) = (k ++ v) ++ backBytes l := by
  induction l with
  | nil => simp [backBytes]
  | cons e r ih => simp [backBytes, ih]

@[simp] theorem backBytes_length (l : List Entry) : (backBytes l).length = itemsSize l := by
  induction l with
  | nil => rfl
  | cons e r ih => simp [backBytes, itemsSize, ih]; omega

/-- A bound lies within the entry bytes `back` (and its fields fit their machine types). -/
def InRange (back : Bytes) (bd : EntryBound) : Prop :=
  bd.keyLen + bd.dataLen ≤ bd.keyStart ∧ bd.keyStart ≤ back.length ∧ Fits bd

/-- The entry a bound denotes: `key_start` counts from the END of the buffer. -/
def denote (back : Bytes) (bd : EntryBound) : Entry :=
  ((back.drop (back.length - bd.keyStart)).take bd.keyLen,
   (back.drop (back.length - bd.keyStart + bd.keyLen)).take bd.dataLen)

theorem InRange.prepend {back : Bytes} {bd : EntryBound} (h : InRange back bd) (x : Bytes) :
    InRange (x ++ back) bd := by
  refine ⟨h.1, ?_, h.2.2⟩
  have := h.2.1
  simp; omega

/-- Adding bytes below the entries region (a new entry, the gap, the bounds) does not change
    what an in-range bound denotes. -/
theorem denote_prepend {back : Bytes} {bd : EntryBound} (h : InRange back bd) (x : Bytes) :
    denote (x ++ back) bd = denote back bd := by
  have h1 := h.2.1
  have e1 : (x ++ back).length - bd.keyStart = x.length + (back.length - bd.keyStart) := by
    simp; omega
  unfold denote
  rw [e1, Nat.add_assoc, List.drop_length_add_append, List.drop_length_add_append]

/-- The bound written by `insert` denotes the inserted entry. -/
theorem denote_new (back k v : Bytes) :
    denote ((k ++ v) ++ back) ⟨back.length + k.length + v.length, k.length, v.length⟩ = (k, v) := by
  unfold denote
  have e1 : ((k ++ v) ++ back).length - (back.length + k.length + v.length) = 0 := by
    simp; omega
  rw [e1]
  simp only [List.drop_zero, Nat.zero_add, List.append_assoc]
  rw [List.take_left' rfl, List.drop_left' rfl, List.take_left' rfl]

/-- A read inside the entry bytes, addressed from the start of the tail. -/
theorem readAt_back (gap back : Bytes) (off n : Nat) (h : off + n ≤ back.length) :
    readAt (gap ++ back) (gap.length + off) n = .ok ((back.drop off).take n) := by
  unfold readAt
  rw [if_pos (by simp; omega), List.drop_length_add_append]

/-- `tail.len() - key_start`. -/
theorem sub_keyStart (gap back : Bytes) {ks : Nat} (h : ks ≤ back.length) :
    Entries.sub (gap ++ back).length ks = .ok (gap.length + (back.length - ks)) := by
  rw [sub_ok (by simp; omega)]; congr 1; simp; omega

theorem readEntry_eq (gap back : Bytes) (bd : EntryBound) (h : InRange back bd) :
    readEntry (gap ++ back) bd = .ok (denote back bd) := by
  obtain ⟨h1, h2, _⟩ := h
  unfold readEntry
  rw [sub_keyStart gap back h2]
  simp only
  rw [readAt_back _ _ _ _ (by omega), Nat.add_assoc, readAt_back _ _ _ _ (by omega)]
  rfl

theorem readKey_eq (gap back : Bytes) (bd : EntryBound) (h : InRange back bd) :
    readKey (gap ++ back) bd = .ok (denote back bd).1 := by
  obtain ⟨h1, h2, _⟩ := h
  unfold readKey
  rw [sub_keyStart gap back h2]
  exact readAt_back _ _ _ _ (by omega)

theorem readEntries_eq (gap back : Bytes) (l : List EntryBound) (h : ∀ bd ∈ l, InRange back bd) :
    readEntries (gap ++ back) l = .ok (l.map (denote back)) := by
  induction l with
  | nil => rfl
  | cons bd r ih =>
    simp only [readEntries, readEntry_eq gap back bd (h bd (by simp)),
      ih (fun x hx => h x (by simp [hx])), List.map_cons]

theorem readKeys_eq (gap back : Bytes) (l : List EntryBound) (h : ∀ bd ∈ l, InRange back bd) :
    readKeys (gap ++ back) l = .ok (l.map (fun bd => ((denote back bd).1, bd))) := by
  induction l with
  | nil => rfl
  | cons bd r ih =>
    simp only [readKeys, readKey_eq gap back bd (h bd (by simp)),
      ih (fun x hx => h x (by simp [hx])), List.map_cons]

/-! ### The abstraction relation and the layout invariant -/

/-- **Abstraction relation**: the byte-level buffer and the numeric one carry the same numbers,
    and the allocation of the numeric one is live and as long as the byte string. -/
structure Abs (b : EntriesB) (e : Entries) : Prop where
  elen : b.entriesLen = e.entriesLen
  cnt  : b.boundsCount = e.boundsCount
  len  : e.bufLen = b.buf.length
  live : e.live = true

/-- **Layout**: the allocation is the bound records, a gap, and the entry bytes; every bound lies
    within the entry bytes. -/
structure Lay (b : EntriesB) (items : List Entry) (bounds : List EntryBound) (gap : Bytes) :
    Prop where
  buf  : b.buf = encodeBounds bounds ++ (gap ++ backBytes items)
  cnt  : b.boundsCount = bounds.length
  elen : b.entriesLen = itemsSize items
  rng  : ∀ bd ∈ bounds, InRange (backBytes items) bd

theorem Lay.length {b : EntriesB} {items : List Entry} {bounds : List EntryBound} {gap : Bytes}
    (h : Lay b items bounds gap) :
    b.buf.length = 16 * b.boundsCount + gap.length + b.entriesLen := by
  rw [h.buf, h.cnt, h.elen]; simp; omega

/-- The bound `insert` writes for `(k, v)` after `items`. -/
def newBound (items : List Entry) (k v : Bytes) : EntryBound :=
  ⟨itemsSize items + k.length + v.length, k.length, v.length⟩

/-- **`store`**: with room for 16 + |k| + |v| bytes in the gap, the three writes are in range and
    produce `bounds ++ [new bound]`, a smaller gap, and `k ++ v` in front of the entry bytes. -/
theorem store_lay {b : EntriesB} {items : List Entry} {bounds : List EntryBound} {gap : Bytes}
    (h : Lay b items bounds gap) (k v : Bytes) (hroom : 16 + k.length + v.length ≤ gap.length)
    (hk : k.length < 2 ^ 32) (hv : v.length < 2 ^ 32) (hsmall : b.buf.length < 2 ^ 64) :
    ∃ b' gap', store b k v = .ok b' ∧
      Lay b' (items ++ [(k, v)]) (bounds ++ [newBound items k v]) gap' ∧
      b'.buf.length = b.buf.length ∧ b'.entriesLen = b.entriesLen + k.length + v.length ∧
      b'.boundsCount = b.boundsCount + 1 := by
  have hlen := h.length
  -- the two arithmetic facts, while the context is small
  have hbnd : ¬ ((b.boundsCount + 1) * boundSize > b.buf.length) := by rw [boundSize]; omega
  have hstart : itemsSize items + k.length + v.length < 2 ^ 64 := by rw [← h.elen]; omega
  let E := encodeBounds bounds
  let back := backBytes items
  have hE : E.length = 16 * b.boundsCount := by simp [E, h.cnt]
  have hback : back.length = b.entriesLen := by simp [back, h.elen]
  -- the gap: 16 bytes for the bound, what stays free, and room for key and value
  obtain ⟨g1, g2, g3, hgap, hl1, hl3⟩ := split3 gap 16 (k.length + v.length) (by omega)
  have hb0 : b.buf = (E ++ (g1 ++ g2)) ++ (g3 ++ back) := by
    rw [h.buf, hgap]; simp only [List.append_assoc]; rfl
  have hsub : Entries.sub b.buf.length (b.entriesLen + k.length + v.length)
      = .ok (E ++ (g1 ++ g2)).length := by
    rw [hb0]
    exact sub_back _ _ _ (by rw [List.length_append, hl3, hback, Nat.add_assoc, Nat.add_comm])
  obtain ⟨buf1, w1, w2⟩ := writeAt_pair (E ++ (g1 ++ g2)) g3 back k v hl3
  rw [← hb0] at w1
  have hb2 : (E ++ (g1 ++ g2)) ++ ((k ++ v) ++ back) = E ++ (g1 ++ (g2 ++ (k ++ (v ++ back)))) := by
    simp only [List.append_assoc]
  rw [hb2] at w2
  have w3 : writeAt (E ++ (g1 ++ (g2 ++ (k ++ (v ++ back))))) (b.boundsCount * boundSize)
      (encodeBound (b.entriesLen + k.length + v.length) k.length v.length)
      = .ok (E ++ (encodeBound (b.entriesLen + k.length + v.length) k.length v.length
              ++ (g2 ++ (k ++ (v ++ back))))) :=
    writeAt_mid _ _ _ _ _ (by rw [hE, boundSize, Nat.mul_comm]) (by rw [hl1]; exact encodeBound_length _ _ _)
  have hlen2 : (E ++ (g1 ++ (g2 ++ (k ++ (v ++ back))))).length = b.buf.length := by
    rw [writeAt_length w2, writeAt_length w1]
  have hguard : ¬ ((b.boundsCount + 1) * boundSize
      > (E ++ (g1 ++ (g2 ++ (k ++ (v ++ back))))).length) := by
    rw [hlen2]; exact hbnd
  refine ⟨⟨E ++ (encodeBound (b.entriesLen + k.length + v.length) k.length v.length
        ++ (g2 ++ (k ++ (v ++ back)))), b.entriesLen + k.length + v.length,
      b.boundsCount + 1⟩, g2, ?_, ⟨?_, ?_, ?_, ?_⟩, ?_, rfl, rfl⟩
  · unfold store
    simp only [hsub, w1, w2, w3, hguard, if_false]
  · show E ++ (encodeBound (b.entriesLen + k.length + v.length) k.length v.length
        ++ (g2 ++ (k ++ (v ++ back)))) = _
    rw [encodeBounds_append, backBytes_snoc, h.elen]
    simp [E, back, newBound, encodeBounds, EntryBound.encode]
  · show b.boundsCount + 1 = _
    simp [h.cnt]
  · show b.entriesLen + k.length + v.length = _
    simp [itemsSize_append, itemsSize, h.elen]; omega
  · intro bd hbd
    rw [backBytes_snoc]
    rcases List.mem_append.1 hbd with hb | hb
    · exact (h.rng bd hb).prepend _
    · simp only [List.mem_singleton] at hb
      subst hb
      refine ⟨?_, ?_, ?_, hk, hv⟩
      · simp [newBound]
      · simp [newBound]; omega
      · exact hstart
  · show (E ++ (encodeBound (b.entriesLen + k.length + v.length) k.length v.length
        ++ (g2 ++ (k ++ (v ++ back))))).length = _
    rw [writeAt_length w3, hlen2]

/-- Doubling an aligned buffer below `2^62` bytes: the allocation succeeds, with unspecified bytes. -/
theorem alloc_double (g : Nat → Nat → UInt8) {n : Nat} (hal : n % 16 = 0) (hpos : 16 ≤ n)
    (hsm : n < 2 ^ 62) : alloc g (n * 2) = .ok (fresh g (n * 2), [.alloc (n * 2)]) := by
  unfold alloc Entries.alloc
  simp only [Entries.roundUp_of_mod (show n * 2 % 16 = 0 by omega), show ¬ n * 2 = 0 by omega,
    if_false, show ¬ (n * 2 ≥ 2 ^ 63) by omega]

/-- What `reallocate_buffer` reads from the old buffer: the bound records at the front, the entry
    bytes at the back; both slices and the subtraction are in range. -/
theorem Lay.reads {b : EntriesB} {items : List Entry} {bounds : List EntryBound} {gap : Bytes}
    (h : Lay b items bounds gap) :
    readAt b.buf 0 (b.boundsCount * boundSize) = .ok (encodeBounds bounds) ∧
    Entries.sub b.buf.length b.entriesLen = .ok (encodeBounds bounds ++ gap).length ∧
    readAt b.buf (encodeBounds bounds ++ gap).length
      (b.buf.length - (encodeBounds bounds ++ gap).length) = .ok (backBytes items) := by
  have hE : (encodeBounds bounds).length = b.boundsCount * boundSize := by
    rw [encodeBounds_length, h.cnt, boundSize, Nat.mul_comm]
  have hback : b.entriesLen = (backBytes items).length := by rw [backBytes_length, h.elen]
  have hb : b.buf = (encodeBounds bounds ++ gap) ++ backBytes items := by
    rw [h.buf, List.append_assoc]
  refine ⟨?_, ?_, ?_⟩
  · have := readAt_mid [] (encodeBounds bounds) (gap ++ backBytes items) 0
      (b.boundsCount * boundSize) rfl hE.symm
    rw [h.buf]; simpa using this
  · rw [hb]; exact sub_back _ _ _ hback
  · rw [hb, length_sub_front]
    have := readAt_mid (encodeBounds bounds ++ gap) (backBytes items) []
      (encodeBounds bounds ++ gap).length (backBytes items).length rfl rfl
    simpa using this

/-- **`reallocate_buffer`**: all four slice accesses are in range; the new allocation holds the
    same bound records at its front and the same entry bytes at its back. -/
theorem reallocate_lay (g : Nat → Nat → UInt8) {b : EntriesB} {items : List Entry}
    {bounds : List EntryBound} {gap : Bytes} (h : Lay b items bounds gap)
    (hal : b.buf.length % 16 = 0) (hpos : 16 ≤ b.buf.length) (hsm : b.buf.length < 2 ^ 62) :
    ∃ b' gap', reallocate g b = .ok (b', [.alloc (b.buf.length * 2), .dealloc b.buf.length]) ∧
      Lay b' items bounds gap' ∧ b'.buf.length = b.buf.length * 2 ∧
      b'.entriesLen = b.entriesLen ∧ b'.boundsCount = b.boundsCount := by
  have hlen := h.length
  let E := encodeBounds bounds
  let back := backBytes items
  have hE : E.length = 16 * b.boundsCount := by simp [E, h.cnt]
  have hback : back.length = b.entriesLen := by simp [back, h.elen]
  have r1 : readAt b.buf 0 (b.boundsCount * boundSize) = .ok E := h.reads.1
  have hsub : Entries.sub b.buf.length b.entriesLen = .ok (E ++ gap).length := h.reads.2.1
  have r2 : readAt b.buf (E ++ gap).length (b.buf.length - (E ++ gap).length) = .ok back :=
    h.reads.2.2
  have hg : ¬ (b.buf.length * 2 ≥ usizeLimit) := by unfold usizeLimit; omega
  obtain ⟨f1, f2, f3, hf, hl1, hl3⟩ :=
    split3 (fresh g (b.buf.length * 2)) E.length back.length (by simp; omega)
  have ha : alloc g (b.buf.length * 2) = .ok (f1 ++ (f2 ++ f3), [.alloc (b.buf.length * 2)]) := by
    rw [alloc_double g hal hpos hsm, hf]
  have w1 : writeAt (f1 ++ (f2 ++ f3)) 0 E = .ok (E ++ (f2 ++ f3)) := writeAt_front _ _ _ hl1.symm
  have hsub2 : Entries.sub (E ++ (f2 ++ f3)).length b.entriesLen = .ok (E ++ f2).length := by
    rw [← List.append_assoc]; exact sub_back (E ++ f2) f3 _ (by rw [hl3, hback])
  have hg2 : ¬ ((E ++ (f2 ++ f3)).length - (E ++ f2).length ≠ back.length) := by
    rw [← List.append_assoc, length_sub_front, hl3]; exact fun hne => hne rfl
  have w2 : writeAt (E ++ (f2 ++ f3)) (E ++ f2).length back = .ok (E ++ (f2 ++ back)) := by
    have := writeAt_mid (E ++ f2) f3 [] back (E ++ f2).length rfl hl3.symm
    simpa using this
  refine ⟨{ b with buf := E ++ (f2 ++ back) }, f2, ?_, ⟨rfl, h.cnt, h.elen, h.rng⟩, ?_, rfl, rfl⟩
  · unfold reallocate
    simp only [r1, hsub, r2, hg, if_false, ha, w1, hsub2, hg2, w2, List.singleton_append]
  · -- same length as the fresh allocation: `back` took the place of `f3`, `E` that of `f1`
    have : (E ++ (f2 ++ back)).length = (fresh g (b.buf.length * 2)).length := by
      rw [hf]; simp only [List.length_append, hl1, hl3]
    rw [this, fresh_length]

/-! ### The representation invariant and the simulation -/

/-- **Representation invariant.**  `b` represents the numeric buffer `e`, and iterating `b`
    yields `view` (a permutation of `e.items`: `e.items` itself until the bounds are sorted). -/
structure Rep (b : EntriesB) (e : Entries) (view : List Entry) : Prop where
  abs   : Abs b e
  inv   : Entries.Inv e
  small : b.buf.length < 2 ^ 63
  lay   : ∃ bounds gap, Lay b e.items bounds gap ∧
            bounds.map (denote (backBytes e.items)) = view
  perm  : view.Perm e.items

/-- Two results agree: both fail with the same error, or both succeed with related values. -/
def ResRel {ε α β : Type} (R : α → β → Prop) : Except ε α → Except ε β → Prop
  | .ok a, .ok b => R a b
  | .error x, .error y => x = y
  | _, _ => False

/-- Case analysis on two results that agree: either the same error, or related values. -/
@[elab_as_elim]
theorem ResRel.elim {ε α β : Type} {R : α → β → Prop}
    {motive : Except ε α → Except ε β → Prop} {x : Except ε α} {y : Except ε β}
    (h : ResRel R x y) (error : ∀ t, motive (.error t) (.error t))
    (ok : ∀ a b, R a b → motive (.ok a) (.ok b)) : motive x y := by
  rcases x with tx | a <;> rcases y with ty | b <;> simp only [ResRel] at h
  · subst h; exact error tx
  · exact ok a b h

theorem fits_eq_of_abs {b : EntriesB} {e : Entries} (h : Abs b e) (k v : Bytes) :
    fits b k v = Entries.fits e k v := by
  unfold fits Entries.fits remaining Entries.remaining
  simp only [h.elen, h.cnt, h.len, h.live, Bool.not_true, Bool.false_eq_true, if_false]
  rfl

theorem Rep.store {b : EntriesB} {e : Entries} {view : List Entry} (h : Rep b e view)
    (k v : Bytes) (hk : k.length ≤ u32Max) (hv : v.length ≤ u32Max)
    (hfit : e.used + Entries.entrySize k v ≤ e.bufLen) :
    ∃ b', EntriesB.store b k v = .ok b' ∧ Rep b' (e.push k v) (view ++ [(k, v)]) := by
  obtain ⟨bounds, gap, hl, hview⟩ := h.lay
  have hlen := hl.length
  have ha := h.abs
  have hsm := h.small
  unfold Entries.used Entries.entrySize boundSize at hfit
  unfold u32Max at hk hv
  rw [← ha.elen, ← ha.cnt, ha.len] at hfit
  obtain ⟨b', gap', hs, hl', hlen', hel', hcnt'⟩ :=
    store_lay hl k v (by omega) (by omega) (by omega) (by omega)
  refine ⟨b', hs, ⟨?_, ?_, ?_, ?_⟩, ?_, ?_, ⟨_, gap', hl', ?_⟩, ?_⟩
  · show b'.entriesLen = e.entriesLen + k.length + v.length
    rw [hel', ha.elen]
  · show b'.boundsCount = e.boundsCount + 1
    rw [hcnt', ha.cnt]
  · show e.bufLen = b'.buf.length
    rw [hlen', ha.len]
  · exact ha.live
  · refine h.inv.push k v ?_
    unfold Entries.used Entries.entrySize boundSize
    rw [← ha.elen, ← ha.cnt, ha.len]; exact hfit
  · rw [hlen']; exact hsm
  · show List.map (denote (backBytes (e.items ++ [(k, v)]))) (bounds ++ [newBound e.items k v])
      = view ++ [(k, v)]
    rw [backBytes_snoc, List.map_append, ← hview]
    congr 1
    · exact List.map_congr_left (fun bd hbd => denote_prepend (hl.rng bd hbd) _)
    · have := denote_new (backBytes e.items) k v
      rw [backBytes_length] at this
      simp only [List.map_cons, List.map_nil, newBound, this]
  · exact h.perm.append_right _

theorem Rep.realloc (g : Nat → Nat → UInt8) {b : EntriesB} {e : Entries} {view : List Entry}
    (h : Rep b e view) (hsm : e.bufLen < 2 ^ 62) :
    ∃ b', reallocate g b = .ok (b', [.alloc (e.bufLen * 2), .dealloc e.bufLen]) ∧
      Rep b' (e.scale 1) view := by
  obtain ⟨bounds, gap, hl, hview⟩ := h.lay
  have ha := h.abs
  have hi := h.inv
  obtain ⟨b', gap', hr, hl', hlen', hel', hcnt'⟩ :=
    reallocate_lay g hl (by rw [← ha.len]; exact hi.align) (by rw [← ha.len]; exact hi.pos)
      (by rw [← ha.len]; exact hsm)
  refine ⟨b', by rw [hr, ha.len], ⟨?_, ?_, ?_, ha.live⟩, hi.scale 1, ?_, ⟨bounds, gap', hl', hview⟩,
    h.perm⟩
  · rw [hel']; exact ha.elen
  · rw [hcnt']; exact ha.cnt
  · show e.bufLen * 2 ^ 1 = b'.buf.length
    rw [hlen', ha.len]
  · rw [hlen', ← ha.len]; omega

theorem Rep.realloc_big (g : Nat → Nat → UInt8) {b : EntriesB} {e : Entries} {view : List Entry}
    (h : Rep b e view) (hbig : 2 ^ 62 ≤ e.bufLen) : reallocate g b = .error .arith := by
  obtain ⟨bounds, gap, hl, _⟩ := h.lay
  have hal : b.buf.length % 16 = 0 := by rw [← h.abs.len]; exact h.inv.align
  rw [h.abs.len] at hbig
  obtain ⟨r1, hsub, r2⟩ := hl.reads
  unfold reallocate
  simp only [r1, hsub, r2]
  by_cases hg : b.buf.length * 2 ≥ usizeLimit
  · simp [hg]
  · have c2 : ¬ (b.buf.length * 2 = 0) := by omega
    have c3 : b.buf.length * 2 ≥ 2 ^ 63 := by omega
    simp [hg, alloc, Entries.alloc, Entries.roundUp_of_mod (show b.buf.length * 2 % 16 = 0 by omega),
      c2, c3]

/-- **Simulation of `insert`** (any fuel, any key and value, any fresh-memory contents): the
    byte-level doubling loop fails exactly when the numeric one does, with the same trap; otherwise
    both emit the same allocation events and the results are related, the view gaining `(k, v)` at
    its end. -/
theorem insert_sim (g : Nat → Nat → UInt8) (k v : Bytes) (fuel : Nat) :
    ∀ {b : EntriesB} {e : Entries} {view : List Entry}, Rep b e view →
    ResRel (fun rb re => rb.2 = re.2 ∧ Rep rb.1 re.1 (view ++ [(k, v)]))
      (insert g b k v fuel) (Entries.insert e k v fuel) := by
  induction fuel with
  | zero => intro b e view _; simp [insert, Entries.insert, ResRel]
  | succ fuel ih =>
    intro b e view h
    rw [Entries.insert_succ h.inv, insert, fits_eq_of_abs h.abs, Entries.fits_eq h.inv]
    by_cases hk : k.length > u32Max
    · simp [hk, ResRel]
    by_cases hv : v.length > u32Max
    · simp [hk, hv, ResRel]
    simp only [hk, hv, if_false]
    by_cases hf : e.used + Entries.entrySize k v ≤ e.bufLen
    · obtain ⟨b', hs, hr⟩ := h.store k v (by omega) (by omega) hf
      simp only [hf, decide_true, if_true, hs, Except.map, ResRel]
      exact ⟨trivial, hr⟩
    simp only [hf, decide_false, if_false]
    by_cases hb : 2 ^ 62 ≤ e.bufLen
    · simp [hb, h.realloc_big g hb, ResRel]
    simp only [hb, if_false]
    obtain ⟨b', hr, hrep⟩ := h.realloc g (by omega)
    rw [hr]
    dsimp only
    refine ResRel.elim (ih hrep) (fun t => rfl) ?_
    rintro ⟨b'', evb⟩ ⟨e'', eve⟩ ⟨hev, hr''⟩
    exact ⟨by rw [show evb = eve from hev], hr''⟩

/-- **`with_capacity`** establishes the invariant (or fails as the numeric model does). -/
theorem withCapacity_sim (g : Nat → Nat → UInt8) (cap : Nat) :
    ResRel (fun rb re => rb.2 = re.2 ∧ Rep rb.1 re.1 [] ∧ re.1.items = [])
      (withCapacity g cap) (Entries.withCapacity cap) := by
  unfold withCapacity alloc Entries.withCapacity Entries.alloc
  have hm := Entries.roundUp_mod cap
  by_cases h0 : Entries.roundUp cap = 0
  · simp [h0, ResRel]
  by_cases h1 : Entries.roundUp cap ≥ 2 ^ 63
  · simp [h0, h1, ResRel]
  simp only [h0, h1, if_false, ResRel]
  refine ⟨trivial, ⟨⟨rfl, rfl, by simp, rfl⟩, ⟨hm, ?_, ?_, rfl, rfl, rfl⟩, ?_, ⟨[], fresh g (Entries.roundUp cap), ?_, rfl⟩,
    List.Perm.nil⟩, trivial⟩
  · show 16 ≤ Entries.roundUp cap
    omega
  · show 0 + 16 * 0 ≤ Entries.roundUp cap
    omega
  · show (fresh g (Entries.roundUp cap)).length < 2 ^ 63
    simp; omega
  · exact ⟨by simp [encodeBounds, backBytes], rfl, rfl, by simp⟩

theorem splitBounds_eq {b : EntriesB} {items : List Entry} {bounds : List EntryBound} {gap : Bytes}
    (h : Lay b items bounds gap) : splitBounds b = .ok (bounds, gap ++ backBytes items) := by
  have hlen := h.length
  have hE : (encodeBounds bounds).length = b.boundsCount * boundSize := by
    simp [h.cnt, boundSize]; omega
  unfold splitBounds
  rw [if_neg (by simp only [boundSize]; omega)]
  have h1 : b.buf.take (b.boundsCount * boundSize) = encodeBounds bounds := by
    rw [h.buf]; exact List.take_left' hE
  have h2 : b.buf.drop (b.boundsCount * boundSize) = gap ++ backBytes items := by
    rw [h.buf]; exact List.drop_left' hE
  have h3 := decodeBounds_encodeBounds bounds (fun bd hbd => (h.rng bd hbd).2.2) []
  rw [List.append_nil] at h3
  rw [h1, h2, h.cnt, h3]

/-- **`iter`** returns the view: every bound is decoded as it was encoded, and every slice of the
    tail is in range and yields the bytes of the entry the bound denotes. -/
theorem Rep.iter {b : EntriesB} {e : Entries} {view : List Entry} (h : Rep b e view) :
    EntriesB.iter b = .ok view := by
  obtain ⟨bounds, gap, hl, hview⟩ := h.lay
  unfold EntriesB.iter
  rw [splitBounds_eq hl]
  simp only
  rw [readEntries_eq _ _ _ hl.rng, hview]

/-- The two regions never overlap. -/
theorem Rep.disjoint {b : EntriesB} {e : Entries} {view : List Entry} (h : Rep b e view) :
    16 * b.boundsCount + b.entriesLen ≤ b.buf.length := by
  obtain ⟨bounds, gap, hl, _⟩ := h.lay
  have := hl.length; omega

/-- The keyed bound list `sort_by_key` works on. -/
def keyed (back : Bytes) (bounds : List EntryBound) : List (Bytes × EntryBound) :=
  bounds.map (fun bd => ((denote back bd).1, bd))

theorem keyed_snd (back : Bytes) (bounds : List EntryBound) :
    (keyed back bounds).map (·.2) = bounds := by
  induction bounds with
  | nil => rfl
  | cons bd r ih => simp only [keyed, List.map_cons] at ih ⊢; rw [ih]

theorem keyed_denote (back : Bytes) (bounds : List EntryBound) :
    (keyed back bounds).map (fun p => denote back p.2) = bounds.map (denote back) := by
  induction bounds with
  | nil => rfl
  | cons bd r ih => simp only [keyed, List.map_cons] at ih ⊢; rw [ih]

theorem keyed_key {back : Bytes} {bounds : List EntryBound} {p : Bytes × EntryBound}
    (hp : p ∈ keyed back bounds) : (denote back p.2).1 = p.1 := by
  simp only [keyed, List.mem_map] at hp
  obtain ⟨bd, _, rfl⟩ := hp
  rfl

/-- **`sort_by_key` with any permuting `sort`**: the bounds area is overwritten in place by the
    permuted records (same length, so the write stays inside the bounds area); the entry bytes are
    untouched; the view becomes the same permutation of the old view. -/
theorem Rep.sortWith_core {b : EntriesB} {e : Entries} {view : List Entry} (h : Rep b e view)
    (sort : List (Bytes × EntryBound) → List (Bytes × EntryBound))
    (hperm : ∀ l, (sort l).Perm l) :
    ∃ bounds, bounds.map (denote (backBytes e.items)) = view ∧
      ∃ b', sortBoundsWith sort b = .ok b' ∧
        Rep b' e ((sort (keyed (backBytes e.items) bounds)).map (fun p => denote (backBytes e.items) p.2)) := by
  obtain ⟨bounds, gap, hl, hview⟩ := h.lay
  refine ⟨bounds, hview, ?_⟩
  let back := backBytes e.items
  let bounds' := (sort (keyed back bounds)).map (·.2)
  have hp : bounds'.Perm bounds := by
    have := (hperm (keyed back bounds)).map (·.2)
    rwa [keyed_snd] at this
  have hw : writeAt b.buf 0 (encodeBounds bounds') = .ok (encodeBounds bounds' ++ (gap ++ back)) := by
    rw [hl.buf]
    exact writeAt_front _ _ _ (by simp [hp.length_eq])
  refine ⟨{ b with buf := encodeBounds bounds' ++ (gap ++ back) }, ?_,
    ⟨h.abs.elen, h.abs.cnt, ?_, h.abs.live⟩,
    h.inv, ?_, ⟨bounds', gap, ⟨rfl, ?_, hl.elen, ?_⟩, ?_⟩, ?_⟩
  · unfold sortBoundsWith
    rw [splitBounds_eq hl]
    simp only
    rw [readKeys_eq _ _ _ hl.rng]
    simp only
    rw [show (List.map (fun bd => ((denote (backBytes e.items) bd).fst, bd)) bounds)
      = keyed back bounds from rfl, hw]
  · show e.bufLen = (encodeBounds bounds' ++ (gap ++ back)).length
    rw [h.abs.len, hl.buf]; simp [hp.length_eq, back]
  · show (encodeBounds bounds' ++ (gap ++ back)).length < 2 ^ 63
    have := h.small
    rw [hl.buf] at this
    simpa [hp.length_eq, back] using this
  · show b.boundsCount = bounds'.length
    rw [hl.cnt, hp.length_eq]
  · intro bd hbd
    exact hl.rng bd (hp.mem_iff.1 hbd)
  · show List.map (denote back) (List.map (·.2) (sort (keyed back bounds))) = _
    rw [List.map_map]; rfl
  · refine List.Perm.trans ?_ h.perm
    rw [← hview, ← keyed_denote]
    exact (hperm _).map _

/-- **`sort_by_key(Stable)`**: afterwards the buffer iterates to `Sorter.sortStable view`. -/
theorem Rep.sortStable {b : EntriesB} {e : Entries} {view : List Entry} (h : Rep b e view) :
    ∃ b', sortBounds b = .ok b' ∧ Rep b' e (Sorter.sortStable view) := by
  obtain ⟨bounds, hview, b', hs, hr⟩ :=
    h.sortWith_core stableByKey (fun l => List.mergeSort_perm l _)
  refine ⟨b', hs, ?_⟩
  have : (stableByKey (keyed (backBytes e.items) bounds)).map
      (fun p => denote (backBytes e.items) p.2) = Sorter.sortStable view := by
    unfold stableByKey Sorter.sortStable
    rw [List.map_mergeSort (s := fun a b => decide (a.1 ≤ b.1))]
    · rw [keyed_denote, hview]
    · intro p hp q hq
      rw [keyed_key hp, keyed_key hq]
  rwa [this] at hr

theorem Rep.clear {b : EntriesB} {e : Entries} {view : List Entry} (h : Rep b e view) :
    Rep b.clear e.clear [] := by
  refine ⟨⟨rfl, rfl, h.abs.len, h.abs.live⟩, h.inv.clear, h.small, ⟨[], b.buf, ⟨?_, rfl, rfl, by simp⟩, rfl⟩,
    List.Perm.nil⟩
  show b.buf = encodeBounds [] ++ (b.buf ++ backBytes [])
  simp [encodeBounds, backBytes]

theorem ResRel.mono {ε α β : Type} {R R' : α → β → Prop} {x : Except ε α} {y : Except ε β}
    (h : ResRel R x y) (hRR : ∀ a b, x = .ok a → y = .ok b → R a b → R' a b) : ResRel R' x y := by
  rcases x with tx | a <;> rcases y with ty | b' <;> simp only [ResRel] at h ⊢
  · exact h
  · exact hRR a b' rfl rfl h

theorem ResRel.ok_left {ε α β : Type} {R : α → β → Prop} {x : Except ε α} {y : Except ε β} {a : α}
    (h : ResRel R x y) (hx : x = .ok a) : ∃ b, y = .ok b ∧ R a b := by
  subst hx
  rcases y with ty | b
  · simp [ResRel] at h
  · exact ⟨b, rfl, h⟩

theorem ResRel.error_iff {ε α β : Type} {R : α → β → Prop} {x : Except ε α} {y : Except ε β}
    (h : ResRel R x y) (t : ε) : x = .error t ↔ y = .error t := by
  rcases x with tx | a <;> rcases y with ty | b <;> simp only [ResRel] at h
  · subst h; constructor <;> intro hh <;> cases hh <;> rfl
  · constructor <;> intro hh <;> cases hh

theorem ResRel.error_left {ε α β : Type} {R : α → β → Prop} {x : Except ε α} {y : Except ε β}
    {t : ε} (h : ResRel R x y) (hx : x = .error t) : y = .error t :=
  (h.error_iff t).1 hx

theorem ResRel.ok_right {ε α β : Type} {R : α → β → Prop} {x : Except ε α} {y : Except ε β} {b : β}
    (h : ResRel R x y) (hy : y = .ok b) : ∃ a, x = .ok a ∧ R a b := by
  subst hy
  rcases x with tx | a
  · simp [ResRel] at h
  · exact ⟨a, rfl, h⟩

/-- `insert_sim` for a buffer whose bounds are in insertion order. -/
theorem insert_sim_items (g : Nat → Nat → UInt8) (k v : Bytes) (fuel : Nat)
    {b : EntriesB} {e : Entries} (h : Rep b e e.items) :
    ResRel (fun rb re => rb.2 = re.2 ∧ Rep rb.1 re.1 re.1.items ∧ re.1.items = e.items ++ [(k, v)])
      (insert g b k v fuel) (Entries.insert e k v fuel) := by
  refine (insert_sim g k v fuel h).mono ?_
  rintro ⟨b', evb⟩ ⟨e', eve⟩ _ he ⟨h1, h2⟩
  obtain ⟨j, _, rfl, _⟩ := Entries.insert_ok h.inv he
  exact ⟨h1, h2, rfl⟩

/-! ### Runs of the buffer alone -/

/-- Insert a list of entries with the fuel `Sorter.insert` uses. -/
def insertAll (g : Nat → Nat → UInt8) : EntriesB → List Entry → Except Trap EntriesB
  | b, [] => .ok b
  | b, (k, v) :: r =>
    match insert g b k v 64 with
    | .error t => .error t
    | .ok (b', _) => insertAll g b' r

/-- `with_capacity(cap)` followed by the inserts of `l`. -/
def run (g : Nat → Nat → UInt8) (cap : Nat) (l : List Entry) : Except Trap EntriesB :=
  match withCapacity g cap with
  | .error t => .error t
  | .ok (b, _) => insertAll g b l

end EntriesB

namespace Entries

def insertAll : Entries → List Entry → Except Trap Entries
  | e, [] => .ok e
  | e, (k, v) :: r =>
    match insert e k v 64 with
    | .error t => .error t
    | .ok (e', _) => insertAll e' r

def run (cap : Nat) (l : List Entry) : Except Trap Entries :=
  match withCapacity cap with
  | .error t => .error t
  | .ok (e, _) => insertAll e l

end Entries

namespace EntriesB

theorem insertAll_sim (g : Nat → Nat → UInt8) (l : List Entry) :
    ∀ {b : EntriesB} {e : Entries}, Rep b e e.items →
    ResRel (fun b' e' => Rep b' e' e'.items ∧ e'.items = e.items ++ l)
      (insertAll g b l) (Entries.insertAll e l) := by
  induction l with
  | nil => intro b e h; simp [insertAll, Entries.insertAll, ResRel, h]
  | cons kv l ih =>
    intro b e h
    obtain ⟨k, v⟩ := kv
    simp only [insertAll, Entries.insertAll]
    refine ResRel.elim (insert_sim_items g k v 64 h) (fun t => rfl) ?_
    rintro ⟨b', evb⟩ ⟨e', eve⟩ ⟨_, hr, hi⟩
    refine (ih hr).mono ?_
    intro b'' e'' _ _ ⟨h1, h2⟩
    exact ⟨h1, by rw [h2, hi]; simp⟩

theorem run_sim (g : Nat → Nat → UInt8) (cap : Nat) (l : List Entry) :
    ResRel (fun b e => Rep b e e.items ∧ e.items = l) (run g cap l) (Entries.run cap l) := by
  unfold run Entries.run
  refine ResRel.elim (withCapacity_sim g cap) (fun t => rfl) ?_
  rintro ⟨b', evb⟩ ⟨e', eve⟩ ⟨_, hr, hi⟩
  rw [← hi] at hr
  refine (insertAll_sim g l hr).mono ?_
  intro b'' e'' _ _ ⟨h1, h2⟩
  exact ⟨h1, by rw [h2, hi]; rfl⟩

end EntriesB

/-! ### The sorter over the byte-level buffer simulates the sorter over the numeric one -/

/-- The two sorters agree on everything but the representation of the buffer, whose bounds are in
    insertion order. -/
structure SRep (sb : SorterB) (s : Sorter) : Prop where
  cfg    : sb.cfg = s.cfg
  chunks : sb.chunks = s.chunks
  events : sb.events = s.events
  calls  : sb.calls = s.calls
  rep    : EntriesB.Rep sb.entries s.entries s.entries.items

/-- What remains comparable once the allocation has been released. -/
structure SFin (sb : SorterB) (s : Sorter) : Prop where
  cfg    : sb.cfg = s.cfg
  chunks : sb.chunks = s.chunks
  events : sb.events = s.events
  calls  : sb.calls = s.calls

namespace SorterB

open EntriesB (ResRel Rep)
open Sorter (SErr)

theorem new_sim (g : Nat → Nat → UInt8) (cfg : SCfg) :
    ResRel SRep (SorterB.new g cfg) (Sorter.new cfg) := by
  unfold SorterB.new Sorter.new
  simp only
  refine ResRel.elim (EntriesB.withCapacity_sim g
    (if cfg.allowRealloc then cfg.initialSize else cfg.budget)) (fun t => rfl) ?_
  rintro ⟨b', evb⟩ ⟨e', eve⟩ ⟨h1, hr, hi⟩
  subst h1
  exact ⟨rfl, rfl, rfl, rfl, by rw [hi]; exact hr⟩

theorem writeChunk_sim (mf : MergeFn) {sb : SorterB} {s : Sorter} (h : SRep sb s) :
    ResRel SRep (SorterB.writeChunk mf sb) (Sorter.writeChunk mf s) := by
  obtain ⟨eb, hs, hr⟩ := h.rep.sortStable
  unfold SorterB.writeChunk Sorter.writeChunk Sorter.writeChunkWith
  rw [hs]
  simp only
  rw [hr.iter]
  simp only
  cases Sorter.mergeGroups mf (Sorter.sortStable s.entries.items) none [] [] with
  | none => simp [ResRel]
  | some r =>
    obtain ⟨chunk, calls⟩ := r
    simp only [ResRel]
    exact ⟨h.cfg, by simp [h.chunks], by simp [h.events], by simp [h.calls], hr.clear⟩

theorem mergeChunks_sim (mf : MergeFn) {sb : SorterB} {s : Sorter} (h : SRep sb s) :
    ResRel SRep (SorterB.mergeChunks mf sb) (Sorter.mergeChunks mf s) := by
  unfold SorterB.mergeChunks Sorter.mergeChunks
  rw [h.chunks]
  rcases Merger.run mf s.chunks with ⟨_ | merged, m⟩
  · simp [ResRel]
  · simp only [ResRel]
    exact ⟨h.cfg, rfl, by simp [h.events], by simp [h.calls], h.rep⟩

/-- Two related sorters are the same record up to the buffer. -/
theorem srep_split {sb : SorterB} {s : Sorter} (h : SRep sb s) :
    sb = { cfg := s.cfg, entries := sb.entries, chunks := s.chunks, events := s.events,
           calls := s.calls } := by
  obtain ⟨cfgb, eb, chb, evb, cab⟩ := sb
  obtain ⟨h1, h2, h3, h4, _⟩ := h
  simp only at h1 h2 h3 h4
  subst h1 h2 h3 h4
  rfl

theorem insert_sim (mf : MergeFn) (g : Nat → Nat → UInt8) {sb : SorterB} {s : Sorter}
    (h : SRep sb s) (k v : Bytes) :
    ResRel SRep (SorterB.insert mf g sb k v) (Sorter.insert mf s k v) := by
  have hwc := writeChunk_sim mf h
  have hrep := h.rep
  rw [srep_split h] at hwc ⊢
  generalize sb.entries = eb at hwc hrep ⊢
  unfold SorterB.insert Sorter.insert
  simp only
  rw [EntriesB.fits_eq_of_abs hrep.abs, ← hrep.abs.len]
  cases hf : s.entries.fits k v with
  | error t => simp [ResRel]
  | ok fit =>
    simp only
    by_cases hc : (fit || (!decide (s.entries.bufLen ≥ s.cfg.budget) && s.cfg.allowRealloc)) = true
    · simp only [hc, if_true]
      refine ResRel.elim (EntriesB.insert_sim_items g k v 64 hrep) (fun t => rfl) ?_
      rintro ⟨b', evb⟩ ⟨e', eve⟩ ⟨h1, hr, _⟩
      subst h1
      exact ⟨rfl, rfl, rfl, rfl, hr⟩
    · simp only [hc, if_false, Bool.false_eq_true]
      refine ResRel.elim hwc (fun t => rfl) ?_
      intro sb1 s1 h1
      have hrep1 := h1.rep
      rw [srep_split h1]
      generalize sb1.entries = eb1 at hrep1 ⊢
      simp only
      refine ResRel.elim (EntriesB.insert_sim_items g k v 64 hrep1) (fun t => rfl) ?_
      rintro ⟨b', evb⟩ ⟨e', eve⟩ ⟨h2, hr, _⟩
      subst h2
      have h2 : SRep { cfg := s1.cfg, entries := b', chunks := s1.chunks,
                       events := s1.events ++ evb, calls := s1.calls }
          { s1 with entries := e', events := s1.events ++ evb } :=
        ⟨rfl, rfl, rfl, rfl, hr⟩
      by_cases hm : s1.chunks.length ≥ s1.cfg.maxNb
      · simp only [hm, if_true]
        exact mergeChunks_sim mf h2
      · simp only [hm, if_false]
        exact h2

theorem finishChunks_sim (mf : MergeFn) {sb : SorterB} {s : Sorter} (h : SRep sb s) :
    ResRel SFin (SorterB.finishChunks mf sb) (Sorter.finishChunks mf s) := by
  unfold SorterB.finishChunks Sorter.finishChunks
  refine ResRel.elim (writeChunk_sim mf h) (fun t => rfl) ?_
  intro sb1 s1 h1
  simp only [Entries.drop, h1.rep.abs.live, Bool.not_true, Bool.false_eq_true, if_false]
  exact ⟨h1.cfg, h1.chunks, by simp [h1.events, h1.rep.abs.len], h1.calls⟩

theorem insertAll_sim (mf : MergeFn) (g : Nat → Nat → UInt8) (l : List Entry) :
    ∀ {sb : SorterB} {s : Sorter}, SRep sb s →
    ResRel SRep (SorterB.insertAll mf g sb l) (Sorter.insertAll mf s l) := by
  induction l with
  | nil => intro sb s h; simpa [SorterB.insertAll, Sorter.insertAll, ResRel] using h
  | cons kv l ih =>
    intro sb s h
    obtain ⟨k, v⟩ := kv
    simp only [SorterB.insertAll, Sorter.insertAll]
    exact ResRel.elim (insert_sim mf g h k v) (fun t => rfl) (fun _ _ h1 => ih h1)

/-- **Simulation of a complete run**: the byte-level sorter and the numeric one return the same
    error, or states that agree (`SFin`), related by `SRep` as long as the buffer is alive. -/
theorem program_sim (mf : MergeFn) (g : Nat → Nat → UInt8) (cfg : SCfg) (l : List Entry)
    (fin : Bool) :
    ResRel (fun sb s => SFin sb s ∧ (fin = false → SRep sb s))
      (SorterB.program mf g cfg l fin) (Sorter.program mf cfg l fin) := by
  unfold SorterB.program Sorter.program
  refine ResRel.elim (new_sim g cfg) (fun t => rfl) ?_
  intro sb0 s0 h0
  dsimp only
  refine ResRel.elim (insertAll_sim mf g l h0) (fun t => rfl) ?_
  intro sb1 s1 h1
  dsimp only
  cases fin with
  | false =>
    simp only [Bool.false_eq_true, if_false]
    exact ⟨⟨h1.cfg, h1.chunks, h1.events, h1.calls⟩, fun _ => h1⟩
  | true =>
    simp only [if_true]
    refine (finishChunks_sim mf h1).mono ?_
    intro a b _ _ hab
    exact ⟨hab, fun hh => by cases hh⟩

end SorterB
end Grenad
