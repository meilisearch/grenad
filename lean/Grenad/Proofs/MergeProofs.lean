/-
  Grenad.Proofs.MergeProofs — `Merger.run` equals the grouped union (C06).

  Ghost state: the list `ss` of what each source still has to yield (position = source index).
  The heap is always a permutation of `start.go 0 ss`; one `next` peels the least key off
  `Spec.group ss.flatten`.

  Last, for arbitrary sources: `Merger.next` does not depend on the order of the heap list
  (`next_perm`), and every run keeps the source indices on the heap pairwise distinct
  (`next_idxNe`), which is what makes the `(key, idx)` pairs distinct.
-/
import Grenad.Proofs.MergeHeap
import Grenad.Model.Abstract

namespace Grenad
open Merger

def AllAsc (ss : List (List Entry)) : Prop := ∀ s ∈ ss, StrictAsc s

/-- Values of the heads whose key is `k`, in source order. -/
def headVals (k : Bytes) (ss : List (List Entry)) : List Bytes :=
  ss.filterMap (fun s => match s with
    | e :: _ => if e.1 = k then some e.2 else none
    | [] => none)

/-- Drop the head when its key is `k`. -/
def dropHead (k : Bytes) : List Entry → List Entry
  | e :: r => if e.1 = k then r else e :: r
  | [] => []

/-- The head key of a source is not below `k`. -/
def HeadGe (k : Bytes) (s : List Entry) : Prop := ∀ e r, s = e :: r → ¬ e.1 < k

/-- What `advance` pushes back. -/
def adv (s : MSrc) : Option MSrc := match s.rest with
  | _ :: e :: more => some { s with rest := e :: more }
  | _ => none

theorem advance_eq (h : List MSrc) (s : MSrc) : advance h s = (adv s).toList ++ h := by
  obtain ⟨i, rest⟩ := s
  match rest with
  | [] => rfl
  | [_] => rfl
  | _ :: _ :: _ => rfl

@[simp] theorem adv_single (i : Nat) (e : Entry) : adv ⟨i, [e]⟩ = none := rfl
@[simp] theorem adv_cons (i : Nat) (e e' : Entry) (r : List Entry) :
    adv ⟨i, e :: e' :: r⟩ = some ⟨i, e' :: r⟩ := rfl

theorem foldl_advance_perm (F : List MSrc) : ∀ h : List MSrc,
    (F.foldl advance h).Perm (F.filterMap adv ++ h) := by
  induction F with
  | nil => intro h; simp
  | cons s F ih =>
    intro h
    simp only [List.foldl_cons, List.filterMap_cons]
    refine (ih _).trans ?_
    rw [advance_eq]
    cases adv s with
    | none => simp
    | some s' => simp only [Option.toList_some, List.singleton_append]; exact List.perm_middle

@[simp] theorem key_mk (i : Nat) (e : Entry) (r : List Entry) :
    ({ idx := i, rest := e :: r } : MSrc).key = e.1 := rfl
@[simp] theorem val_mk (i : Nat) (e : Entry) (r : List Entry) :
    ({ idx := i, rest := e :: r } : MSrc).val = e.2 := rfl

@[simp] theorem tag_nil (i : Nat) : start.go i [] = [] := by simp [start.go]
@[simp] theorem tag_cons_nil (i : Nat) (ss : List (List Entry)) :
    start.go i ([] :: ss) = start.go (i+1) ss := by simp [start.go]
@[simp] theorem tag_cons_cons (i : Nat) (e : Entry) (r : List Entry) (ss : List (List Entry)) :
    start.go i ((e :: r) :: ss) = { idx := i, rest := e :: r } :: start.go (i+1) ss := by
  simp [start.go]

theorem tag_idxLt (ss : List (List Entry)) : ∀ i : Nat,
    IdxLt (start.go i ss) ∧ ∀ x ∈ start.go i ss, i ≤ x.idx := by
  induction ss with
  | nil => intro i; simp [IdxLt]
  | cons s ss ih =>
    intro i
    obtain ⟨h1, h2⟩ := ih (i+1)
    cases s with
    | nil => simp only [tag_cons_nil]; exact ⟨h1, fun x hx => Nat.le_of_succ_le (h2 x hx)⟩
    | cons e r =>
      simp only [tag_cons_cons]
      refine ⟨List.pairwise_cons.mpr ⟨fun x hx => h2 x hx, h1⟩, ?_⟩
      intro x hx
      rcases List.mem_cons.mp hx with e | hx
      · rw [e]; exact Nat.le_refl _
      · exact Nat.le_of_succ_le (h2 x hx)

theorem tag_eq_nil {ss : List (List Entry)} : ∀ {i : Nat}, start.go i ss = [] → ss.flatten = [] := by
  induction ss with
  | nil => intro i _; rfl
  | cons s ss ih =>
    intro i h
    cases s with
    | nil => simp only [tag_cons_nil] at h; simpa using ih h
    | cons e r => simp at h

theorem mem_tag_of_mem {ss : List (List Entry)} {e : Entry} {r : List Entry} :
    ∀ {i : Nat}, (e :: r) ∈ ss → ∃ j, ({ idx := j, rest := e :: r } : MSrc) ∈ start.go i ss := by
  induction ss with
  | nil => intro i h; cases h
  | cons s ss ih =>
    intro i h
    rcases List.mem_cons.mp h with h | h
    · subst h; exact ⟨i, by simp⟩
    · obtain ⟨j, hj⟩ := ih (i := i+1) h
      cases s with
      | nil => exact ⟨j, by simpa using hj⟩
      | cons e' r' => exact ⟨j, by simp [hj]⟩

theorem mem_tag {ss : List (List Entry)} {x : MSrc} :
    ∀ {i : Nat}, x ∈ start.go i ss → ∃ e r, x.rest = e :: r ∧ x.rest ∈ ss := by
  induction ss with
  | nil => intro i h; simp at h
  | cons s ss ih =>
    intro i h
    cases s with
    | nil =>
      simp only [tag_cons_nil] at h
      obtain ⟨e, r, h1, h2⟩ := ih h
      exact ⟨e, r, h1, List.mem_cons_of_mem _ h2⟩
    | cons e' r' =>
      simp only [tag_cons_cons] at h
      rcases List.mem_cons.mp h with h | h
      · subst h; exact ⟨e', r', rfl, List.mem_cons_self⟩
      · obtain ⟨e, r, h1, h2⟩ := ih h
        exact ⟨e, r, h1, List.mem_cons_of_mem _ h2⟩

theorem tag_filter_val (k : Bytes) (ss : List (List Entry)) : ∀ i : Nat,
    ((start.go i ss).filter (fun x => decide (x.key = k))).map MSrc.val = headVals k ss := by
  induction ss with
  | nil => intro i; simp [headVals]
  | cons s ss ih =>
    intro i
    cases s with
    | nil => simpa [headVals] using ih (i+1)
    | cons e r =>
      have := ih (i+1)
      simp only [headVals] at this ⊢
      by_cases hk : e.1 = k <;>
        simp [hk, this]

theorem tag_dropHead_perm (k : Bytes) (ss : List (List Entry)) : ∀ i : Nat,
    (start.go i (ss.map (dropHead k))).Perm
      (((start.go i ss).filter (fun x => decide (x.key = k))).filterMap adv ++
        (start.go i ss).filter (fun x => decide (x.key ≠ k))) := by
  induction ss with
  | nil => intro i; simp
  | cons s ss ih =>
    intro i
    have ih' := ih (i+1)
    cases s with
    | nil => simpa [dropHead] using ih'
    | cons e r =>
      by_cases hk : e.1 = k
      · cases r with
        | nil => simpa [dropHead, hk, List.filter_cons, List.filterMap_cons] using ih'
        | cons e' r' =>
          simp only [List.map_cons, dropHead, hk, if_true, tag_cons_cons, List.filter_cons,
            key_mk, decide_true, ne_eq, not_true_eq_false, decide_false, List.filterMap_cons, adv_cons,
            Bool.false_eq_true, if_false, List.cons_append]
          exact List.Perm.cons _ ih'
      · simp only [List.map_cons, dropHead, hk, if_false, tag_cons_cons, List.filter_cons,
          key_mk, decide_false, ne_eq, not_false_eq_true, decide_true, if_true,
          Bool.false_eq_true]
        exact (List.Perm.cons _ ih').trans List.perm_middle.symm

theorem src_all_ge {k : Bytes} {s : List Entry} (ha : StrictAsc s) (hg : HeadGe k s) :
    ∀ x ∈ s, ¬ x.1 < k := by
  cases s with
  | nil => intro x hx; cases hx
  | cons e r =>
    have ha' := List.pairwise_cons.mp ha
    have he : ¬ e.1 < k := hg e r rfl
    intro x hx
    rcases List.mem_cons.mp hx with h | h
    · rw [h]; exact he
    · have := ha'.1 x h
      intro hlt; exact he (blt_trans this hlt)

theorem src_filter_ne {k : Bytes} {s : List Entry} (ha : StrictAsc s) (hg : HeadGe k s) :
    s.filter (fun e => decide (e.1 ≠ k)) = dropHead k s := by
  cases s with
  | nil => rfl
  | cons e r =>
    have ha' := List.pairwise_cons.mp ha
    have he : ¬ e.1 < k := hg e r rfl
    by_cases hk : e.1 = k
    · simp only [dropHead, hk, if_true, List.filter_cons, ne_eq, not_true_eq_false, decide_false,
        Bool.false_eq_true, if_false]
      rw [List.filter_eq_self]
      intro x hx
      have := ha'.1 x hx
      rw [hk] at this
      have : x.1 ≠ k := fun e => by rw [e] at this; exact blt_irrefl _ this
      simpa using this
    · simp only [dropHead, hk, if_false]
      rw [List.filter_eq_self]
      intro x hx
      have h1 := src_all_ge ha hg x hx
      have h2 : k < e.1 := blt_tri he hk
      have : x.1 ≠ k := by
        rcases List.mem_cons.mp hx with h | h
        · rw [h]; exact hk
        · have := ha'.1 x h; grind
      simpa using this

theorem src_valsOf {k : Bytes} {s : List Entry} (ha : StrictAsc s) (hg : HeadGe k s) :
    valsOf k s = headVals k [s] := by
  cases s with
  | nil => rfl
  | cons e r =>
    have ha' := List.pairwise_cons.mp ha
    have he : ¬ e.1 < k := hg e r rfl
    have hr : valsOf k r = [] := by
      rw [valsOf_eq_nil]
      intro x hx
      have := ha'.1 x hx
      grind
    rw [valsOf_cons, hr]
    by_cases hk : e.1 = k <;> simp [headVals, hk]

theorem src_dropHead_asc {k : Bytes} {s : List Entry} (ha : StrictAsc s) :
    StrictAsc (dropHead k s) := by
  cases s with
  | nil => exact ha
  | cons e r =>
    simp only [dropHead]
    split
    · exact (List.pairwise_cons.mp ha).2
    · exact ha

theorem headVals_cons (k : Bytes) (s : List Entry) (ss : List (List Entry)) :
    headVals k (s :: ss) = headVals k [s] ++ headVals k ss := by
  simp only [headVals, List.filterMap_cons, List.filterMap_nil]
  split <;> simp

theorem all_valsOf {k : Bytes} {ss : List (List Entry)} (ha : AllAsc ss)
    (hg : ∀ s ∈ ss, HeadGe k s) : valsOf k ss.flatten = headVals k ss := by
  induction ss with
  | nil => rfl
  | cons s ss ih =>
    rw [List.flatten_cons, valsOf_append, headVals_cons,
      src_valsOf (ha s List.mem_cons_self) (hg s List.mem_cons_self),
      ih (fun t ht => ha t (List.mem_cons_of_mem _ ht)) (fun t ht => hg t (List.mem_cons_of_mem _ ht))]

theorem all_filter_ne {k : Bytes} {ss : List (List Entry)} (ha : AllAsc ss)
    (hg : ∀ s ∈ ss, HeadGe k s) :
    ss.flatten.filter (fun e => decide (e.1 ≠ k)) = (ss.map (dropHead k)).flatten := by
  rw [List.filter_flatten]
  congr 1
  apply List.map_congr_left
  intro s hs
  exact src_filter_ne (ha s hs) (hg s hs)

/-- Peeling the least head key off the grouped union. -/
theorem group_step {k : Bytes} {ss : List (List Entry)} (ha : AllAsc ss)
    (hg : ∀ s ∈ ss, HeadGe k s) (hex : ∃ e r, (e :: r) ∈ ss ∧ e.1 = k) :
    Spec.group ss.flatten =
      (k, headVals k ss) :: Spec.group (ss.map (dropHead k)).flatten := by
  rw [← all_valsOf ha hg, ← all_filter_ne ha hg]
  apply group_min
  · intro e he
    obtain ⟨s, hs, hes⟩ := List.mem_flatten.mp he
    exact src_all_ge (ha s hs) (hg s hs) e hes
  · obtain ⟨e, r, hs, hk⟩ := hex
    exact ⟨e, List.mem_flatten.mpr ⟨_, hs, List.mem_cons_self⟩, hk⟩

private theorem next_spec (mf : MergeFn) (m : Merger) (ss : List (List Entry)) (hasc : AllAsc ss)
    (hp : m.heap.Perm (start.go 0 ss)) :
    (ss.flatten = [] ∧ next mf m = (m, .ok none)) ∨
    ∃ k vs ss', Spec.group ss.flatten = (k, vs) :: Spec.group ss'.flatten ∧ AllAsc ss' ∧
      ((mf k vs = none ∧ (next mf m).2 = .mergeErr ∧ (next mf m).1.calls = (k, vs) :: m.calls) ∨
       (∃ v, mf k vs = some v ∧ (next mf m).2 = .ok (some (k, v)) ∧
          (next mf m).1.calls = (k, vs) :: m.calls ∧
          (next mf m).1.heap.Perm (start.go 0 ss'))) := by
  cases hpop : heapPop m.heap with
  | none =>
    left
    have h0 : m.heap = [] := heapPop_eq_none.mp hpop
    rw [h0] at hp
    exact ⟨tag_eq_nil hp.nil_eq.symm, next_of_empty mf hpop⟩
  | some p =>
    right
    obtain ⟨first, h1⟩ := p
    have hne : IdxNe m.heap := (tag_idxLt ss 0).1.idxNe.perm hp.symm
    obtain ⟨S, h2, hps, hF, hFlt, hh2, hmem, hmin⟩ := heap_round hne.pairNe hpop
    -- the popped entries are exactly the tagged heads with the least key, in index order
    have hFeq : first :: S = (start.go 0 ss).filter (fun x => decide (x.key = first.key)) := by
      apply List.Perm.eq_of_pairwise (le := fun a b => a.idx < b.idx)
      · intro a b _ _ h1 h2; omega
      · exact hFlt
      · exact List.Pairwise.sublist List.filter_sublist (tag_idxLt ss 0).1
      · exact hF.trans (hp.filter _)
    have hvals : first.val :: S.map MSrc.val = headVals first.key ss := by
      rw [← tag_filter_val first.key ss 0, ← hFeq]; rfl
    have hg : ∀ s ∈ ss, HeadGe first.key s := by
      intro s hs e r hser
      subst hser
      obtain ⟨j, hj⟩ := mem_tag_of_mem (i := 0) hs
      have := hmin _ (hp.symm.subset hj)
      simpa [MSrc.key] using this
    have hex : ∃ e r, (e :: r) ∈ ss ∧ e.1 = first.key := by
      obtain ⟨e, r, h1, h2⟩ := mem_tag (hp.subset hmem)
      refine ⟨e, r, h1 ▸ h2, ?_⟩
      simp [MSrc.key, h1]
    refine ⟨first.key, headVals first.key ss, ss.map (dropHead first.key),
      group_step hasc hg hex, ?_, ?_⟩
    · intro s hs
      obtain ⟨t, ht, rfl⟩ := List.mem_map.mp hs
      exact src_dropHead_asc (hasc t ht)
    · rw [next_of_round mf hpop hps]
      simp only [hvals]
      cases hmf : mf first.key (headVals first.key ss) with
      | none => exact .inl ⟨rfl, rfl, rfl⟩
      | some v =>
        refine .inr ⟨v, rfl, rfl, rfl, ?_⟩
        simp only
        refine (foldl_advance_perm _ _).trans ?_
        rw [hFeq]
        exact ((hh2.trans (hp.filter _)).append_left _).trans
          (tag_dropHead_perm first.key ss 0).symm

/-- Apply the merge function to every group; `none` as soon as one call fails. -/
def mergeAll (mf : MergeFn) : Groups → Option (List Entry)
  | [] => some []
  | (k, vs) :: r =>
    match mf k vs with
    | none => none
    | some v => (mergeAll mf r).map ((k, v) :: ·)

/-- The calls made: every group up to and including the first failing one. -/
def callsSpec (mf : MergeFn) : Groups → Groups
  | [] => []
  | (k, vs) :: r => if (mf k vs).isSome then (k, vs) :: callsSpec mf r else [(k, vs)]

theorem collect_spec (mf : MergeFn) : ∀ (fuel : Nat) (ss : List (List Entry)) (m : Merger)
    (acc : List Entry), AllAsc ss → m.heap.Perm (start.go 0 ss) →
    (Spec.group ss.flatten).length + 1 ≤ fuel →
    (Merger.collect mf fuel m acc).1 = (mergeAll mf (Spec.group ss.flatten)).map (acc.reverse ++ ·) ∧
    (Merger.collect mf fuel m acc).2.calls = (callsSpec mf (Spec.group ss.flatten)).reverse ++ m.calls := by
  intro fuel
  induction fuel with
  | zero => intro ss m acc _ _ hf; omega
  | succ fuel ih =>
    intro ss m acc hasc hp hf
    rcases next_spec mf m ss hasc hp with ⟨hnil, hnext⟩ | ⟨k, vs, ss', hgrp, hasc', hcase⟩
    · simp [Merger.collect, hnext, hnil, mergeAll, callsSpec]
    · rw [hgrp] at hf ⊢
      rcases hcase with ⟨hmf, hres, hcalls⟩ | ⟨v, hmf, hres, hcalls, hheap⟩
      · simp only [Merger.collect]
        cases hn : next mf m with
        | mk m' r =>
          rw [hn] at hres hcalls
          simp only at hres hcalls
          subst hres
          simp [mergeAll, callsSpec, hmf, hcalls]
      · simp only [Merger.collect]
        cases hn : next mf m with
        | mk m' r =>
          rw [hn] at hres hcalls hheap
          simp only at hres hcalls hheap
          subst hres
          simp only
          obtain ⟨h1, h2⟩ := ih ss' m' ((k, v) :: acc) hasc' hheap
            (by simp only [List.length_cons] at hf; omega)
          rw [h1, h2, hcalls]
          simp only [mergeAll, callsSpec, hmf, Option.isSome_some, if_true, List.reverse_cons,
            List.append_assoc, List.singleton_append, Option.map_map, and_true]
          congr 1

theorem start_heap (sources : List (List Entry)) : (start sources).heap = start.go 0 sources := rfl

theorem length_group_flatten_le (sources : List (List Entry)) :
    (Spec.group sources.flatten).length ≤ totalLen sources := by
  refine Nat.le_trans (length_group_le _) ?_
  rw [List.length_flatten]; exact Nat.le_refl _

/-- The general statement about `Merger.run` (any merge function, failing or not). -/
theorem run_spec (mf : MergeFn) (sources : List (List Entry)) (hasc : AllAsc sources) :
    (run mf sources).1 = mergeAll mf (Spec.group sources.flatten) ∧
    (run mf sources).2.calls.reverse = callsSpec mf (Spec.group sources.flatten) := by
  have := collect_spec mf (totalLen sources + 1) sources (start sources) [] hasc
    (by rw [start_heap]) (by have := length_group_flatten_le sources; omega)
  unfold run
  rw [this.1, this.2]
  constructor
  · cases mergeAll mf (Spec.group sources.flatten) <;> simp
  · simp [start]

theorem mergeAll_total (mf' : Bytes → List Bytes → Bytes) (g : Groups) :
    mergeAll (fun k vs => some (mf' k vs)) g = some (g.map (fun (k, vs) => (k, mf' k vs))) := by
  induction g with
  | nil => rfl
  | cons a r ih => obtain ⟨k, vs⟩ := a; simp [mergeAll, ih]

theorem callsSpec_total (mf' : Bytes → List Bytes → Bytes) (g : Groups) :
    callsSpec (fun k vs => some (mf' k vs)) g = g := by
  induction g with
  | nil => rfl
  | cons a r ih => obtain ⟨k, vs⟩ := a; simp [callsSpec, ih]

/-- With a merge function that never fails, `run` returns the grouped union. -/
theorem run_total (mf' : Bytes → List Bytes → Bytes) (sources : List (List Entry))
    (hasc : AllAsc sources) :
    (run (fun k vs => some (mf' k vs)) sources).1 = some (Spec.mergeSpec mf' sources) := by
  rw [(run_spec _ sources hasc).1]
  exact mergeAll_total mf' _

/-- In a strictly ascending entry list a key has exactly one value. -/
theorem valsOf_of_mem_asc {s : List Entry} (ha : StrictAsc s) {k v : Bytes} (hm : (k, v) ∈ s) :
    valsOf k s = [v] := by
  induction s with
  | nil => cases hm
  | cons e r ih =>
    have ha' := List.pairwise_cons.mp ha
    rw [valsOf_cons]
    rcases List.mem_cons.mp hm with h | h
    · subst h
      have : valsOf k r = [] := by
        rw [valsOf_eq_nil]; intro x hx e
        have := ha'.1 x hx
        simp only at this
        rw [e] at this; exact blt_irrefl _ this
      simp [this]
    · have hne : e.1 ≠ k := by
        intro e'
        have := ha'.1 _ h
        simp only at this
        rw [e'] at this; exact blt_irrefl _ this
      simp [hne, ih ha'.2 h]

theorem mergeAll_eq_none (mf : MergeFn) (g : Groups) :
    mergeAll mf g = none ↔ ∃ x ∈ g, mf x.1 x.2 = none := by
  induction g with
  | nil => simp [mergeAll]
  | cons a r ih =>
    obtain ⟨k, vs⟩ := a
    simp only [mergeAll, List.mem_cons, exists_eq_or_imp]
    cases h : mf k vs with
    | none => simp
    | some v => simp [ih]

end Grenad

namespace Grenad.Wave3
open Grenad

/-! ### The order of the heap list is unobservable -/

/-- Heap entries have pairwise distinct `(key, idx)` pairs (`PairNe`, under the name the merger
    statements use). -/
def KeyIdxNe (h : List MSrc) : Prop := h.Pairwise (fun a b => a.key = b.key → a.idx ≠ b.idx)

theorem keyIdxNe_iff (h : List MSrc) :
    KeyIdxNe h ↔ h.Pairwise (fun a b => (a.key, a.idx) ≠ (b.key, b.idx)) := by
  unfold KeyIdxNe
  constructor <;> intro hp <;> refine hp.imp ?_ <;> intro a b hab
  · intro e; simp only [Prod.mk.injEq] at e; exact hab e.1 e.2
  · intro e1 e2; exact hab (by rw [e1, e2])

theorem KeyIdxNe.perm {h h' : List MSrc} (p : KeyIdxNe h) (hp : h.Perm h') : KeyIdxNe h' :=
  PairNe.perm p hp

/-- Distinct source indices (the invariant of runs) imply distinct `(key, idx)` pairs. -/
theorem keyIdxNe_of_idxNe {h : List MSrc} (p : IdxNe h) : KeyIdxNe h := p.pairNe

/-- The selected minimum does not depend on the order of the list. -/
theorem heapMin_perm {h h' : List MSrc} (hne : KeyIdxNe h) (hp : h.Perm h') :
    heapMin h = heapMin h' := by
  cases hm : heapMin h with
  | none =>
    have : h = [] := heapMin_eq_none.mp hm
    subst this
    rw [← hp.nil_eq]; rfl
  | some m =>
    cases hm' : heapMin h' with
    | none =>
      have : h' = [] := heapMin_eq_none.mp hm'
      subst this
      rw [hp.eq_nil] at hm
      simp [heapMin] at hm
    | some m' =>
      obtain ⟨h1, h2⟩ := heapMin_least hne hm
      obtain ⟨h1', h2'⟩ := heapMin_least (hne.perm hp) hm'
      rcases h2 m' (hp.symm.subset h1') with e | hb
      · rw [e]
      · rcases h2' m (hp.subset h1) with e | hb'
        · rw [e]
        · exact absurd hb' (before_asymm hb)

/-- `BinaryHeap::pop` on two orderings of the same heap: the same element, and the remainders
    are permutations of each other. -/
theorem heapPop_perm {h h' : List MSrc} (hne : KeyIdxNe h) (hp : h.Perm h') :
    (heapPop h = none ∧ heapPop h' = none) ∨
    ∃ m r r', heapPop h = some (m, r) ∧ heapPop h' = some (m, r') ∧ r.Perm r' ∧ KeyIdxNe r := by
  unfold heapPop
  rw [← heapMin_perm hne hp]
  cases hm : heapMin h with
  | none => left; exact ⟨rfl, rfl⟩
  | some m =>
    right
    exact ⟨m, h.erase m, h'.erase m, rfl, rfl, hp.erase m, hne.sublist List.erase_sublist⟩

/-- **The heap's internal shape is unobservable.**  `MergerIter::next` on two mergers whose heaps
    hold the same entries in any two orders (and with the same call log): same result, same
    calls, and the new heaps again hold the same entries. -/
theorem next_perm (mf : MergeFn) (m m' : Merger) (hne : KeyIdxNe m.heap)
    (hp : m.heap.Perm m'.heap) (hc : m.calls = m'.calls) :
    (Merger.next mf m).2 = (Merger.next mf m').2 ∧
    (Merger.next mf m).1.heap.Perm (Merger.next mf m').1.heap ∧
    (Merger.next mf m).1.calls = (Merger.next mf m').1.calls := by
  rcases heapPop_perm hne hp with ⟨e1, e2⟩ | ⟨first, r, r', e1, e2, -, -⟩
  · rw [Merger.next_of_empty mf e1, Merger.next_of_empty mf e2]
    exact ⟨rfl, hp, hc⟩
  · -- both rounds pop the entries with the least key in index order: the same list
    obtain ⟨S, h2, hps, hF, hlt, hh2, -, -⟩ := heap_round hne e1
    obtain ⟨S', h2', hps', hF', hlt', hh2', -, -⟩ := heap_round (hne.perm hp) e2
    have hS : first :: S = first :: S' :=
      List.Perm.eq_of_pairwise (le := fun (a b : MSrc) => a.idx < b.idx) (fun a b _ _ h1 h2 => by omega)
        hlt hlt' (hF.trans ((hp.filter _).trans hF'.symm))
    have hh : h2.Perm h2' := hh2.trans ((hp.filter _).trans hh2'.symm)
    obtain rfl := (List.cons.inj hS).2
    rw [Merger.next_of_round mf e1 hps, Merger.next_of_round mf e2 hps', hc]
    cases mf first.key (first.val :: List.map MSrc.val S) with
    | none => exact ⟨rfl, hh, rfl⟩
    | some v => exact ⟨rfl, (foldl_advance_perm _ _).trans
        ((hh.append_left _).trans (foldl_advance_perm _ _).symm), rfl⟩

/-! #### Distinct source indices are an invariant of every run -/

theorem idxNe_iff_nodup (h : List MSrc) : IdxNe h ↔ (h.map (·.idx)).Nodup := by
  unfold IdxNe
  rw [List.nodup_iff_pairwise_ne, List.pairwise_map]

theorem adv_idx {s s' : MSrc} (h : adv s = some s') : s'.idx = s.idx := by
  obtain ⟨i, rest⟩ := s
  match rest, h with
  | _ :: _ :: _, h => simp only [adv, Option.some.injEq] at h; rw [← h]

theorem filterMap_adv_idx_sublist (F : List MSrc) :
    ((F.filterMap adv).map (·.idx)).Sublist (F.map (·.idx)) := by
  induction F with
  | nil => simp
  | cons s F ih =>
    simp only [List.filterMap_cons, List.map_cons]
    cases h : adv s with
    | none => exact ih.cons _
    | some s' =>
      simp only [List.map_cons, adv_idx h]
      exact ih.cons_cons _

theorem start_idxNe (sources : List (List Entry)) : IdxNe (Merger.start sources).heap :=
  (tag_idxLt sources 0).1.idxNe

/-- One `next` keeps the source indices of the heap entries pairwise distinct (whatever the
    sources: no sortedness is needed). -/
theorem next_idxNe (mf : MergeFn) (m : Merger) (hne : IdxNe m.heap) :
    IdxNe (Merger.next mf m).1.heap := by
  cases hpop : heapPop m.heap with
  | none => rw [Merger.next_of_empty mf hpop]; exact hne
  | some p =>
    obtain ⟨first, h1⟩ := p
    obtain ⟨S, h2, hps, hF, -, hh2, -, -⟩ := heap_round hne.pairNe hpop
    have hall : ((first :: S) ++ h2).Perm m.heap := round_append_perm hF hh2
    have hnd : (((first :: S) ++ h2).map (·.idx)).Nodup :=
      (idxNe_iff_nodup _).mp (hne.perm hall.symm)
    rw [Merger.next_of_round mf hpop hps]
    cases mf first.key (first.val :: List.map MSrc.val S) with
    | none =>
      simp only
      rw [idxNe_iff_nodup]
      refine List.Nodup.sublist ?_ hnd
      rw [List.map_append]
      exact List.sublist_append_right _ _
    | some v =>
      simp only
      refine IdxNe.perm ?_ (foldl_advance_perm (first :: S) h2).symm
      rw [idxNe_iff_nodup]
      refine List.Nodup.sublist ?_ hnd
      rw [List.map_append, List.map_append]
      exact (filterMap_adv_idx_sublist _).append (List.Sublist.refl _)

/-- The merger after `n` calls of `next`. -/
def nextN (mf : MergeFn) : Nat → Merger → Merger
  | 0, m => m
  | n + 1, m => nextN mf n (Merger.next mf m).1

/-- Distinct `(key, idx)` pairs hold in every state of a run started by `Merger.start`. -/
theorem run_keyIdxNe (mf : MergeFn) (sources : List (List Entry)) (n : Nat) :
    IdxNe (nextN mf n (Merger.start sources)).heap ∧
    KeyIdxNe (nextN mf n (Merger.start sources)).heap := by
  have : ∀ (n : Nat) (m : Merger), IdxNe m.heap → IdxNe (nextN mf n m).heap := by
    intro n
    induction n with
    | zero => intro m h; exact h
    | succ n ih => intro m h; exact ih _ (next_idxNe mf m h)
  have h := this n _ (start_idxNe sources)
  exact ⟨h, keyIdxNe_of_idxNe h⟩

/-- Draining two mergers whose heaps hold the same entries in different orders gives the same
    output and the same calls. -/
theorem collect_perm (mf : MergeFn) : ∀ (fuel : Nat) (m m' : Merger) (acc : List Entry),
    IdxNe m.heap → m.heap.Perm m'.heap → m.calls = m'.calls →
    (Merger.collect mf fuel m acc).1 = (Merger.collect mf fuel m' acc).1 ∧
    (Merger.collect mf fuel m acc).2.calls = (Merger.collect mf fuel m' acc).2.calls := by
  intro fuel
  induction fuel with
  | zero => intro m m' acc _ _ hc; exact ⟨rfl, hc⟩
  | succ fuel ih =>
    intro m m' acc hne hp hc
    obtain ⟨h1, h2, h3⟩ := next_perm mf m m' (keyIdxNe_of_idxNe hne) hp hc
    have h4 := next_idxNe mf m hne
    simp only [Merger.collect]
    cases hn : Merger.next mf m with
    | mk m1 r1 =>
      cases hn' : Merger.next mf m' with
      | mk m1' r1' =>
        rw [hn, hn'] at h1 h2 h3
        rw [hn] at h4
        simp only at h1 h2 h3 h4
        subst h1
        match r1 with
        | .ok none => exact ⟨rfl, h3⟩
        | .ok (some e) => exact ih m1 m1' (e :: acc) h4 h2 h3
        | .mergeErr => exact ⟨rfl, h3⟩

end Grenad.Wave3
