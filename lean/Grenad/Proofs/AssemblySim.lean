/-
  Grenad.Proofs.AssemblySim — simulation lifting for the reader cursor, in namespace
  `Grenad.Assembly`.

  The reader cursor `RC β` is generic in the in-block cursor.  If two implementations
  `ops : BlockOps β`, `ops' : BlockOps β'` are related by a simulation `R` (every move keeps the
  cursors related and returns the same entry) and two loaders return related cursors at every
  offset, then the two reader cursors stay related (`RCRel R`) and return the same results.  Purely
  structural (parametricity): one lemma per index loop and per shape of operation
  (`Proofs/ReaderEq.lean`).

  `Sim.lean` holds the same relations under the names of namespace `Grenad`, each equivalent to the
  one here (`RCRel_iff` and its companions there), and derives its theorems from these;
  `Assembly.run` is `RC.run` of `Loads.lean`.
-/
import Grenad.Model.Abstract
import Grenad.Proofs.ReaderEq

namespace Grenad.Assembly

open Grenad

/-- Run a history, collecting the results (same definition as `RC.run` of `Loads.lean`). -/
def run {β : Type} (ops : BlockOps β) (load : Nat → Option β) (fixF1 : Bool) :
    RC β → List Op → RC β × List Res
  | c, [] => (c, [])
  | c, op :: rest =>
    let s := RC.step ops load fixF1 c op
    let t := run ops load fixF1 s.1 rest
    (t.1, s.2 :: t.2)


variable {β β' : Type}

/-- Both `none`, or both `some` and related. -/
def OptRel {α α' : Type} (R : α → α' → Prop) : Option α → Option α' → Prop
  | some a, some a' => R a a'
  | none, none => True
  | _, _ => False

@[simp] theorem OptRel_some_some {α α' : Type} (R : α → α' → Prop) (a : α) (a' : α') :
    OptRel R (some a) (some a') ↔ R a a' := Iff.rfl
@[simp] theorem OptRel_none_none {α α' : Type} (R : α → α' → Prop) :
    OptRel R (none : Option α) (none : Option α') ↔ True := Iff.rfl
@[simp] theorem OptRel_some_none {α α' : Type} (R : α → α' → Prop) (a : α) :
    OptRel R (some a) (none : Option α') ↔ False := Iff.rfl
@[simp] theorem OptRel_none_some {α α' : Type} (R : α → α' → Prop) (a' : α') :
    OptRel R (none : Option α) (some a') ↔ False := Iff.rfl

theorem OptRel.cases {α α' : Type} {R : α → α' → Prop} {x : Option α} {x' : Option α'}
    (h : OptRel R x x') :
    (x = none ∧ x' = none) ∨ ∃ a a', x = some a ∧ x' = some a' ∧ R a a' := by
  cases x <;> cases x' <;> simp at h
  · exact Or.inl ⟨rfl, rfl⟩
  · exact Or.inr ⟨_, _, rfl, rfl, h⟩

theorem OptRel.isSome_eq {α α' : Type} {R : α → α' → Prop} {x : Option α} {x' : Option α'}
    (h : OptRel R x x') : x.isSome = x'.isSome := by
  cases x <;> cases x' <;> simp at h <;> rfl

/-- The in-block cursor operations of `ops` and `ops'` preserve `R` and return the same entry. -/
structure OpsSim (ops : BlockOps β) (ops' : BlockOps β') (R : β → β' → Prop) : Prop where
  current : ∀ b b', R b b' → ops.current b = ops'.current b'
  first : ∀ b b', R b b' → R (ops.first b).1 (ops'.first b').1 ∧ (ops.first b).2 = (ops'.first b').2
  last : ∀ b b', R b b' → R (ops.last b).1 (ops'.last b').1 ∧ (ops.last b).2 = (ops'.last b').2
  next : ∀ b b', R b b' → R (ops.next b).1 (ops'.next b').1 ∧ (ops.next b).2 = (ops'.next b').2
  prev : ∀ b b', R b b' → R (ops.prev b).1 (ops'.prev b').1 ∧ (ops.prev b).2 = (ops'.prev b').2
  ge : ∀ b b' q, R b b' → R (ops.ge b q).1 (ops'.ge b' q).1 ∧ (ops.ge b q).2 = (ops'.ge b' q).2

theorem OpsSim.apply {ops : BlockOps β} {ops' : BlockOps β'} {R : β → β' → Prop}
    (h : OpsSim ops ops' R) (mov : Mov) (b : β) (b' : β') (hb : R b b') :
    R (ops.apply mov b).1 (ops'.apply mov b').1 ∧ (ops.apply mov b).2 = (ops'.apply mov b').2 := by
  cases mov with
  | first => exact h.first b b' hb
  | last => exact h.last b b' hb
  | next => exact h.next b b' hb
  | prev => exact h.prev b b' hb
  | ge q => exact h.ge b b' q hb

/-- The two loaders fail at the same offsets and return related cursors elsewhere. -/
def LoadSim (load : Nat → Option β) (load' : Nat → Option β') (R : β → β' → Prop) : Prop :=
  ∀ off, match load off, load' off with
    | some b, some b' => R b b'
    | none, none => True
    | _, _ => False

theorem LoadSim.cases {load : Nat → Option β} {load' : Nat → Option β'} {R : β → β' → Prop}
    (h : LoadSim load load' R) (off : Nat) :
    (load off = none ∧ load' off = none) ∨
      ∃ b b', load off = some b ∧ load' off = some b' ∧ R b b' :=
  OptRel.cases (h off)

/-- Per-level lists: same length, same recorded offsets, related cursors. -/
def LvlRel (R : β → β' → Prop) : List (Nat × β) → List (Nat × β') → Prop
  | [], [] => True
  | x :: l, x' :: l' => x.1 = x'.1 ∧ R x.2 x'.2 ∧ LvlRel R l l'
  | _, _ => False

@[simp] theorem LvlRel_nil (R : β → β' → Prop) : LvlRel R [] [] ↔ True := Iff.rfl
@[simp] theorem LvlRel_cons (R : β → β' → Prop) (x : Nat × β) (x' : Nat × β') (l l') :
    LvlRel R (x :: l) (x' :: l') ↔ x.1 = x'.1 ∧ R x.2 x'.2 ∧ LvlRel R l l' := Iff.rfl
@[simp] theorem LvlRel_nil_cons (R : β → β' → Prop) (x' : Nat × β') (l') :
    LvlRel R [] (x' :: l') ↔ False := Iff.rfl
@[simp] theorem LvlRel_cons_nil (R : β → β' → Prop) (x : Nat × β) (l) :
    LvlRel R (x :: l) ([] : List (Nat × β')) ↔ False := Iff.rfl

theorem LvlRel.length_eq {R : β → β' → Prop} :
    ∀ {l : List (Nat × β)} {l' : List (Nat × β')}, LvlRel R l l' → l.length = l'.length
  | [], [], _ => rfl
  | _ :: _, _ :: _, h => by simp [LvlRel.length_eq h.2.2]
  | [], _ :: _, h => h.elim
  | _ :: _, [], h => h.elim

theorem LvlRel.append {R : β → β' → Prop} :
    ∀ {a : List (Nat × β)} {a' : List (Nat × β')} {b b'},
      LvlRel R a a' → LvlRel R b b' → LvlRel R (a ++ b) (a' ++ b')
  | [], [], _, _, _, h => h
  | _ :: _, _ :: _, _, _, h, h2 => ⟨h.1, h.2.1, LvlRel.append h.2.2 h2⟩
  | [], _ :: _, _, _, h, _ => h.elim
  | _ :: _, [], _, _, h, _ => h.elim

theorem LvlRel.reverse {R : β → β' → Prop} :
    ∀ {l : List (Nat × β)} {l' : List (Nat × β')}, LvlRel R l l' → LvlRel R l.reverse l'.reverse
  | [], [], _ => trivial
  | x :: _, x' :: _, h => by
    simp only [List.reverse_cons]
    exact LvlRel.append (LvlRel.reverse h.2.2) ⟨h.1, h.2.1, trivial⟩
  | [], _ :: _, h => h.elim
  | _ :: _, [], h => h.elim

theorem LvlRel_iff_getElem {R : β → β' → Prop} (l : List (Nat × β)) (l' : List (Nat × β')) :
    LvlRel R l l' ↔ l.length = l'.length ∧
      ∀ i (h : i < l.length) (h' : i < l'.length), (l[i]).1 = (l'[i]).1 ∧ R (l[i]).2 (l'[i]).2 := by
  induction l generalizing l' with
  | nil => cases l' <;> simp
  | cons x l ih =>
    cases l' with
    | nil => simp
    | cons x' l' =>
      simp only [LvlRel_cons, ih, List.length_cons, Nat.add_right_cancel_iff]
      constructor
      · rintro ⟨h1, h2, h3, h4⟩
        refine ⟨h3, fun i h h' => ?_⟩
        cases i with
        | zero => exact ⟨h1, h2⟩
        | succ i => exact h4 i (by simpa using h) (by simpa using h')
      · rintro ⟨h3, h4⟩
        refine ⟨(h4 0 (by simp) (by simp)).1, (h4 0 (by simp) (by simp)).2, h3, fun i h h' => ?_⟩
        exact h4 (i + 1) (by simpa using h) (by simpa using h')

/-- The entry under the last-level cursor is the same on both sides. -/
theorem LvlRel.lastCurrent {ops : BlockOps β} {ops' : BlockOps β'} {R : β → β' → Prop}
    (hops : OpsSim ops ops' R) {l : List (Nat × β)} {l' : List (Nat × β')} (h : LvlRel R l l') :
    RC.lastCurrent ops l = RC.lastCurrent ops' l' := by
  have hr := h.reverse
  unfold RC.lastCurrent
  rw [List.getLast?_eq_head?_reverse, List.getLast?_eq_head?_reverse]
  cases h1 : l.reverse <;> cases h2 : l'.reverse <;> simp [h1, h2] at hr ⊢
  exact hops.current _ _ hr.2.1

/-- Reader-cursor states: same base, levels and load log; related index and data cursors. -/
structure RCRel (R : β → β' → Prop) (c : RC β) (c' : RC β') : Prop where
  base : c.base = c'.base
  levels : c.levels = c'.levels
  log : c.log = c'.log
  inner : OptRel (LvlRel R) c.inner c'.inner
  cur : OptRel R c.cur c'.cur

theorem RCRel_new (R : β → β' → Prop) (m : Meta.Meta) : RCRel R (RC.new m) (RC.new m) :=
  ⟨rfl, rfl, rfl, trivial, trivial⟩

theorem OptRel.map {α α' γ γ' : Type} {P : α → α' → Prop} {Q : γ → γ' → Prop} {f : α → γ}
    {f' : α' → γ'} {x : Option α} {x' : Option α'} (h : OptRel P x x')
    (hf : ∀ a a', P a a' → Q (f a) (f' a')) : OptRel Q (x.map f) (x'.map f') := by
  rcases h.cases with ⟨rfl, rfl⟩ | ⟨a, a', rfl, rfl, ha⟩
  · trivial
  · exact hf a a' ha

section
variable {ops : BlockOps β} {ops' : BlockOps β'} {load : Nat → Option β}
  {load' : Nat → Option β'} {R : β → β' → Prop}

/-- A move on related cursors, with its outcome named: related cursors, one answer. -/
theorem OpsSim.apply_eq (h : OpsSim ops ops' R) (mov : Mov) {b : β} {b' : β'} (hb : R b b') :
    ∃ c1 c1' r, ops.apply mov b = (c1, r) ∧ ops'.apply mov b' = (c1', r) ∧ R c1 c1' :=
  ⟨_, _, _, rfl, Prod.ext rfl (h.apply mov b b' hb).2.symm, (h.apply mov b b' hb).1⟩

theorem initialIndex_sim (hops : OpsSim ops ops' R) (hload : LoadSim load load' R) (mov : Mov) :
    ∀ (d jump : Nat) (acc : List (Nat × β)) (acc' : List (Nat × β')) (log : List Nat),
      LvlRel R acc acc' →
      OptRel (fun x x' => OptRel (LvlRel R) x.1 x'.1 ∧ x.2 = x'.2)
        (RC.initialIndex ops load mov d jump acc log)
        (RC.initialIndex ops' load' mov d jump acc' log) := by
  intro d
  induction d with
  | zero =>
    intro jump acc acc' log h
    exact ⟨h.reverse, rfl⟩
  | succ d ih =>
    intro jump acc acc' log h
    rcases hload.cases jump with ⟨h1, h2⟩ | ⟨b, b', h1, h2, hb⟩
    · rw [RC.initialIndex_fail h1, RC.initialIndex_fail h2]; trivial
    · obtain ⟨c1, c1', r, ha, ha', hR⟩ := hops.apply_eq mov hb
      cases r with
      | none =>
        rw [RC.initialIndex_stop h1 ha, RC.initialIndex_stop h2 ha']
        exact ⟨trivial, rfl⟩
      | some e =>
        rw [RC.initialIndex_step h1 ha, RC.initialIndex_step h2 ha']
        exact ih _ _ _ _ ⟨rfl, hR, h⟩

/-- Both sides use related cursors at a level, reloaded or not. -/
theorem reload_sim (hload : LoadSim load load' R) (jump : Nat) {x : Nat × β} {x' : Nat × β'}
    (ho : x.1 = x'.1) (hc : R x.2 x'.2) (log : List Nat) :
    OptRel (fun y y' => y.1 = y'.1 ∧ R y.2.1 y'.2.1 ∧ y.2.2 = y'.2.2)
      (RC.reload load jump x log) (RC.reload load' jump x' log) := by
  obtain ⟨off, c⟩ := x
  obtain ⟨off', c'⟩ := x'
  dsimp only at ho hc
  subst ho
  by_cases hj : jump = off
  · subst hj
    rw [RC.reload_same, RC.reload_same]
    exact ⟨rfl, hc, rfl⟩
  · rw [RC.reload_other hj, RC.reload_other hj]
    exact OptRel.map (hload jump) (fun b b' hb => ⟨rfl, hb, rfl⟩)

theorem iterLevels_sim (hops : OpsSim ops ops' R) (hload : LoadSim load load' R) (mov : Mov) :
    ∀ (inner : List (Nat × β)) (inner' : List (Nat × β')) (jump : Nat) (log : List Nat),
      LvlRel R inner inner' →
      OptRel (fun x x' => LvlRel R x.1 x'.1 ∧ x.2.1 = x'.2.1 ∧ x.2.2 = x'.2.2)
        (RC.iterLevels ops load mov jump inner log)
        (RC.iterLevels ops' load' mov jump inner' log) := by
  intro inner
  induction inner with
  | nil =>
    intro inner' jump log h
    cases inner' with
    | nil => rw [RC.iterLevels_nil, RC.iterLevels_nil]; exact ⟨trivial, rfl, rfl⟩
    | cons => exact h.elim
  | cons x rest ih =>
    intro inner' jump log h
    cases inner' with
    | nil => exact h.elim
    | cons x' rest' =>
      obtain ⟨hoff, hc, hrest⟩ := h
      rcases (reload_sim hload jump hoff hc log).cases with ⟨h1, h2⟩ | ⟨y, y', h1, h2, hy⟩
      · rw [RC.iterLevels_fail h1, RC.iterLevels_fail h2]; trivial
      · obtain ⟨o2, c2, log2⟩ := y
        obtain ⟨o2', c2', log2'⟩ := y'
        obtain ⟨ho, hc2, hl⟩ := hy
        dsimp only at ho hc2 hl
        subst ho hl
        obtain ⟨c1, c1', r, ha, ha', hR⟩ := hops.apply_eq mov hc2
        cases r with
        | none =>
          rw [RC.iterLevels_stop h1 ha, RC.iterLevels_stop h2 ha']
          exact ⟨⟨rfl, hR, hrest⟩, rfl, rfl⟩
        | some e =>
          rw [RC.iterLevels_step h1 ha, RC.iterLevels_step h2 ha']
          exact (ih rest' (offOf e) log2 hrest).map
            (fun y y' hy => ⟨⟨rfl, hR, hy.1⟩, hy.2.1, hy.2.2⟩)

theorem recurLevels_sim (hops : OpsSim ops ops' R) (hload : LoadSim load load' R) (fixF1 : Bool)
    (mov : Mov) :
    ∀ (l : List (Nat × β)) (l' : List (Nat × β')) (log : List Nat),
      LvlRel R l l' →
      OptRel (fun x x' => LvlRel R x.1 x'.1 ∧ x.2.1 = x'.2.1 ∧ x.2.2 = x'.2.2)
        (RC.recurLevels ops load fixF1 mov l log)
        (RC.recurLevels ops' load' fixF1 mov l' log) := by
  intro l
  induction l with
  | nil =>
    intro l' log h
    cases l' with
    | nil => rw [RC.recurLevels_nil, RC.recurLevels_nil]; exact ⟨trivial, rfl, rfl⟩
    | cons => exact h.elim
  | cons x parents ih =>
    intro l' log h
    cases l' with
    | nil => exact h.elim
    | cons x' parents' =>
      obtain ⟨off, c⟩ := x
      obtain ⟨off', c'⟩ := x'
      obtain ⟨hoff, hc, hrest⟩ := h
      dsimp only at hoff hc
      subst hoff
      obtain ⟨c1, c1', r, ha, ha', hR⟩ := hops.apply_eq mov hc
      cases r with
      | some e =>
        rw [RC.recurLevels_stay _ _ ha, RC.recurLevels_stay _ _ ha']
        exact ⟨⟨rfl, hR, hrest⟩, hops.current _ _ hR, rfl⟩
      | none =>
        rcases (ih parents' log hrest).cases with ⟨h1, h2⟩ | ⟨y, y', h1, h2, hy⟩
        · rw [RC.recurLevels_fail ha h1, RC.recurLevels_fail ha' h2]; trivial
        · obtain ⟨p1, e1, l1⟩ := y
          obtain ⟨p1', e1', l1'⟩ := y'
          obtain ⟨hp, he, hl⟩ := hy
          dsimp only at hp he hl
          subst he hl
          cases e1 with
          | none =>
            rw [RC.recurLevels_out ha h1, RC.recurLevels_out ha' h2]
            exact ⟨⟨rfl, hR, hp⟩, rfl, rfl⟩
          | some e =>
            rcases hload.cases (offOf e) with ⟨g1, g2⟩ | ⟨nb, nb', g1, g2, hnb⟩
            · rw [RC.recurLevels_climb_fail ha h1 g1, RC.recurLevels_climb_fail ha' h2 g2]; trivial
            · rw [RC.recurLevels_climb ha h1 g1, RC.recurLevels_climb ha' h2 g2]
              obtain ⟨hR2, hr2⟩ := hops.apply mov nb nb' hnb
              exact ⟨⟨rfl, hR2, hp⟩, hr2, rfl⟩

/-- Relation between the outcomes of an index-cursor move, or of a public operation, on both sides. -/
abbrev StepRel (R : β → β' → Prop) {γ : Type} (x : RC β × γ) (x' : RC β' × γ) : Prop :=
  RCRel R x.1 x'.1 ∧ x.2 = x'.2

theorem iterIndex_sim (hops : OpsSim ops ops' R) (hload : LoadSim load load' R) (mov : Mov)
    (c : RC β) (c' : RC β') (h : RCRel R c c') :
    OptRel (StepRel R) (RC.iterIndex ops load mov c) (RC.iterIndex ops' load' mov c') := by
  rcases h.inner.cases with ⟨h1, h2⟩ | ⟨inner, inner', h1, h2, hin⟩
  · rw [RC.iterIndex_none h1, RC.iterIndex_none h2, ← h.base, ← h.levels, ← h.log]
    refine (initialIndex_sim hops hload mov _ _ [] [] _ trivial).map ?_
    rintro ⟨i1, l1⟩ ⟨i1', l1'⟩ ⟨hi, hl⟩
    dsimp only at hi hl ⊢
    subst hl
    refine ⟨⟨rfl, rfl, rfl, hi, h.cur⟩, ?_⟩
    rcases hi.cases with ⟨k1, k2⟩ | ⟨a, a', k1, k2, ha⟩
    · rw [k1, k2]
    · rw [k1, k2]; exact ha.lastCurrent hops
  · rw [RC.iterIndex_some h1, RC.iterIndex_some h2, ← h.base, ← h.levels, ← h.log]
    refine (iterLevels_sim hops hload mov inner inner' _ _ hin).map ?_
    rintro ⟨i1, d1, l1⟩ ⟨i1', d1', l1'⟩ ⟨hi, hd, hl⟩
    dsimp only at hi hd hl ⊢
    subst hd hl
    refine ⟨⟨rfl, rfl, rfl, hi, h.cur⟩, ?_⟩
    cases d1 with
    | true => exact hi.lastCurrent hops
    | false => rfl

theorem recurIndex_sim (hops : OpsSim ops ops' R) (hload : LoadSim load load' R) (fixF1 : Bool)
    (mov : Mov) (c : RC β) (c' : RC β') (h : RCRel R c c') :
    OptRel (StepRel R) (RC.recurIndex ops load fixF1 mov c) (RC.recurIndex ops' load' fixF1 mov c') := by
  -- from an initialised index cursor
  have init : ∀ (c : RC β) (c' : RC β') (inner : List (Nat × β)) (inner' : List (Nat × β')),
      c.inner = some inner → c'.inner = some inner' → RCRel R c c' →
      OptRel (StepRel R) (RC.recurIndex ops load fixF1 mov c)
        (RC.recurIndex ops' load' fixF1 mov c') := by
    intro c c' inner inner' h1 h2 h
    have hin : LvlRel R inner inner' := by
      have := h.inner
      rw [h1, h2] at this
      exact this
    rw [RC.recurIndex_some h1, RC.recurIndex_some h2, ← h.base, ← h.levels, ← h.log]
    refine (recurLevels_sim hops hload fixF1 mov _ _ _ hin.reverse).map ?_
    rintro ⟨i1, r1, l1⟩ ⟨i1', r1', l1'⟩ ⟨hi, hr, hl⟩
    dsimp only at hi hr hl ⊢
    subst hr hl
    exact ⟨⟨rfl, rfl, rfl, hi.reverse, h.cur⟩, rfl⟩
  rcases h.inner.cases with ⟨h1, h2⟩ | ⟨inner, inner', h1, h2, -⟩
  · rw [RC.recurIndex_none h1, RC.recurIndex_none h2, ← h.base, ← h.levels, ← h.log]
    rcases (initialIndex_sim hops hload mov (c.levels + 1) c.base [] [] c.log trivial).cases with
      ⟨g1, g2⟩ | ⟨y, y', g1, g2, hy⟩
    · rw [g1, g2]; trivial
    · obtain ⟨i1, l1⟩ := y
      obtain ⟨i1', l1'⟩ := y'
      obtain ⟨hi, hl⟩ := hy
      dsimp only at hi hl
      subst hl
      rw [g1, g2]
      rcases hi.cases with ⟨k1, k2⟩ | ⟨a, a', k1, k2, ha⟩
      · subst k1 k2
        exact ⟨⟨rfl, rfl, rfl, trivial, h.cur⟩, rfl⟩
      · subst k1 k2
        exact init _ _ a a' rfl rfl ⟨rfl, rfl, rfl, ha, h.cur⟩
  · exact init c c' inner inner' h1 h2 h

theorem enterWith_sim (hops : OpsSim ops ops' R) (hload : LoadSim load load' R) (mov : Mov)
    (c : RC β) (c' : RC β') (e : Entry) (h : RCRel R c c') :
    StepRel R (RC.enterWith ops load mov c e) (RC.enterWith ops' load' mov c' e) := by
  rcases hload.cases (offOf e) with ⟨g1, g2⟩ | ⟨b, b', g1, g2, hb⟩
  · rw [RC.enterWith_err g1, RC.enterWith_err g2]; exact ⟨h, rfl⟩
  · rw [RC.enterWith_ok g1, RC.enterWith_ok g2]
    obtain ⟨hR, hr⟩ := hops.apply mov b b' hb
    exact ⟨⟨h.base, h.levels, congrArg (offOf e :: ·) h.log, h.inner, hR⟩, congrArg Res.ok hr⟩

theorem seek_sim (hops : OpsSim ops ops' R) (hload : LoadSim load load' R) (mov : Mov)
    (keepCur : Bool) (c : RC β) (c' : RC β') (h : RCRel R c c') :
    StepRel R (RC.seek ops load mov keepCur c) (RC.seek ops' load' mov keepCur c') := by
  rcases (iterIndex_sim hops hload mov c c' h).cases with
    ⟨g1, g2⟩ | ⟨⟨c1, r⟩, ⟨c1', r'⟩, g1, g2, h1, hr⟩
  · rw [RC.seek_err g1, RC.seek_err g2]; exact ⟨h, rfl⟩
  · dsimp only at h1 hr
    subst hr
    cases r with
    | some e =>
      rw [RC.seek_some g1, RC.seek_some g2]
      exact enterWith_sim hops hload mov c1 c1' e h1
    | none =>
      rw [RC.seek_none g1, RC.seek_none g2]
      cases keepCur with
      | true => exact ⟨h1, rfl⟩
      | false => exact ⟨⟨h1.base, h1.levels, h1.log, h1.inner, trivial⟩, rfl⟩

theorem climb_sim (hops : OpsSim ops ops' R) (hload : LoadSim load load' R) (fixF1 : Bool)
    (mov : Mov) (c : RC β) (c' : RC β') (h : RCRel R c c') :
    StepRel R (RC.climb ops load fixF1 mov c) (RC.climb ops' load' fixF1 mov c') := by
  rcases (recurIndex_sim hops hload fixF1 mov c c' h).cases with
    ⟨g1, g2⟩ | ⟨⟨c1, r⟩, ⟨c1', r'⟩, g1, g2, h1, hr⟩
  · rw [RC.climb_err g1, RC.climb_err g2]; exact ⟨h, rfl⟩
  · dsimp only at h1 hr
    subst hr
    cases r with
    | some e =>
      rw [RC.climb_some g1, RC.climb_some g2]
      exact enterWith_sim hops hload mov.enter c1 c1' e h1
    | none =>
      rw [RC.climb_none g1, RC.climb_none g2]
      exact ⟨h1, rfl⟩

theorem rel_sim (hops : OpsSim ops ops' R) (hload : LoadSim load load' R) (fixF1 : Bool)
    (mov : Mov) (c : RC β) (c' : RC β') (h : RCRel R c c') :
    StepRel R (RC.rel ops load fixF1 mov c) (RC.rel ops' load' fixF1 mov c') := by
  rcases h.cur.cases with ⟨g1, g2⟩ | ⟨b, b', g1, g2, hb⟩
  · rw [RC.rel_none g1, RC.rel_none g2]
    exact seek_sim hops hload mov.enter false c c' h
  · obtain ⟨hR, hr⟩ := hops.apply mov b b' hb
    cases hm : (ops.apply mov b).2 with
    | some e =>
      rw [RC.rel_stay g1 hm, RC.rel_stay g2 (hr.symm.trans hm)]
      exact ⟨⟨h.base, h.levels, h.log, h.inner, hR⟩, rfl⟩
    | none =>
      rw [RC.rel_climb g1 hm, RC.rel_climb g2 (hr.symm.trans hm)]
      exact climb_sim hops hload fixF1 mov _ _ ⟨h.base, h.levels, h.log, h.inner, hR⟩

theorem eq_sim (hops : OpsSim ops ops' R) (hload : LoadSim load load' R) (q : Bytes)
    (c : RC β) (c' : RC β') (h : RCRel R c c') :
    StepRel R (c.eq ops load q) (c'.eq ops' load' q) := by
  have hs := seek_sim hops hload (.ge q) true c c' h
  rw [RC.eq_eq, RC.eq_eq]
  revert hs
  rcases RC.seek ops load (.ge q) true c with ⟨c1, r⟩
  rcases RC.seek ops' load' (.ge q) true c' with ⟨c1', r'⟩
  rintro ⟨h1, h2⟩
  dsimp only at h1 h2
  subst h2
  cases r with
  | err => exact ⟨h1, rfl⟩
  | ok r => exact ⟨h1, rfl⟩

theorem le_sim (hops : OpsSim ops ops' R) (hload : LoadSim load load' R) (fixF1 : Bool)
    (q : Bytes) (c : RC β) (c' : RC β') (h : RCRel R c c') :
    StepRel R (c.le ops load fixF1 q) (c'.le ops' load' fixF1 q) := by
  have hs := seek_sim hops hload (.ge q) true c c' h
  rw [RC.le_eq, RC.le_eq]
  revert hs
  rcases RC.seek ops load (.ge q) true c with ⟨c1, r⟩
  rcases RC.seek ops' load' (.ge q) true c' with ⟨c1', r'⟩
  rintro ⟨h1, h2⟩
  dsimp only at h1 h2
  subst h2
  cases r with
  | err => exact ⟨h1, rfl⟩
  | ok r =>
    cases r with
    | some kv =>
      obtain ⟨k, v⟩ := kv
      dsimp only
      by_cases hk : k = q
      · rw [if_pos hk, if_pos hk]; exact ⟨h1, rfl⟩
      · rw [if_neg hk, if_neg hk]; exact rel_sim hops hload fixF1 .prev c1 c1' h1
    | none =>
      dsimp only
      have hs := seek_sim hops hload .last false c1 c1' h1
      revert hs
      rcases RC.seek ops load .last false c1 with ⟨c2, r2⟩
      rcases RC.seek ops' load' .last false c1' with ⟨c2', r2'⟩
      rintro ⟨l1, l2⟩
      dsimp only at l1 l2
      subst l2
      cases r2 with
      | err => exact ⟨l1, rfl⟩
      | ok r => exact ⟨l1, rfl⟩

theorem first_sim (hops : OpsSim ops ops' R) (hload : LoadSim load load' R)
    (c : RC β) (c' : RC β') (h : RCRel R c c') :
    StepRel R (c.first ops load) (c'.first ops' load') :=
  seek_sim hops hload .first false c c' h

theorem last_sim (hops : OpsSim ops ops' R) (hload : LoadSim load load' R)
    (c : RC β) (c' : RC β') (h : RCRel R c c') :
    StepRel R (c.last ops load) (c'.last ops' load') :=
  seek_sim hops hload .last false c c' h

theorem ge_sim (hops : OpsSim ops ops' R) (hload : LoadSim load load' R) (q : Bytes)
    (c : RC β) (c' : RC β') (h : RCRel R c c') :
    StepRel R (c.ge ops load q) (c'.ge ops' load' q) :=
  seek_sim hops hload (.ge q) true c c' h

theorem next_sim (hops : OpsSim ops ops' R) (hload : LoadSim load load' R) (fixF1 : Bool)
    (c : RC β) (c' : RC β') (h : RCRel R c c') :
    StepRel R (c.next ops load fixF1) (c'.next ops' load' fixF1) := by
  rw [RC.next_eq, RC.next_eq]; exact rel_sim hops hload fixF1 .next c c' h

theorem prev_sim (hops : OpsSim ops ops' R) (hload : LoadSim load load' R) (fixF1 : Bool)
    (c : RC β) (c' : RC β') (h : RCRel R c c') :
    StepRel R (c.prev ops load fixF1) (c'.prev ops' load' fixF1) := by
  rw [RC.prev_eq, RC.prev_eq]; exact rel_sim hops hload fixF1 .prev c c' h

theorem RC_step_sim (hops : OpsSim ops ops' R) (hload : LoadSim load load' R) (fixF1 : Bool)
    (c : RC β) (c' : RC β') (h : RCRel R c c') (op : Op) :
    RCRel R (RC.step ops load fixF1 c op).1 (RC.step ops' load' fixF1 c' op).1 ∧
      (RC.step ops load fixF1 c op).2 = (RC.step ops' load' fixF1 c' op).2 := by
  cases op with
  | first => exact first_sim hops hload c c' h
  | last => exact last_sim hops hload c c' h
  | next => exact next_sim hops hload fixF1 c c' h
  | prev => exact prev_sim hops hload fixF1 c c' h
  | ge q => exact ge_sim hops hload q c c' h
  | le q => exact le_sim hops hload fixF1 q c c' h
  | eq q => exact eq_sim hops hload q c c' h
  | reset => exact ⟨⟨h.base, h.levels, h.log, trivial, trivial⟩, rfl⟩
  | current =>
    refine ⟨h, ?_⟩
    simp only [RC.step, RC.current]
    rcases h.cur.cases with ⟨g1, g2⟩ | ⟨b, b', g1, g2, hb⟩
    · simp only [g1, g2]
    · simp only [g1, g2]; exact congrArg Res.ok (hops.current b b' hb)

/-- **Simulation lifting, histories**: related final states, equal result lists. -/
theorem RC_run_sim (hops : OpsSim ops ops' R) (hload : LoadSim load load' R) (fixF1 : Bool) :
    ∀ (hist : List Op) (c : RC β) (c' : RC β'), RCRel R c c' →
      RCRel R (run ops load fixF1 c hist).1 (run ops' load' fixF1 c' hist).1 ∧
        (run ops load fixF1 c hist).2 = (run ops' load' fixF1 c' hist).2 := by
  intro hist
  induction hist with
  | nil => intro c c' h; exact ⟨h, rfl⟩
  | cons op rest ih =>
    intro c c' h
    obtain ⟨h1, h2⟩ := RC_step_sim hops hload fixF1 c c' h op
    obtain ⟨h3, h4⟩ := ih _ _ h1
    simp only [run]
    exact ⟨h3, by rw [h2, h4]⟩

theorem RC_run_sim_new (hops : OpsSim ops ops' R) (hload : LoadSim load load' R) (fixF1 : Bool)
    (m : Meta.Meta) (hist : List Op) :
    (run ops load fixF1 (RC.new m) hist).2 = (run ops' load' fixF1 (RC.new m) hist).2 :=
  (RC_run_sim hops hload fixF1 hist _ _ (RCRel_new R m)).2

end

end Grenad.Assembly
