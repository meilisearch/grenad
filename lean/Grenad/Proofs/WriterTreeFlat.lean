/-
  T-writer: the "flat" description of the index (C09): the items of the blocks of level
  `ℓ`, concatenated in emission order, are the pointers `(last key, be64 offset)` to the blocks
  of level `ℓ - 1` in emission order; the data blocks hold the inserted entries in order.
-/
import Grenad.Proofs.WriterTreeSub
import Grenad.Proofs.WriterEq

namespace Grenad

open WT

/-- The blocks of one level, in emission order. -/
def atLevel (log : List Emitted) (ℓ : Nat) : List Emitted := log.filter (·.level = ℓ)

/-- The index entry that points to an emitted block. -/
def blockPtr (c : Emitted) : Entry := (lastKey c.items, be64 c.offset)

theorem atLevel_concat_eq {log : List Emitted} {e : Emitted} {ℓ : Nat} (h : e.level = ℓ) :
    atLevel (log ++ [e]) ℓ = atLevel log ℓ ++ [e] := by
  simp [atLevel, List.filter_append, h]

theorem atLevel_concat_ne {log : List Emitted} {e : Emitted} {ℓ : Nat} (h : e.level ≠ ℓ) :
    atLevel (log ++ [e]) ℓ = atLevel log ℓ := by
  simp [atLevel, List.filter_append, h]

structure FInv (n : Nat) (content : List Entry) (s : WSt) : Prop where
  lvl_lt : ∀ e ∈ s.2.2, e.level < n
  data : (atLevel s.2.2 0).flatMap (·.items) = content
  link : ∀ (j : Nat) (w : BW), s.1[j]? = some w →
    (atLevel s.2.2 (n - j)).flatMap (·.items) ++ w.items = (atLevel s.2.2 (n - j - 1)).map blockPtr

theorem FInv.init (iv n : Nat) : FInv n [] (List.replicate n (BW.new iv), [], []) := by
  refine ⟨by simp, by simp [atLevel], ?_⟩
  intro j w hj
  obtain ⟨hj', hw⟩ := List.getElem?_eq_some_iff.mp hj
  simp at hw; subst hw
  simp [atLevel, BW.new]

theorem FInv.cut {cd : Codec} {n : Nat} {content : List Entry}
    {i : Nat} {idx : List BW} {out : Bytes} {log : List Emitted} {cur parent p' : BW} {lk : Bytes}
    (h : FInv n content (idx, out, log)) (hlen : idx.length = n)
    (hc : idx[i + 1]? = some cur) (hp : idx[i]? = some parent)
    (hlk : lk = lastKey cur.items) (hp' : p'.items = parent.items ++ [(lk, be64 out.length)]) :
    FInv n content (cutAt cd i cur p' (idx, out, log)) := by
  obtain ⟨h1, h2, h3⟩ := h
  simp only at h1 h2 h3
  subst hlen
  have hin : i + 1 < idx.length := by
    obtain ⟨h', -⟩ := List.getElem?_eq_some_iff.mp hc; omega
  refine ⟨?_, ?_, ?_⟩
  · intro e he
    simp only [cutAt, List.mem_append, List.mem_singleton] at he
    rcases he with he | rfl
    · exact h1 e he
    · simp only; omega
  · simp only [cutAt]
    rw [atLevel_concat_ne (by simp only; omega)]; exact h2
  · intro j w hj
    simp only [cutAt] at hj ⊢
    rcases getElem?_set_set hj with ⟨rfl, rfl⟩ | ⟨rfl, rfl⟩ | ⟨hj0, hj1, hj⟩
    · rw [atLevel_concat_eq rfl, atLevel_concat_ne (by simp only; omega)]
      have := h3 _ _ hc
      simpa [BW.reset] using this
    · rw [atLevel_concat_ne (by simp only; omega),
        atLevel_concat_eq (by simp only; omega)]
      have := h3 _ _ hp
      rw [hp', ← List.append_assoc, this]
      simp [blockPtr, hlk]
    · have hjn : j < idx.length := (List.getElem?_eq_some_iff.mp hj).1
      rw [atLevel_concat_ne (by simp only; omega),
        atLevel_concat_ne (by simp only; omega)]
      exact h3 _ _ hj

theorem FInv.dataStep {cd : Codec} {n : Nat} {content : List Entry}
    {idx : List BW} {out : Bytes} {log : List Emitted} {bw parent p' : BW} {lk : Bytes}
    (h : FInv n content (idx, out, log)) (hlen : idx.length = n)
    (hp : idx[n - 1]? = some parent)
    (hlk : lk = lastKey bw.items) (hp' : p'.items = parent.items ++ [(lk, be64 out.length)]) :
    FInv n (content ++ bw.items) (dataAt cd (n - 1) bw p' (idx, out, log)) := by
  obtain ⟨h1, h2, h3⟩ := h
  simp only at h1 h2 h3
  subst hlen
  have hn : 0 < idx.length := by
    obtain ⟨h', -⟩ := List.getElem?_eq_some_iff.mp hp; omega
  refine ⟨?_, ?_, ?_⟩
  · intro e he
    simp only [dataAt, List.mem_append, List.mem_singleton] at he
    rcases he with he | rfl
    · exact h1 e he
    · exact hn
  · simp only [dataAt]
    rw [atLevel_concat_eq rfl]; simp [h2]
  · intro j w hj
    simp only [dataAt] at hj ⊢
    have hjn : j < idx.length := by
      obtain ⟨h', -⟩ := List.getElem?_eq_some_iff.mp hj; simp at h'; omega
    by_cases hj0 : j = idx.length - 1
    · subst hj0
      rw [List.getElem?_set_self (by omega)] at hj
      cases hj
      have e1 : idx.length - (idx.length - 1) - 1 = 0 := by omega
      rw [atLevel_concat_ne (by simp only; omega), e1, atLevel_concat_eq rfl]
      have := h3 _ _ hp
      rw [e1] at this
      rw [hp', ← List.append_assoc, this]
      simp [blockPtr, hlk]
    · rw [List.getElem?_set_ne (by omega)] at hj
      rw [atLevel_concat_ne (by simp only; omega), atLevel_concat_ne (by simp only; omega)]
      exact h3 _ _ hj

structure FFinal (n : Nat) (content : List Entry) (s : WSt) (r : Nat) : Prop where
  root_last : ∃ l0 e, s.2.2 = l0 ++ [e] ∧ e.offset = r ∧ e.level = n ∧ ∀ e' ∈ l0, e'.level < n
  data : (atLevel s.2.2 0).flatMap (·.items) = content
  links : ∀ ℓ, 1 ≤ ℓ → ℓ ≤ n →
    (atLevel s.2.2 ℓ).flatMap (·.items) = (atLevel s.2.2 (ℓ - 1)).map blockPtr

theorem FInv.root {cd : Codec} {n : Nat} {content : List Entry}
    {idx : List BW} {out : Bytes} {log : List Emitted} {cur : BW}
    (h : FInv n content (idx, out, log)) (hlen : idx.length = n)
    (hempty : ∀ j w, 1 ≤ j → idx[j]? = some w → w.items = [])
    (hc : idx[0]? = some cur) :
    FFinal n content (rootAt cd cur (idx, out, log)) out.length := by
  obtain ⟨h1, h2, h3⟩ := h
  simp only at h1 h2 h3
  subst hlen
  have hn : 0 < idx.length := by
    obtain ⟨h', -⟩ := List.getElem?_eq_some_iff.mp hc; omega
  refine ⟨⟨log, _, rfl, rfl, rfl, h1⟩, ?_, ?_⟩
  · simp only [rootAt]
    rw [atLevel_concat_ne (by simp only; omega)]; exact h2
  · intro ℓ hl1 hl2
    simp only [rootAt]
    by_cases hl : ℓ = idx.length
    · subst hl
      rw [atLevel_concat_eq rfl, atLevel_concat_ne (by simp only; omega)]
      have := h3 _ _ hc
      simpa using this
    · rw [atLevel_concat_ne (by simp only; omega),
        atLevel_concat_ne (by simp only; omega)]
      have hj : idx.length - ℓ < idx.length := by omega
      have := h3 (idx.length - ℓ) idx[idx.length - ℓ] (by simp [hj])
      rw [hempty (idx.length - ℓ) idx[idx.length - ℓ] (by omega) (by simp [hj])] at this
      have e1 : idx.length - (idx.length - ℓ) = ℓ := by omega
      rw [e1] at this
      simpa using this

end Grenad
