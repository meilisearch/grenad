/-
  Grenad.Proofs.SorterSteps — the sorter's operations preserve a content invariant, whatever the
  reason for a spill or a chunk merge.  The spill is parameterised by the key-sorted permutation
  it writes (`insertWith` / `finishWith`; the stable sort gives back `Sorter.insert` / `finish`).
-/
import Grenad.Proofs.SorterContent
import Grenad.Proofs.SorterRun

namespace Grenad
open Sorter

/-! ### `Entries`: what happens to `items` -/

/-- A successful `Entries.insert` appends the entry, however many doublings it took. -/
theorem insert_items : ∀ (fuel : Nat) (e e' : Entries) (k v : Bytes) (ev : List SEvent),
    Entries.insert e k v fuel = .ok (e', ev) → e'.items = e.items ++ [(k, v)] := by
  intro fuel
  induction fuel with
  | zero => intro e e' k v ev h; cases h
  | succ fuel ih =>
    intro e e' k v ev h
    rw [Entries.insert] at h
    split at h; · cases h
    split at h; · cases h
    split at h
    · cases h
    · cases hs : Entries.store e k v with
      | error t => rw [hs] at h; cases h
      | ok e1 =>
        rw [hs] at h
        cases h
        rw [((Entries.store_ok_iff e e' k v).1 hs).2]
        rfl
    · split at h
      · cases h
      · rename_i e1 ev1 hr
        split at h
        · cases h
        · rename_i e2 ev2 hi
          cases h
          rw [ih _ _ _ _ _ hi, Entries.reallocate_ok hr]

/-! ### The sorter with an explicit spill order -/

/-- `Sorter.insert` where each spill writes `srt s`, a key-sorted permutation of the pending
    entries chosen from the whole sorter state (so: any choice at each spill). -/
def insertWith (mf : MergeFn) (srt : Sorter → List Entry) (s : Sorter) (k v : Bytes) :
    Except SErr Sorter :=
  match s.entries.fits k v with
  | .error t => .error (.trap t)
  | .ok fit =>
    let thresholdExceeded := decide (s.entries.bufLen ≥ s.cfg.budget)
    if fit || (!thresholdExceeded && s.cfg.allowRealloc) then
      match s.entries.insert k v 64 with
      | .error t => .error (.trap t)
      | .ok (e, ev) => .ok { s with entries := e, events := s.events ++ ev }
    else
      match writeChunkWith mf s (srt s) with
      | .error e => .error e
      | .ok s =>
        match s.entries.insert k v 64 with
        | .error t => .error (.trap t)
        | .ok (e, ev) =>
          let s := { s with entries := e, events := s.events ++ ev }
          if s.chunks.length ≥ s.cfg.maxNb then mergeChunks mf s else .ok s

def finishChunksWith (mf : MergeFn) (srt : Sorter → List Entry) (s : Sorter) : Except SErr Sorter :=
  match writeChunkWith mf s (srt s) with
  | .error e => .error e
  | .ok s =>
    match s.entries.drop with
    | .error t => .error (.trap t)
    | .ok (e, ev) => .ok { s with entries := e, events := s.events ++ ev }

def finishWith (mf : MergeFn) (srt : Sorter → List Entry) (s : Sorter) :
    Except SErr (List Entry × Sorter) :=
  match finishChunksWith mf srt s with
  | .error e => .error e
  | .ok s =>
    match Merger.run mf s.chunks with
    | (none, _) => .error .merge
    | (some out, m) => .ok (out, { s with calls := s.calls ++ m.calls.reverse })

/-- Insert all of `kvs`, then finish (`Props.C07.runAll` with an explicit spill order). -/
def runWith (mf : MergeFn) (srt : Sorter → List Entry) : Sorter → List Entry →
    Except SErr (List Entry × Sorter)
  | s, [] => finishWith mf srt s
  | s, (k, v) :: r =>
    match insertWith mf srt s k v with
    | .error e => .error e
    | .ok s' => runWith mf srt s' r

/-- The spill order of the model: the stable sort. -/
def stableSrt : Sorter → List Entry := fun s => sortStable s.entries.items

theorem insertWith_stable (mf : MergeFn) (s : Sorter) (k v : Bytes) :
    insertWith mf stableSrt s k v = Sorter.insert mf s k v := rfl

theorem finishWith_stable (mf : MergeFn) (s : Sorter) :
    finishWith mf stableSrt s = Sorter.finish mf s := rfl

/-- What a spill may write: a key-sorted permutation of the pending entries. -/
def SortOracle (srt : Sorter → List Entry) : Prop :=
  ∀ s, (srt s).Perm s.entries.items ∧ KeySorted (srt s)

theorem stableSrt_oracle : SortOracle stableSrt :=
  fun _ => ⟨List.mergeSort_perm _ _, sortStable_sorted _⟩

/-- The call trapped, or returned a value satisfying `Q`; it did not report a merge error. -/
def OkOr {α : Type} (r : Except SErr α) (Q : α → Prop) : Prop :=
  match r with
  | .ok a => Q a
  | .error (.trap _) => True
  | .error .merge => False

theorem OkOr.imp {α : Type} {r : Except SErr α} {Q Q' : α → Prop} (himp : ∀ a, Q a → Q' a)
    (h : OkOr r Q) : OkOr r Q' := by
  cases r with
  | ok a => exact himp a h
  | error e => cases e <;> exact h

theorem writeChunkWith_ok (mf' : Bytes → List Bytes → Bytes) (s : Sorter) {sorted : List Entry}
    (hs : KeySorted sorted) :
    writeChunkWith (tot mf') s sorted =
      .ok { s with chunks := s.chunks ++ [G mf' sorted], entries := s.entries.clear,
                   events := s.events ++ [.create], calls := s.calls ++ Spec.group sorted } := by
  unfold writeChunkWith
  rw [mergeGroups_sorted mf' hs]

/-- A predicate on (chunks, pending entries, inserted so far) that every sorter operation keeps. -/
structure ContentInv (mf' : Bytes → List Bytes → Bytes) (srt : Sorter → List Entry)
    (P : List (List Entry) → List Entry → List Entry → Prop) : Prop where
  asc : ∀ {cs items kvs}, P cs items kvs → AllAsc cs
  push : ∀ {cs items kvs} (e : Entry), P cs items kvs → P cs (items ++ [e]) (kvs ++ [e])
  spill : ∀ (s : Sorter) {kvs}, P s.chunks s.entries.items kvs →
    P (s.chunks ++ [G mf' (srt s)]) [] kvs
  merge : ∀ {cs items kvs}, P cs items kvs → P [Spec.mergeSpec mf' cs] items kvs

variable {mf' : Bytes → List Bytes → Bytes} {srt : Sorter → List Entry}
  {P : List (List Entry) → List Entry → List Entry → Prop}

/-- What the content invariants need of a merge function `mf`, total or not: where its calls
    succeed, a chunk written from a key-sorted list and the merge of ascending chunks are the ones
    of the total function `mf'`. -/
structure Base (mf : MergeFn) (mf' : Bytes → List Bytes → Bytes) : Prop where
  groups : ∀ {l : List Entry} {r}, KeySorted l → mergeGroups mf l none [] [] = some r →
    r = (G mf' l, Spec.group l)
  run : ∀ {cs : List (List Entry)} {out m}, AllAsc cs → Merger.run mf cs = (some out, m) →
    out = Spec.mergeSpec mf' cs

theorem base_tot (mf' : Bytes → List Bytes → Bytes) : Base (tot mf') mf' where
  groups := fun hs h => by rw [mergeGroups_sorted mf' hs] at h; exact (Option.some.inj h).symm
  run := fun hasc h => by
    have := run_total mf' _ hasc
    rw [h] at this
    exact (Option.some.inj this)

theorem Base.writeChunkWith {mf : MergeFn} (B : Base mf mf') {s s1 : Sorter} {sorted : List Entry}
    (hs : KeySorted sorted) (h : writeChunkWith mf s sorted = .ok s1) :
    s1 = { s with chunks := s.chunks ++ [G mf' sorted], entries := s.entries.clear,
                  events := s.events ++ [.create], calls := s.calls ++ Spec.group sorted } := by
  unfold Sorter.writeChunkWith at h
  split at h
  · cases h
  rename_i chunk calls hg
  cases h
  cases B.groups hs hg
  rfl

/-- A successful insert keeps a content invariant, for any merge function with `Base`. -/
theorem insertWith_ok {mf : MergeFn} (B : Base mf mf') (I : ContentInv mf' srt P)
    (ho : SortOracle srt) {s s' : Sorter} {kvs : List Entry} {k v : Bytes}
    (hP : P s.chunks s.entries.items kvs) (h : insertWith mf srt s k v = .ok s') :
    P s'.chunks s'.entries.items (kvs ++ [(k, v)]) := by
  unfold insertWith at h
  split at h
  · cases h
  simp only at h
  split at h
  · split at h
    · cases h
    · rename_i e ev hi
      cases h
      simp only
      rw [insert_items _ _ _ _ _ _ hi]
      exact I.push _ hP
  · split at h
    · cases h
    rename_i s1 hw
    cases B.writeChunkWith (ho s).2 hw
    simp only at h
    split at h
    · cases h
    rename_i e ev hi
    have hitems : e.items = [] ++ [(k, v)] := insert_items _ _ _ _ _ _ hi
    have hP1 := I.push (k, v) (I.spill s hP)
    rw [← hitems] at hP1
    split at h
    · unfold mergeChunks at h
      split at h
      · cases h
      rename_i merged m hr
      cases h
      simp only
      rw [B.run (I.asc hP1) hr]
      exact I.merge hP1
    · cases h
      exact hP1

/-- With a merge function that never fails an insert reports no merge error. -/
theorem insertWith_no_merge {mf : MergeFn} (hmf : ∀ k vs, (mf k vs).isSome) (s : Sorter)
    (k v : Bytes) : insertWith mf srt s k v ≠ .error .merge := by
  intro h
  unfold insertWith at h
  split at h
  · cases h
  simp only at h
  split at h
  · split at h <;> cases h
  · split at h
    · rename_i e hw
      cases h
      unfold writeChunkWith at hw
      split at hw
      · rename_i hg; exact mergeGroups_ne_none mf hmf _ _ _ _ hg
      · cases hw
    split at h
    · cases h
    split at h
    · unfold mergeChunks at h
      split at h
      · rename_i hr; exact Merger.run_ne_none mf hmf _ (by rw [hr])
      · cases h
    · cases h

theorem insertWith_inv (I : ContentInv mf' srt P) (ho : SortOracle srt) (s : Sorter)
    (kvs : List Entry) (k v : Bytes) (hP : P s.chunks s.entries.items kvs) :
    OkOr (insertWith (tot mf') srt s k v)
      (fun s' => P s'.chunks s'.entries.items (kvs ++ [(k, v)])) := by
  cases h : insertWith (tot mf') srt s k v with
  | ok s' => exact insertWith_ok (base_tot mf') I ho hP h
  | error e =>
    cases e with
    | trap t => exact trivial
    | merge => exact (insertWith_no_merge (fun _ _ => rfl) s k v h).elim

theorem finishWith_inv (I : ContentInv mf' srt P) (ho : SortOracle srt) (s : Sorter)
    (kvs : List Entry) (hP : P s.chunks s.entries.items kvs) :
    OkOr (finishWith (tot mf') srt s)
      (fun r => ∃ cs, P cs [] kvs ∧ r.1 = Spec.mergeSpec mf' cs) := by
  unfold finishWith finishChunksWith
  rw [writeChunkWith_ok mf' s (ho s).2]
  simp only
  split
  · rename_i e he
    split at he
    · cases he; exact trivial
    · cases he
  · rename_i s1 hs1
    split at hs1
    · cases hs1
    · rename_i e ev hd
      cases hs1
      simp only
      have hP1 := I.spill s hP
      have h := run_total mf' _ (I.asc hP1)
      cases hrun : Merger.run (tot mf') (s.chunks ++ [G mf' (srt s)]) with
      | mk o m =>
        rw [hrun] at h
        simp only at h
        subst h
        exact ⟨_, hP1, rfl⟩

theorem runWith_inv (I : ContentInv mf' srt P) (ho : SortOracle srt) :
    ∀ (kvs : List Entry) (s : Sorter) (kvs0 : List Entry), P s.chunks s.entries.items kvs0 →
    OkOr (runWith (tot mf') srt s kvs)
      (fun r => ∃ cs, P cs [] (kvs0 ++ kvs) ∧ r.1 = Spec.mergeSpec mf' cs) := by
  intro kvs
  induction kvs with
  | nil =>
    intro s kvs0 hP
    simp only [runWith, List.append_nil]
    exact finishWith_inv I ho s kvs0 hP
  | cons e r ih =>
    intro s kvs0 hP
    obtain ⟨k, v⟩ := e
    simp only [runWith]
    have h := insertWith_inv I ho s kvs0 k v hP
    cases hi : insertWith (tot mf') srt s k v with
    | error err =>
      rw [hi] at h
      cases err with
      | trap t => exact trivial
      | merge => exact h.elim
    | ok s' =>
      rw [hi] at h
      simp only [OkOr] at h
      have := ih s' (kvs0 ++ [(k, v)]) h
      simpa using this

theorem new_state {cfg : SCfg} {s0 : Sorter} (h : Sorter.new cfg = .ok s0) :
    s0.chunks = [] ∧ s0.entries.items = [] := by
  obtain ⟨_, _, rfl⟩ := Sorter.new_ok h
  exact ⟨rfl, rfl⟩

theorem runWith_new (I : ContentInv mf' srt P) (ho : SortOracle srt) (h0 : P [] [] [])
    {cfg : SCfg} {s0 : Sorter} (hnew : Sorter.new cfg = .ok s0) (kvs : List Entry) :
    OkOr (runWith (tot mf') srt s0 kvs)
      (fun r => ∃ cs, P cs [] kvs ∧ r.1 = Spec.mergeSpec mf' cs) := by
  obtain ⟨hc, hi⟩ := new_state hnew
  have := runWith_inv I ho kvs s0 [] (by rw [hc, hi]; exact h0)
  simpa only [List.nil_append] using this

/-- Relations between value lists under which the content is tracked (`=` or `Perm`). -/
structure ValRel (ρ : List Bytes → List Bytes → Prop) : Prop where
  refl : ∀ a, ρ a a
  trans : ∀ {a b c}, ρ a b → ρ b c → ρ a c
  app : ∀ {a a' b b'}, ρ a a' → ρ b b' → ρ (a ++ b) (a' ++ b')

theorem valRel_eq : ValRel (· = ·) :=
  ⟨fun _ => rfl, fun h1 h2 => h1.trans h2, fun h1 h2 => by rw [h1, h2]⟩

theorem valRel_perm : ValRel List.Perm :=
  ⟨fun _ => List.Perm.refl _, fun h1 h2 => h1.trans h2, fun h1 h2 => h1.append h2⟩

/-- Key-wise relation between two entry lists. -/
def KW (ρ : List Bytes → List Bytes → Prop) (l l' : List Entry) : Prop :=
  ∀ k, ρ (valsOf k l) (valsOf k l')

/-- The chunks are the grouped-and-merged images of consecutive parts of what was inserted. -/
def PContent (mf' : Bytes → List Bytes → Bytes) (ρ : List Bytes → List Bytes → Prop)
    (cs : List (List Entry)) (items kvs : List Entry) : Prop :=
  ∃ parts : List (List Entry), cs = parts.map (G mf') ∧ KW ρ (parts.flatten ++ items) kvs

theorem pcontent_inv (mf' : Bytes → List Bytes → Bytes) (law : MergeLaw mf')
    {ρ : List Bytes → List Bytes → Prop} (hρ : ValRel ρ) (srt : Sorter → List Entry)
    (hsrt : ∀ s, KW ρ (srt s) s.entries.items) :
    ContentInv mf' srt (PContent mf' ρ) where
  asc := by
    rintro cs items kvs ⟨parts, rfl, _⟩ c hc
    obtain ⟨S, _, rfl⟩ := List.mem_map.mp hc
    exact G_asc mf' S
  push := by
    rintro cs items kvs e ⟨parts, hcs, hkw⟩
    refine ⟨parts, hcs, fun k => ?_⟩
    rw [← List.append_assoc, valsOf_append k (parts.flatten ++ items) [e], valsOf_append k kvs [e]]
    exact hρ.app (hkw k) (hρ.refl _)
  spill := by
    rintro s kvs ⟨parts, hcs, hkw⟩
    refine ⟨parts ++ [srt s], by rw [hcs]; simp, fun k => ?_⟩
    refine hρ.trans ?_ (hkw k)
    simp only [List.flatten_append, List.flatten_cons, List.flatten_nil, List.append_nil,
      valsOf_append]
    exact hρ.app (hρ.refl _) (hsrt s k)
  merge := by
    rintro cs items kvs ⟨parts, hcs, hkw⟩
    refine ⟨[parts.flatten], ?_, by simpa using hkw⟩
    rw [hcs, mergeSpec_eq_G, G_flatten_law mf' law]
    rfl

/-- Keys only (no law on the merge function). -/
def PKeys (cs : List (List Entry)) (items kvs : List Entry) : Prop :=
  AllAsc cs ∧ ∀ k, (k ∈ cs.flatten.map (·.1) ∨ k ∈ items.map (·.1)) ↔ k ∈ kvs.map (·.1)

theorem pkeys_init : PKeys [] [] [] := by
  constructor
  · intro s hs; cases hs
  · intro k; simp

theorem pkeys_inv (mf' : Bytes → List Bytes → Bytes) (srt : Sorter → List Entry)
    (ho : SortOracle srt) : ContentInv mf' srt PKeys where
  asc := fun h => h.1
  push := by
    rintro cs items kvs e ⟨h1, h2⟩
    refine ⟨h1, fun k => ?_⟩
    simp only [List.map_append, List.mem_append, ← h2 k]
    exact or_assoc.symm
  spill := by
    rintro s kvs ⟨h1, h2⟩
    refine ⟨?_, fun k => ?_⟩
    · intro c hc
      rcases List.mem_append.mp hc with h | h
      · exact h1 c h
      · rw [List.mem_singleton.mp h]; exact G_asc mf' _
    · rw [← h2 k]
      simp only [List.flatten_append, List.flatten_cons, List.flatten_nil, List.append_nil,
        List.map_append, List.mem_append, List.map_nil, List.not_mem_nil, or_false]
      rw [G_keys, ((ho s).1.map (·.1)).mem_iff]
  merge := by
    rintro cs items kvs ⟨h1, h2⟩
    refine ⟨?_, fun k => ?_⟩
    · intro c hc
      rw [List.mem_singleton.mp hc, mergeSpec_eq_G]; exact G_asc mf' _
    · rw [← h2 k]
      simp only [List.flatten_cons, List.flatten_nil, List.append_nil]
      rw [mergeSpec_eq_G, G_keys]

end Grenad
