/-
  Grenad.Proofs.GroupSpec — theory of `Spec.group` (the grouping specification used by C06/C07):
  keys strictly ascending, membership characterisation, uniqueness, "peel off the least key".
-/
import Grenad.Model.Spec
import Grenad.Proofs.Bytes

namespace Grenad

abbrev Groups := List (Bytes × List Bytes)

def GAsc (g : Groups) : Prop := g.Pairwise (fun a b => a.1 < b.1)

/-- Values carried by the entries of `l` whose key is `k`, in order of appearance. -/
def valsOf (k : Bytes) (l : List Entry) : List Bytes :=
  (l.filter (fun e => decide (e.1 = k))).map (·.2)

/-- Value list of key `k` in a group list (`[]` when absent). -/
def gv : Groups → Bytes → List Bytes
  | [], _ => []
  | (k', vs) :: r, k => if k' = k then vs else gv r k

theorem blt_asymm {a b : Bytes} (h1 : a < b) : ¬ b < a := fun h2 => blt_irrefl a (blt_trans h1 h2)
theorem blt_tri {a b : Bytes} (h1 : ¬ a < b) (h2 : a ≠ b) : b < a := by grind

@[simp] theorem valsOf_nil (k : Bytes) : valsOf k [] = [] := rfl

theorem valsOf_cons (k : Bytes) (e : Entry) (l : List Entry) :
    valsOf k (e :: l) = if e.1 = k then e.2 :: valsOf k l else valsOf k l := by
  unfold valsOf
  by_cases h : e.1 = k <;> simp [h]

theorem valsOf_append (k : Bytes) (l₁ l₂ : List Entry) :
    valsOf k (l₁ ++ l₂) = valsOf k l₁ ++ valsOf k l₂ := by
  simp [valsOf]

theorem valsOf_flatten (k : Bytes) (ss : List (List Entry)) :
    valsOf k ss.flatten = (ss.map (valsOf k)).flatten := by
  induction ss with
  | nil => rfl
  | cons s r ih => simp [valsOf_append, ih]

theorem valsOf_eq_nil {k : Bytes} {l : List Entry} : valsOf k l = [] ↔ ∀ e ∈ l, e.1 ≠ k := by
  simp [valsOf, List.filter_eq_nil_iff]

theorem valsOf_ne_nil {k : Bytes} {l : List Entry} : valsOf k l ≠ [] ↔ ∃ e ∈ l, e.1 = k := by
  rw [Ne, valsOf_eq_nil]; simp

theorem valsOf_filter_ne_self (k : Bytes) (l : List Entry) :
    valsOf k (l.filter (fun e => decide (e.1 ≠ k))) = [] := by
  rw [valsOf_eq_nil]; intro e he; simpa using (List.mem_filter.mp he).2

theorem valsOf_filter_ne_other {k k' : Bytes} (h : k' ≠ k) (l : List Entry) :
    valsOf k' (l.filter (fun e => decide (e.1 ≠ k))) = valsOf k' l := by
  unfold valsOf
  rw [List.filter_filter]
  congr 1
  apply List.filter_congr
  intro e _
  by_cases h1 : e.1 = k' <;> simp [h1, h]

theorem gv_eq_nil {g : Groups} {k : Bytes} (h : ∀ x ∈ g, x.1 ≠ k) : gv g k = [] := by
  induction g with
  | nil => rfl
  | cons a r ih =>
    obtain ⟨k', vs⟩ := a
    have h1 : k' ≠ k := h (k', vs) List.mem_cons_self
    simp only [gv, h1, if_false]
    exact ih (fun x hx => h x (List.mem_cons_of_mem _ hx))

theorem gv_of_mem {g : Groups} (ha : GAsc g) {k : Bytes} {vs : List Bytes} (hm : (k, vs) ∈ g) :
    gv g k = vs := by
  induction g with
  | nil => cases hm
  | cons a r ih =>
    obtain ⟨k', vs'⟩ := a
    have ha' := List.pairwise_cons.mp ha
    rcases List.mem_cons.mp hm with h | h
    · cases h; simp [gv]
    · have : k' < k := ha'.1 _ h
      have h1 : k' ≠ k := by intro e; subst e; exact blt_irrefl _ this
      simp only [gv, h1, if_false]
      exact ih ha'.2 h

open Spec in
/-- On a key-ascending group list `addGroup` splits the list at `k`. -/
theorem addGroup_eq {k v : Bytes} {g : Groups} (ha : GAsc g) :
    addGroup k v g =
      g.filter (fun x => decide (x.1 < k)) ++ (k, gv g k ++ [v]) :: g.filter (fun x => decide (k < x.1)) := by
  induction g with
  | nil => rfl
  | cons a r ih =>
    obtain ⟨k0, vs0⟩ := a
    have ha' := List.pairwise_cons.mp ha
    have hr : ∀ x ∈ r, k0 < x.1 := ha'.1
    simp only [addGroup]
    split
    · -- `k` is below every key
      rename_i hlt
      have hall : ∀ x ∈ (k0, vs0) :: r, k < x.1 := by
        intro x hx
        rcases List.mem_cons.mp hx with rfl | hx
        · exact hlt
        · exact blt_trans hlt (hr x hx)
      rw [List.filter_eq_nil_iff.mpr (fun x hx => by simpa using blt_asymm (hall x hx)),
        List.filter_eq_self.mpr (fun x hx => by simpa using hall x hx),
        gv_eq_nil (fun x hx e => blt_irrefl k (by have := hall x hx; rwa [e] at this))]
      rfl
    · split
      · -- `k` is the first key
        rename_i _ heq
        subst heq
        rw [List.filter_eq_nil_iff.mpr, List.filter_cons_of_neg (by simp),
          List.filter_eq_self.mpr (fun x hx => by simpa using hr x hx)]
        · simp [gv]
        · intro x hx
          rcases List.mem_cons.mp hx with rfl | hx
          · simp
          · simpa using blt_asymm (hr x hx)
      · rename_i h1 h2
        have hlt : k0 < k := blt_tri h1 h2
        have hne : k0 ≠ k := fun e => h2 e.symm
        rw [ih ha'.2, List.filter_cons_of_pos (by simpa using hlt),
          List.filter_cons_of_neg (by simpa using h1)]
        simp [gv, hne]

open Spec in
theorem gasc_addGroup {k v : Bytes} {g : Groups} (ha : GAsc g) : GAsc (addGroup k v g) := by
  rw [addGroup_eq ha]
  refine List.pairwise_append.mpr ⟨ha.sublist List.filter_sublist,
    List.pairwise_cons.mpr ⟨fun b hb => by simpa using (List.mem_filter.mp hb).2,
      ha.sublist List.filter_sublist⟩, ?_⟩
  intro a ha' b hb
  have hak : a.1 < k := by simpa using (List.mem_filter.mp ha').2
  rcases List.mem_cons.mp hb with rfl | hb
  · exact hak
  · exact blt_trans hak (by simpa using (List.mem_filter.mp hb).2)

open Spec in
theorem mem_addGroup {k v : Bytes} {g : Groups} (ha : GAsc g) (k' : Bytes) (vs : List Bytes) :
    (k', vs) ∈ addGroup k v g ↔ (k' = k ∧ vs = gv g k ++ [v]) ∨ (k' ≠ k ∧ (k', vs) ∈ g) := by
  rw [addGroup_eq ha]
  simp only [List.mem_append, List.mem_cons, List.mem_filter, decide_eq_true_eq, Prod.mk.injEq]
  constructor
  · rintro (⟨h, l⟩ | h | ⟨h, l⟩)
    · exact .inr ⟨fun e => blt_irrefl k (e ▸ l), h⟩
    · exact .inl h
    · exact .inr ⟨fun e => blt_irrefl k (e ▸ l), h⟩
  · rintro (h | ⟨hne, h⟩)
    · exact .inr (.inl h)
    · by_cases l : k' < k
      · exact .inl ⟨h, l⟩
      · exact .inr (.inr ⟨h, blt_tri l hne⟩)

/-- Induction from the right end of a list. -/
theorem list_snoc_induction {α : Type _} {motive : List α → Prop} (nil : motive [])
    (append_singleton : ∀ l e, motive l → motive (l ++ [e])) : ∀ l, motive l := by
  intro l
  have : ∀ r : List α, motive r.reverse := by
    intro r
    induction r with
    | nil => exact nil
    | cons a r ih => rw [List.reverse_cons]; exact append_singleton _ _ ih
  simpa using this l.reverse

open Spec in
theorem group_append_singleton (l : List Entry) (e : Entry) :
    group (l ++ [e]) = addGroup e.1 e.2 (group l) := by
  simp [group, List.foldl_append]

open Spec in
@[simp] theorem group_nil : group [] = [] := rfl

open Spec in
theorem gasc_group (l : List Entry) : GAsc (group l) := by
  induction l using list_snoc_induction with
  | nil => simp [GAsc]
  | append_singleton l e ih => rw [group_append_singleton]; exact gasc_addGroup ih

open Spec in
/-- Membership in `group l`: the value list of `k` is exactly the values of `k` in `l`, in order,
    and only keys that occur are present. -/
theorem mem_group (l : List Entry) (k : Bytes) (vs : List Bytes) :
    (k, vs) ∈ group l ↔ vs = valsOf k l ∧ vs ≠ [] := by
  induction l using list_snoc_induction generalizing k vs with
  | nil => simp
  | append_singleton l e ih =>
    obtain ⟨ke, ve⟩ := e
    rw [group_append_singleton, mem_addGroup (gasc_group l), valsOf_append, valsOf_cons]
    have hgv : gv (group l) ke = valsOf ke l := by
      by_cases hn : valsOf ke l = []
      · rw [hn]
        apply gv_eq_nil
        intro x hx e
        obtain ⟨kx, vx⟩ := x
        simp only at e; subst e
        have := (ih kx vx).mp hx
        exact this.2 (this.1.trans hn)
      · exact gv_of_mem (gasc_group l) ((ih ke _).mpr ⟨rfl, hn⟩)
    simp only [hgv, valsOf_nil]
    by_cases hk : k = ke
    · subst hk
      simp only [true_and, ne_eq, not_true_eq_false, false_and, or_false, if_true]
      constructor
      · intro h; exact ⟨h, by rw [h]; simp⟩
      · intro h; exact h.1
    · have hk' : ke ≠ k := fun e => hk e.symm
      simp [hk, hk', ih]

open Spec in
theorem key_mem_of_mem_group {l : List Entry} {x : Bytes × List Bytes} (h : x ∈ group l) :
    ∃ e ∈ l, e.1 = x.1 := by
  obtain ⟨k, vs⟩ := x
  have := (mem_group l k vs).mp h
  exact valsOf_ne_nil.mp (this.1 ▸ this.2)

/-- Two key-ascending association lists with the same members are equal. -/
theorem keyAsc_ext {β : Type} {g₁ g₂ : List (Bytes × β)}
    (h₁ : g₁.Pairwise (fun a b => a.1 < b.1)) (h₂ : g₂.Pairwise (fun a b => a.1 < b.1))
    (h : ∀ x, x ∈ g₁ ↔ x ∈ g₂) : g₁ = g₂ := by
  induction g₁ generalizing g₂ with
  | nil =>
    cases g₂ with
    | nil => rfl
    | cons b t => exact absurd ((h b).mpr List.mem_cons_self) (by simp)
  | cons a t₁ ih =>
    cases g₂ with
    | nil => exact absurd ((h a).mp List.mem_cons_self) (by simp)
    | cons b t₂ =>
      have p₁ := List.pairwise_cons.mp h₁
      have p₂ := List.pairwise_cons.mp h₂
      have hab : a = b := by
        rcases List.mem_cons.mp ((h a).mp List.mem_cons_self) with e | ha
        · exact e
        · rcases List.mem_cons.mp ((h b).mpr List.mem_cons_self) with e | hb
          · exact e.symm
          · exact absurd (p₁.1 b hb) (blt_asymm (p₂.1 a ha))
      subst hab
      congr 1
      apply ih p₁.2 p₂.2
      intro x
      constructor
      · intro hx
        rcases List.mem_cons.mp ((h x).mp (List.mem_cons_of_mem _ hx)) with e | hx'
        · subst e; exact absurd (p₁.1 x hx) (blt_irrefl _)
        · exact hx'
      · intro hx
        rcases List.mem_cons.mp ((h x).mpr (List.mem_cons_of_mem _ hx)) with e | hx'
        · subst e; exact absurd (p₂.1 x hx) (blt_irrefl _)
        · exact hx'

open Spec in
/-- A key-ascending list whose members are characterised like those of `group l` is `group l`. -/
theorem eq_group_of_mem {g : Groups} {l : List Entry} (ha : GAsc g)
    (hm : ∀ k vs, (k, vs) ∈ g ↔ vs = valsOf k l ∧ vs ≠ []) : g = group l :=
  keyAsc_ext ha (gasc_group l) (fun ⟨k, vs⟩ => by rw [hm, mem_group])

open Spec in
/-- Peel off the least key. -/
theorem group_min {l : List Entry} {k : Bytes} (hmin : ∀ e ∈ l, ¬ e.1 < k)
    (hex : ∃ e ∈ l, e.1 = k) :
    group l = (k, valsOf k l) :: group (l.filter (fun e => decide (e.1 ≠ k))) := by
  symm
  apply eq_group_of_mem
  · refine List.pairwise_cons.mpr ⟨?_, gasc_group _⟩
    intro x hx
    obtain ⟨e, he, hk⟩ := key_mem_of_mem_group hx
    have he' := List.mem_filter.mp he
    have hne : e.1 ≠ k := by simpa using he'.2
    show k < x.1
    rw [← hk]
    exact blt_tri (hmin e he'.1) hne
  · intro k' vs
    rw [List.mem_cons, mem_group]
    by_cases hk : k' = k
    · subst hk
      rw [valsOf_filter_ne_self]
      have := valsOf_ne_nil.mpr hex
      constructor
      · rintro (h | h)
        · cases h; exact ⟨rfl, this⟩
        · exact absurd h.1 h.2
      · rintro ⟨h, _⟩; left; rw [h]
    · rw [valsOf_filter_ne_other hk]
      constructor
      · rintro (h | h)
        · cases h; exact absurd rfl hk
        · exact h
      · intro h; right; exact h

open Spec in
theorem length_addGroup_le (k v : Bytes) (g : Groups) : (addGroup k v g).length ≤ g.length + 1 := by
  induction g with
  | nil => simp [addGroup]
  | cons a r ih =>
    obtain ⟨k', vs⟩ := a
    simp only [addGroup]
    split
    · simp
    · split
      · simp
      · simp only [List.length_cons]; omega

open Spec in
theorem length_group_le (l : List Entry) : (group l).length ≤ l.length := by
  induction l using list_snoc_induction with
  | nil => simp
  | append_singleton l e ih =>
    rw [group_append_singleton]
    have := length_addGroup_le e.1 e.2 (group l)
    simp only [List.length_append, List.length_singleton]; omega

theorem group_keys_asc (l : List Entry) : ((Spec.group l).map (·.1)).Pairwise (· < ·) := by
  rw [List.pairwise_map]; exact gasc_group l

theorem mem_group_keys (l : List Entry) (k : Bytes) :
    k ∈ (Spec.group l).map (·.1) ↔ k ∈ l.map (·.1) := by
  simp only [List.mem_map]
  constructor
  · rintro ⟨x, hx, rfl⟩
    obtain ⟨e, he, hk⟩ := key_mem_of_mem_group hx
    exact ⟨e, he, hk⟩
  · rintro ⟨e, he, rfl⟩
    exact ⟨(e.1, valsOf e.1 l), (mem_group l _ _).mpr ⟨rfl, valsOf_ne_nil.mpr ⟨e, he, rfl⟩⟩, rfl⟩

end Grenad
