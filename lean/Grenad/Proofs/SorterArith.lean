/-
  Grenad.Proofs.SorterArith — the buffer bookkeeping of `Entries` (C08, C17): what the guarded
  primitives compute, that they never trap under the invariant `Inv`, and the exact description
  of the doubling loop.
-/
import Grenad.Model.Sorter

namespace Grenad

/-- Total number of key and value bytes of a list of entries. -/
def itemsSize : List Entry → Nat
  | [] => 0
  | e :: r => e.1.length + e.2.length + itemsSize r

theorem itemsSize_append (a b : List Entry) : itemsSize (a ++ b) = itemsSize a + itemsSize b := by
  induction a with
  | nil => simp [itemsSize]
  | cons x r ih => simp [itemsSize, ih]; omega

theorem itemsSize_eq_sum (l : List Entry) :
    itemsSize l = (l.map (fun e => e.1.length + e.2.length)).sum := by
  induction l with
  | nil => rfl
  | cons x r ih => simp [itemsSize, ih]

namespace Entries

theorem roundUp_mod (n : Nat) : roundUp n % 16 = 0 := by unfold roundUp boundSize; omega
theorem le_roundUp (n : Nat) : n ≤ roundUp n := by unfold roundUp boundSize; omega
theorem roundUp_lt (n : Nat) : roundUp n < n + 16 := by unfold roundUp boundSize; omega
theorem roundUp_of_mod {n : Nat} (h : n % 16 = 0) : roundUp n = n := by
  unfold roundUp boundSize; omega
theorem roundUp_mono {a b : Nat} (h : a ≤ b) : roundUp a ≤ roundUp b := by
  unfold roundUp boundSize
  have : (a + 16 - 1) / 16 ≤ (b + 16 - 1) / 16 := Nat.div_le_div_right (by omega)
  omega

/-- Bytes of the buffer in use: entry bytes at the back plus the bound records at the front. -/
def used (e : Entries) : Nat := e.entriesLen + 16 * e.boundsCount

/-- The bookkeeping invariant of the two-ended buffer (C17). -/
structure Inv (e : Entries) : Prop where
  align : e.bufLen % 16 = 0
  pos   : 16 ≤ e.bufLen
  room  : e.entriesLen + 16 * e.boundsCount ≤ e.bufLen
  cnt   : e.boundsCount = e.items.length
  sum   : e.entriesLen = itemsSize e.items
  live  : e.live = true

/-- The buffer after `j` doublings. -/
def scale (e : Entries) (j : Nat) : Entries := { e with bufLen := e.bufLen * 2 ^ j }

/-- The buffer after one entry has been stored. -/
def push (e : Entries) (k v : Bytes) : Entries :=
  { e with entriesLen := e.entriesLen + k.length + v.length, boundsCount := e.boundsCount + 1,
           items := e.items ++ [(k, v)] }

/-- The events of `j` successive doublings starting from an allocation of `b` bytes. -/
def reallocEvents : Nat → Nat → List SEvent
  | _, 0 => []
  | b, j+1 => .alloc (b * 2) :: .dealloc b :: reallocEvents (b * 2) j

@[simp] theorem scale_zero (e : Entries) : scale e 0 = e := by simp [scale]

theorem scale_succ (e : Entries) (j : Nat) : scale (scale e 1) j = scale e (j + 1) := by
  simp [scale, Nat.pow_succ, Nat.mul_assoc, Nat.mul_comm]

theorem Inv.scale {e : Entries} (h : Inv e) (j : Nat) : Inv (scale e j) := by
  have hp : 0 < 2 ^ j := Nat.two_pow_pos j
  have hle : e.bufLen ≤ e.bufLen * 2 ^ j := Nat.le_mul_of_pos_right _ hp
  refine ⟨?_, ?_, ?_, h.cnt, h.sum, h.live⟩
  · show (e.bufLen * 2 ^ j) % 16 = 0
    rw [Nat.mul_mod, h.align]; simp
  · show 16 ≤ e.bufLen * 2 ^ j
    have := h.pos; omega
  · show e.entriesLen + 16 * e.boundsCount ≤ e.bufLen * 2 ^ j
    have := h.room; omega

theorem Inv.push {e : Entries} (h : Inv e) (k v : Bytes)
    (hfit : e.used + entrySize k v ≤ e.bufLen) : Inv (push e k v) := by
  unfold used entrySize boundSize at hfit
  refine ⟨h.align, h.pos, ?_, ?_, ?_, h.live⟩
  · show e.entriesLen + k.length + v.length + 16 * (e.boundsCount + 1) ≤ e.bufLen
    omega
  · show e.boundsCount + 1 = (e.items ++ [(k, v)]).length
    simp [h.cnt]
  · show e.entriesLen + k.length + v.length = itemsSize (e.items ++ [(k, v)])
    simp [itemsSize_append, itemsSize, h.sum]; omega

theorem Inv.clear {e : Entries} (h : Inv e) : Inv e.clear := by
  refine ⟨h.align, h.pos, ?_, ?_, ?_, h.live⟩
  · show 0 + 16 * 0 ≤ e.bufLen
    omega
  · rfl
  · rfl

/-! ### What the guarded primitives compute (no invariant assumed) -/

theorem alloc_eq (n : Nat) : alloc n =
    if roundUp n = 0 then .error .allocZero else if roundUp n ≥ 2 ^ 63 then .error .arith
    else .ok (roundUp n, [.alloc (roundUp n)]) := rfl

theorem remaining_eq (e : Entries) :
    remaining e = if e.used ≤ e.bufLen then .ok (e.bufLen - e.used) else .error .arith := by
  unfold remaining sub used boundSize
  by_cases h1 : e.entriesLen ≤ e.bufLen
  · rw [if_pos h1]
    dsimp only
    by_cases h2 : e.boundsCount * 16 ≤ e.bufLen - e.entriesLen
    · rw [if_pos h2, if_pos (by omega)]; congr 1; omega
    · rw [if_neg h2, if_neg (by omega)]
  · rw [if_neg h1, if_neg (by omega)]

/-- `fits` traps on a freed buffer or when the two ends already overlap; otherwise it compares
    the room left with the entry size and asks for one more aligned bound slot. -/
theorem fits_def (e : Entries) (k v : Bytes) :
    fits e k v =
      if e.live = false then .error .useAfterFree
      else if e.used ≤ e.bufLen then
        .ok (decide (e.used + entrySize k v ≤ e.bufLen) &&
             decide (e.boundsCount + 1 ≤ e.bufLen / 16))
      else .error .arith := by
  unfold fits
  rw [remaining_eq]
  cases e.live
  · rfl
  simp only [Bool.not_true, Bool.false_eq_true, Bool.true_eq_false, if_false, sub, boundSize]
  by_cases hu : e.used ≤ e.bufLen
  · have c1 : e.boundsCount ≤ e.bufLen / 16 := by unfold used at hu; omega
    simp only [hu, c1, if_true]
    congr 1
    rw [Bool.eq_iff_iff]
    simp only [Bool.and_eq_true, decide_eq_true_eq]
    omega
  · by_cases c1 : e.boundsCount ≤ e.bufLen / 16 <;> simp only [hu, c1, if_true, if_false]

/-- An answer of `fits` means that the two ends do not overlap, and says how much room is left. -/
theorem fits_ok {e : Entries} {k v : Bytes} {b : Bool} (h : fits e k v = .ok b) :
    e.used ≤ e.bufLen ∧
    b = (decide (e.used + entrySize k v ≤ e.bufLen) && decide (e.boundsCount + 1 ≤ e.bufLen / 16)) := by
  rw [fits_def] at h
  split at h
  · cases h
  split at h
  · rename_i hu
    injection h with h
    exact ⟨hu, h.symm⟩
  · cases h

/-- `store` succeeds exactly when the entry and its bound fit between the two ends. -/
theorem store_ok_iff (e e' : Entries) (k v : Bytes) :
    store e k v = .ok e' ↔ e.used + entrySize k v ≤ e.bufLen ∧ e' = push e k v := by
  unfold store used entrySize boundSize push
  simp only
  split
  · exact ⟨fun h => (by cases h), fun h => (by omega)⟩
  split
  · exact ⟨fun h => (by cases h), fun h => (by omega)⟩
  split
  · exact ⟨fun h => (by cases h), fun h => (by omega)⟩
  · constructor
    · intro h; cases h; exact ⟨by omega, rfl⟩
    · intro h; rw [h.2]

/-- A successful `reallocate` changes the allocation size only, to `roundUp (2 · bufLen)`. -/
theorem reallocate_ok {e e' : Entries} {ev : List SEvent} (h : reallocate e = .ok (e', ev)) :
    e' = { e with bufLen := roundUp (e.bufLen * 2) } := by
  unfold reallocate at h
  split at h; · cases h
  split at h; · cases h
  split at h; · cases h
  rename_i sz ev0 ha
  rw [alloc_eq] at ha
  split at ha; · cases ha
  split at ha; · cases ha
  cases ha
  split at h
  · cases h; rfl
  · cases h

/-! ### The guarded primitives under the invariant -/

theorem fits_eq {e : Entries} (h : Inv e) (k v : Bytes) :
    fits e k v = .ok (decide (e.used + entrySize k v ≤ e.bufLen)) := by
  have h1 : e.used ≤ e.bufLen := h.room
  have h2 := h.align
  rw [fits_def, if_neg (by simp [h.live]), if_pos h1]
  congr 1
  rw [Bool.eq_iff_iff]
  simp only [Bool.and_eq_true, decide_eq_true_eq]
  -- the buffer is 16-aligned, so room for the bound record is room for its slot
  unfold used entrySize boundSize at *
  omega

theorem store_eq {e : Entries} (k v : Bytes) (hfit : e.used + entrySize k v ≤ e.bufLen) :
    store e k v = .ok (push e k v) :=
  (store_ok_iff e _ k v).2 ⟨hfit, rfl⟩

/-- Under the invariant `reallocate` doubles, unless the doubled size would reach `2^63`. -/
theorem reallocate_inv {e : Entries} (h : Inv e) :
    reallocate e = if 2 ^ 62 ≤ e.bufLen then .error .arith
      else .ok (scale e 1, [.alloc (e.bufLen * 2), .dealloc e.bufLen]) := by
  have h1 : e.entriesLen + 16 * e.boundsCount ≤ e.bufLen := h.room
  have h3 := h.pos
  have hr : roundUp (e.bufLen * 2) = e.bufLen * 2 := roundUp_of_mod (by have := h.align; omega)
  unfold reallocate
  rw [alloc_eq]
  simp only [h.live, hr, usizeLimit, boundSize]
  by_cases hb : 2 ^ 62 ≤ e.bufLen
  · rw [if_pos hb]
    by_cases c1 : e.bufLen * 2 ≥ 2 ^ 64
    · simp [c1]
    · simp [c1, show ¬ e.bufLen * 2 = 0 by omega, show e.bufLen * 2 ≥ 2 ^ 63 by omega]
  · have c4 : e.boundsCount * 16 ≤ e.bufLen * 2 ∧ e.entriesLen ≤ e.bufLen * 2 := by omega
    simp [hb, show ¬ e.bufLen * 2 ≥ 2 ^ 64 by omega, show ¬ e.bufLen * 2 = 0 by omega,
      show ¬ e.bufLen * 2 ≥ 2 ^ 63 by omega, c4, scale, h.live]

/-- One unfolding of the doubling loop, with every guard resolved by the invariant. -/
theorem insert_succ {e : Entries} (h : Inv e) (k v : Bytes) (fuel : Nat) :
    insert e k v (fuel + 1) =
      if k.length > u32Max then .error .keyTooLong else
      if v.length > u32Max then .error .valTooLong else
      if e.used + entrySize k v ≤ e.bufLen then .ok (push e k v, []) else
      if 2 ^ 62 ≤ e.bufLen then .error .arith else
      match insert (scale e 1) k v fuel with
      | .error t => .error t
      | .ok (e'', ev') => .ok (e'', [.alloc (e.bufLen * 2), .dealloc e.bufLen] ++ ev') := by
  rw [insert]
  by_cases hk : k.length > u32Max
  · simp [hk]
  by_cases hv : v.length > u32Max
  · simp [hk, hv]
  simp only [hk, hv, if_false, fits_eq h]
  by_cases hf : e.used + entrySize k v ≤ e.bufLen
  · simp [hf, store_eq k v hf, Except.map]
  · simp only [hf, decide_false, if_false]
    rw [reallocate_inv h]
    by_cases hb : 2 ^ 62 ≤ e.bufLen
    · simp [hb]
    · simp only [hb, if_false]
      generalize insert (scale e 1) k v fuel = r
      rcases r with t | ⟨e'', ev'⟩ <;> rfl

@[simp] theorem scale_used (e : Entries) (j : Nat) : (scale e j).used = e.used := rfl
@[simp] theorem scale_bufLen (e : Entries) (j : Nat) : (scale e j).bufLen = e.bufLen * 2 ^ j := rfl

/-- The errors `Entries.insert` can return, and when. -/
def InsErr (e : Entries) (k v : Bytes) (fuel : Nat) (t : Trap) : Prop :=
  (t = .keyTooLong ∧ k.length > u32Max) ∨ (t = .valTooLong ∧ v.length > u32Max) ∨
  (t = .arith ∧ (fuel = 0 ∨ (e.bufLen < e.used + entrySize k v ∧
      (e.bufLen * 2 ^ (fuel - 1) < e.used + entrySize k v ∨ 2 ^ 62 < e.used + entrySize k v))))

/-- Complete description of `Entries.insert` under the invariant: either it succeeds after the
    least number `j` of doublings that makes the entry fit, storing exactly that entry and emitting
    exactly `j` alloc/dealloc pairs, or it returns one of the errors of `InsErr`. -/
theorem insert_spec (fuel : Nat) : ∀ (e : Entries), Inv e → ∀ (k v : Bytes),
    (∃ j, j < fuel ∧ k.length ≤ u32Max ∧ v.length ≤ u32Max ∧
       insert e k v fuel = .ok (push (scale e j) k v, reallocEvents e.bufLen j) ∧
       e.used + entrySize k v ≤ e.bufLen * 2 ^ j ∧
       (j = 0 ∨ e.bufLen * 2 ^ j < 2 * (e.used + entrySize k v)))
    ∨ (∃ t, insert e k v fuel = .error t ∧ InsErr e k v fuel t) := by
  induction fuel with
  | zero =>
    intro e _ k v
    exact .inr ⟨.arith, rfl, .inr (.inr ⟨rfl, .inl rfl⟩)⟩
  | succ fuel ih =>
    intro e h k v
    rw [insert_succ h]
    by_cases hk : k.length > u32Max
    · exact .inr ⟨.keyTooLong, by simp [hk], .inl ⟨rfl, hk⟩⟩
    by_cases hv : v.length > u32Max
    · exact .inr ⟨.valTooLong, by simp [hk, hv], .inr (.inl ⟨rfl, hv⟩)⟩
    simp only [hk, hv, if_false]
    by_cases hf : e.used + entrySize k v ≤ e.bufLen
    · refine .inl ⟨0, by omega, by omega, by omega, by simp [hf, reallocEvents], by simpa using hf,
        .inl rfl⟩
    simp only [hf, if_false]
    by_cases hb : 2 ^ 62 ≤ e.bufLen
    · exact .inr ⟨.arith, by simp [hb], .inr (.inr ⟨rfl, .inr ⟨by omega, .inr (by omega)⟩⟩)⟩
    simp only [hb, if_false]
    rcases ih (scale e 1) (h.scale 1) k v with ⟨j, hj, _, _, heq, hfit, hmin⟩ | ⟨t, heq, herr⟩
    · refine .inl ⟨j + 1, by omega, by omega, by omega, ?_, ?_, ?_⟩
      · rw [heq]; simp [scale_succ, reallocEvents]
      · simp only [scale_used, scale_bufLen, Nat.pow_one] at hfit
        rw [Nat.pow_succ]; rw [Nat.mul_assoc, Nat.mul_comm 2] at hfit; exact hfit
      · right
        simp only [scale_used, scale_bufLen, Nat.pow_one] at hmin
        rw [Nat.pow_succ, Nat.mul_comm (2 ^ j), ← Nat.mul_assoc]
        rcases hmin with rfl | hmin
        · simp; omega
        · exact hmin
    · refine .inr ⟨t, by rw [heq], ?_⟩
      rcases herr with ⟨rfl, hk'⟩ | ⟨rfl, hv'⟩ | ⟨rfl, h0⟩
      · exact absurd hk' hk
      · exact absurd hv' hv
      · refine .inr (.inr ⟨rfl, .inr ⟨by omega, ?_⟩⟩)
        simp only [scale_used, scale_bufLen, Nat.pow_one] at h0
        rcases h0 with rfl | ⟨_, h0 | h0⟩
        · left; simp; omega
        · left
          cases fuel with
          | zero => simp at h0 ⊢; omega
          | succ f =>
            simp only [Nat.add_sub_cancel] at h0 ⊢
            rw [Nat.pow_succ, Nat.mul_comm (2 ^ f), ← Nat.mul_assoc]; exact h0
        · right; exact h0

/-- `j` is the number of doublings `Entries.insert` performs: the least one that makes room. -/
structure Grow (e : Entries) (k v : Bytes) (j : Nat) : Prop where
  fit  : e.used + entrySize k v ≤ e.bufLen * 2 ^ j
  least : j = 0 ∨ e.bufLen * 2 ^ j < 2 * (e.used + entrySize k v)

/-- A successful `Entries.insert` is `j` doublings followed by the store. -/
theorem insert_ok {e e' : Entries} {k v : Bytes} {fuel : Nat} {ev : List SEvent} (h : Inv e)
    (hi : insert e k v fuel = .ok (e', ev)) :
    ∃ j, Grow e k v j ∧ e' = push (scale e j) k v ∧ ev = reallocEvents e.bufLen j := by
  rcases insert_spec fuel e h k v with ⟨j, _, _, _, heq, hfit, hmin⟩ | ⟨t, heq, _⟩
  · rw [heq] at hi
    simp only [Except.ok.injEq, Prod.mk.injEq] at hi
    exact ⟨j, ⟨hfit, hmin⟩, hi.1.symm, hi.2.symm⟩
  · rw [heq] at hi; cases hi

/-- No trap: with admissible lengths and a final size below `2^62`·2 the insertion succeeds; the
    fuel `64` of `Sorter.insert` is never exhausted. -/
theorem insert64_no_trap {e : Entries} (h : Inv e) (k v : Bytes)
    (hk : k.length ≤ u32Max) (hv : v.length ≤ u32Max)
    (hsz : e.used + entrySize k v ≤ e.bufLen ∨ e.used + entrySize k v ≤ 2 ^ 62) :
    ∃ e' ev, insert e k v 64 = .ok (e', ev) := by
  rcases insert_spec 64 e h k v with ⟨j, _, _, _, heq, _, _⟩ | ⟨t, _, herr⟩
  · exact ⟨_, _, heq⟩
  · -- 63 doublings of at least 16 bytes exceed `2^62`
    have h1 : 16 * 2 ^ (64 - 1) ≤ e.bufLen * 2 ^ (64 - 1) := Nat.mul_le_mul_right _ h.pos
    have h2 : e.bufLen ≤ e.bufLen * 2 ^ (64 - 1) := Nat.le_mul_of_pos_right _ (Nat.two_pow_pos _)
    have h3 : (2:Nat) ^ 62 ≤ 16 * 2 ^ (64 - 1) := by decide
    rcases herr with ⟨_, c⟩ | ⟨_, c⟩ | ⟨_, c | ⟨_, c | c⟩⟩ <;> omega

theorem Grow.inv {e : Entries} {k v : Bytes} {j : Nat} (h : Inv e) (g : Grow e k v j) :
    Inv (push (scale e j) k v) := (h.scale j).push k v g.fit

/-- If the entry fits there is no doubling. -/
theorem Grow.eq_zero_of_fit {e : Entries} {k v : Bytes} {j : Nat} (g : Grow e k v j)
    (hf : e.used + entrySize k v ≤ e.bufLen) : j = 0 := by
  rcases g.least with h | h
  · exact h
  · cases j with
    | zero => rfl
    | succ j =>
      exfalso
      have : e.bufLen * 2 ≤ e.bufLen * 2 ^ (j + 1) := by
        rw [Nat.pow_succ, Nat.mul_comm (2 ^ j), ← Nat.mul_assoc]
        exact Nat.le_mul_of_pos_right _ (Nat.two_pow_pos j)
      omega

/-- The size after the doublings: unchanged, doubled once, or below four entry sizes. -/
theorem Grow.bound {e : Entries} {k v : Bytes} {j : Nat} (h : Inv e) (g : Grow e k v j) :
    e.bufLen * 2 ^ j = e.bufLen ∨ e.bufLen * 2 ^ j = e.bufLen * 2 ∨
    e.bufLen * 2 ^ j < 4 * entrySize k v := by
  match j, g with
  | 0, _ => left; simp
  | 1, _ => right; left; simp
  | j + 2, g =>
    right; right
    have hl := g.least
    have hr : e.used ≤ e.bufLen := h.room
    have : e.bufLen * 4 ≤ e.bufLen * 2 ^ (j + 2) := by
      rw [Nat.pow_add, Nat.mul_comm (2 ^ j), ← Nat.mul_assoc]
      exact Nat.le_mul_of_pos_right _ (Nat.two_pow_pos j)
    omega

end Entries
end Grenad
