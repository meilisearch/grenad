/-
  Grenad.Proofs.SorterEvents — two small automata over the sorter's event list:
  `allocRun` accepts exactly the alloc/dealloc disciplines of a single buffer that is reallocated
  by "allocate the new one, then free the old one", `chunkRun B` accepts the event lists in which
  the number of live chunk handles stays within `0..B` on every prefix.
-/
import Grenad.Proofs.SorterArith

namespace Grenad

/-- Live allocations: none, one buffer, or (during a reallocation) the old and the new buffer. -/
inductive AState where
  | none
  | one (a : Nat)
  | two (old new : Nat)
  deriving DecidableEq, Repr

def allocStep : AState → SEvent → Option AState
  | st, .create => some st
  | st, .dropChunk => some st
  | .none, .alloc a => some (.one a)
  | .one a, .alloc b => some (.two a b)
  | .two _ _, .alloc _ => Option.none
  | .none, .dealloc _ => Option.none
  | .one a, .dealloc c => if c = a then some .none else Option.none
  | .two a b, .dealloc c => if c = a then some (.one b) else Option.none

def allocRun : AState → List SEvent → Option AState
  | st, [] => some st
  | st, x :: r => match allocStep st x with
    | Option.none => Option.none
    | some st' => allocRun st' r

theorem allocRun_append (st : AState) (a b : List SEvent) :
    allocRun st (a ++ b) = (allocRun st a).bind (fun st' => allocRun st' b) := by
  induction a generalizing st with
  | nil => simp [allocRun]
  | cons x r ih =>
    simp only [List.cons_append, allocRun]
    cases allocStep st x with
    | none => simp
    | some st' => simp [ih]

theorem allocRun_append_of {st st' : AState} {a : List SEvent} (h : allocRun st a = some st')
    (b : List SEvent) : allocRun st (a ++ b) = allocRun st' b := by
  rw [allocRun_append, h]; rfl

theorem allocRun_realloc (b j : Nat) :
    allocRun (.one b) (Entries.reallocEvents b j) = some (.one (b * 2 ^ j)) := by
  induction j generalizing b with
  | zero => simp [Entries.reallocEvents, allocRun]
  | succ j ih =>
    simp only [Entries.reallocEvents, allocRun, allocStep, if_true, ih]
    congr 2
    rw [Nat.pow_succ, Nat.mul_comm (2 ^ j), Nat.mul_assoc]

def allocSizes : List SEvent → List Nat
  | [] => []
  | .alloc a :: r => a :: allocSizes r
  | _ :: r => allocSizes r

def deallocSizes : List SEvent → List Nat
  | [] => []
  | .dealloc a :: r => a :: deallocSizes r
  | _ :: r => deallocSizes r

def AState.pending : AState → List Nat
  | .none => []
  | .one a => [a]
  | .two a b => [a, b]

/-- An accepted event list frees, in order, exactly the sizes that were live or allocated,
    except for those still live at the end. -/
theorem allocRun_balanced {st st' : AState} {ev : List SEvent} (h : allocRun st ev = some st') :
    st.pending ++ allocSizes ev = deallocSizes ev ++ st'.pending := by
  induction ev generalizing st with
  | nil => simp [allocRun] at h; subst h; simp [allocSizes, deallocSizes]
  | cons x r ih =>
    simp only [allocRun] at h
    cases hs : allocStep st x with
    | none => simp [hs] at h
    | some st1 =>
      simp only [hs] at h
      have := ih h
      cases x with
      | create => simp [allocStep] at hs; subst hs; simpa [allocSizes, deallocSizes] using this
      | dropChunk => simp [allocStep] at hs; subst hs; simpa [allocSizes, deallocSizes] using this
      | alloc a =>
        cases st with
        | none => simp [allocStep] at hs; subst hs
                  simpa [allocSizes, deallocSizes, AState.pending] using this
        | one b => simp [allocStep] at hs; subst hs
                   simpa [allocSizes, deallocSizes, AState.pending] using this
        | two b c => simp [allocStep] at hs
      | dealloc a =>
        cases st with
        | none => simp [allocStep] at hs
        | one b =>
          simp only [allocStep] at hs
          split at hs
          · simp at hs; subst hs; subst a
            simpa [allocSizes, deallocSizes, AState.pending] using this
          · simp at hs
        | two b c =>
          simp only [allocStep] at hs
          split at hs
          · simp at hs; subst hs; subst a
            simpa [allocSizes, deallocSizes, AState.pending] using this
          · simp at hs

theorem allocRun_of_prefix {st st' : AState} {ev p : List SEvent} (h : allocRun st ev = some st')
    (hp : p <+: ev) : ∃ st1, allocRun st p = some st1 := by
  obtain ⟨t, rfl⟩ := hp
  rw [allocRun_append] at h
  cases hq : allocRun st p with
  | none => simp [hq] at h
  | some st1 => exact ⟨st1, rfl⟩

/-- Follow the number of live chunk handles; fail when it would exceed `B` or drop below 0. -/
def chunkRun (B : Nat) : Nat → List SEvent → Option Nat
  | n, [] => some n
  | n, .create :: r => if n + 1 ≤ B then chunkRun B (n + 1) r else none
  | n, .dropChunk :: r => if 0 < n then chunkRun B (n - 1) r else none
  | n, .alloc _ :: r => chunkRun B n r
  | n, .dealloc _ :: r => chunkRun B n r

theorem chunkRun_append (B n : Nat) (a b : List SEvent) :
    chunkRun B n (a ++ b) = (chunkRun B n a).bind (fun n' => chunkRun B n' b) := by
  induction a generalizing n with
  | nil => simp [chunkRun]
  | cons x r ih =>
    cases x <;> simp only [List.cons_append, chunkRun, ih]
    · split <;> simp
    · split <;> simp

theorem chunkRun_append_of {B n n' : Nat} {a : List SEvent} (h : chunkRun B n a = some n')
    (b : List SEvent) : chunkRun B n (a ++ b) = chunkRun B n' b := by
  rw [chunkRun_append, h]; rfl

theorem chunkRun_realloc (B n b j : Nat) : chunkRun B n (Entries.reallocEvents b j) = some n := by
  induction j generalizing b with
  | zero => simp [Entries.reallocEvents, chunkRun]
  | succ j ih => simp [Entries.reallocEvents, chunkRun, ih]

theorem chunkRun_drops (B n : Nat) {α : Type} (l : List α) :
    chunkRun B (n + l.length) (l.map (fun _ => SEvent.dropChunk)) = some n := by
  induction l generalizing n with
  | nil => simp [chunkRun]
  | cons x r ih =>
    simp only [List.map_cons, List.length_cons, chunkRun]
    have : 0 < n + (r.length + 1) := by omega
    simp only [this, if_true]
    have e : n + (r.length + 1) - 1 = n + r.length := by omega
    rw [e, ih]

def creates (ev : List SEvent) : Nat := ev.count .create
def drops (ev : List SEvent) : Nat := ev.count .dropChunk

theorem creates_cons (x : SEvent) (l : List SEvent) :
    creates (x :: l) = (if x = .create then 1 else 0) + creates l := by
  unfold creates
  rw [List.count_cons, Nat.add_comm]
  simp only [beq_iff_eq]

theorem drops_cons (x : SEvent) (l : List SEvent) :
    drops (x :: l) = (if x = .dropChunk then 1 else 0) + drops l := by
  unfold drops
  rw [List.count_cons, Nat.add_comm]
  simp only [beq_iff_eq]

/-- An accepted event list: the handles left are the initial ones plus creates minus drops, and
    there are at most `B` of them. -/
theorem chunkRun_count {B n n' : Nat} {ev : List SEvent} (h : chunkRun B n ev = some n')
    (hn : n ≤ B) : n + creates ev = n' + drops ev ∧ n' ≤ B := by
  induction ev generalizing n with
  | nil =>
    simp only [chunkRun, Option.some.injEq] at h
    subst h
    exact ⟨rfl, hn⟩
  | cons x r ih =>
    rw [creates_cons, drops_cons]
    cases x with
    | create =>
      simp only [chunkRun] at h
      split at h
      · have := ih h (by omega); simp only [if_true, reduceCtorEq, if_false]; omega
      · cases h
    | dropChunk =>
      simp only [chunkRun] at h
      split at h
      · have := ih h (by omega); simp only [if_true, reduceCtorEq, if_false]; omega
      · cases h
    | alloc a =>
      have := ih (by simpa only [chunkRun] using h) hn
      simp only [reduceCtorEq, if_false]; omega
    | dealloc a =>
      have := ih (by simpa only [chunkRun] using h) hn
      simp only [reduceCtorEq, if_false]; omega

/-- Acceptance by `chunkRun B` means: on every prefix of the event list the number of live chunk
    handles (creates minus drops, plus the initial ones) is between 0 and `B`. -/
theorem chunkRun_prefix {B n n' : Nat} {ev : List SEvent} (h : chunkRun B n ev = some n')
    (hn : n ≤ B) :
    n + creates ev = n' + drops ev ∧
    ∀ p, p <+: ev → n + creates p ≤ B + drops p ∧ drops p ≤ n + creates p := by
  refine ⟨(chunkRun_count h hn).1, ?_⟩
  rintro p ⟨t, rfl⟩
  -- a prefix of an accepted list is accepted
  rw [chunkRun_append] at h
  cases hp : chunkRun B n p with
  | none => rw [hp] at h; cases h
  | some m =>
    have := chunkRun_count hp hn
    omega

end Grenad
