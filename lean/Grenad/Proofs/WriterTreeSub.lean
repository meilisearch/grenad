/-
  T-writer: the abstract store of a log, and facts about `Sub`.
-/
import Grenad.Proofs.WriterTreeBase

namespace Grenad

open WT

/-- The store described by a log: the ghost items of the first block recorded at `off`. -/
def storeOf (log : List Emitted) : Store :=
  fun off => (log.find? (·.offset = off)).map (·.items)

def lvlOf (log : List Emitted) : Nat → Nat :=
  fun off => ((log.find? (·.offset = off)).map (·.level)).getD 0

theorem storeOf_append_old {log : List Emitted} (l2 : List Emitted) {off : Nat} {x : List Entry}
    (h : storeOf log off = some x) :
    storeOf (log ++ l2) off = some x ∧ lvlOf (log ++ l2) off = lvlOf log off := by
  unfold storeOf lvlOf at *
  rw [List.find?_append]
  cases hf : log.find? (fun e => decide (e.offset = off)) with
  | none => rw [hf] at h; simp at h
  | some e => rw [hf] at h; simp [h]

theorem Lay.store_snoc {cd : Codec} {log : List Emitted} {out : Bytes} (hlay : Lay cd log out)
    (e : Emitted) (he : e.offset = out.length) :
    storeOf (log ++ [e]) out.length = some e.items ∧ lvlOf (log ++ [e]) out.length = e.level := by
  unfold storeOf lvlOf
  rw [List.find?_append]
  have : log.find? (fun e' => decide (e'.offset = out.length)) = none := by
    rw [List.find?_eq_none]
    intro x hx
    have := hlay.offset_lt x hx
    simp only [decide_eq_true_eq]
    omega
  rw [this]; simp [he]

theorem storeOf_some {log : List Emitted} {off : Nat} {x : List Entry}
    (h : storeOf log off = some x) : ∃ e ∈ log, e.offset = off ∧ e.items = x := by
  unfold storeOf at h
  cases hf : log.find? (fun e => decide (e.offset = off)) with
  | none => rw [hf] at h; simp at h
  | some e =>
    rw [hf] at h
    refine ⟨e, List.mem_of_find?_eq_some hf, ?_, by simpa using h⟩
    simpa using List.find?_some hf

/-- With pairwise distinct offsets every block of the log is the one the store returns. -/
theorem storeOf_of_mem {log : List Emitted} (hp : log.Pairwise (fun a b => a.offset < b.offset))
    {e : Emitted} (he : e ∈ log) :
    storeOf log e.offset = some e.items ∧ lvlOf log e.offset = e.level := by
  induction log with
  | nil => cases he
  | cons a l ih =>
    rw [List.pairwise_cons] at hp
    rcases List.mem_cons.mp he with rfl | he
    · simp [storeOf, lvlOf]
    · have hlt := hp.1 e he
      have hne : ¬ (a.offset = e.offset) := by omega
      have := ih hp.2 he
      simp only [storeOf, lvlOf, List.find?_cons, hne, decide_false] at this ⊢
      exact this

theorem Sub.mono_append {log : List Emitted} (l2 : List Emitted) {d off : Nat} {flat : List Entry}
    (h : Sub (storeOf log) (lvlOf log) d off flat) :
    Sub (storeOf (log ++ l2)) (lvlOf (log ++ l2)) d off flat := by
  induction h with
  | leaf off es h1 h2 h3 =>
    obtain ⟨a, b⟩ := storeOf_append_old l2 h1
    exact Sub.leaf off es a h2 (by rw [b, h3])
  | node d off kids h1 h2 h3 _ ih =>
    obtain ⟨a, b⟩ := storeOf_append_old l2 h2
    exact Sub.node d off kids h1 a (by rw [b, h3]) ih

abbrev Kids := List (Nat × List Entry)

/-- The items of an index block over `ks`. -/
def img (ks : Kids) : List Entry := ks.map (fun k => (lastKey k.2, be64 k.1))

/-- The concatenated leaf content below `ks`. -/
def flatOf (ks : Kids) : List Entry := ks.flatMap (·.2)

@[simp] theorem img_nil : img [] = [] := rfl
@[simp] theorem flatOf_nil : flatOf [] = [] := rfl
@[simp] theorem img_append (a b : Kids) : img (a ++ b) = img a ++ img b := by simp [img]
@[simp] theorem flatOf_append (a b : Kids) : flatOf (a ++ b) = flatOf a ++ flatOf b := by simp [flatOf]
@[simp] theorem img_singleton (k : Nat × List Entry) : img [k] = [(lastKey k.2, be64 k.1)] := rfl
@[simp] theorem flatOf_singleton (k : Nat × List Entry) : flatOf [k] = k.2 := by simp [flatOf]

theorem lastKey_img {ks : Kids} (h : ks ≠ []) (hne : ∀ k ∈ ks, k.2 ≠ []) :
    lastKey (img ks) = lastKey (flatOf ks) := by
  rcases List.eq_nil_or_concat ks with rfl | ⟨ks', k, rfl⟩
  · exact absurd rfl h
  · rw [List.concat_eq_append] at hne ⊢
    rw [img_append, flatOf_append, img_singleton, flatOf_singleton, TCursor.lastKey_append_singleton,
      lastKey_append (hne k (by simp))]

theorem flatOf_ne_nil {ks : Kids} (h : ks ≠ []) (hne : ∀ k ∈ ks, k.2 ≠ []) : flatOf ks ≠ [] :=
  fun h0 => h (TCursor.flat_eq_nil hne h0)

theorem StrictAsc.lt_of_append {A B : List Entry} (h : StrictAsc (A ++ B)) {a b : Entry}
    (ha : a ∈ A) (hb : b ∈ B) : a.1 < b.1 := (TCursor.strictAsc_append.1 h).2.2 a ha b hb

theorem content_order {K : List Kids} {i j : Nat} {ks0 ks1 : Kids}
    (hasc : StrictAsc ((K.map flatOf).flatten)) (h0 : K[i]? = some ks0) (h1 : K[j]? = some ks1)
    (hij : i < j) {a b : Entry} (ha : a ∈ flatOf ks0) (hb : b ∈ flatOf ks1) : a.1 < b.1 := by
  unfold StrictAsc at hasc
  rw [List.pairwise_flatten] at hasc
  have hp := hasc.2
  rw [List.pairwise_iff_getElem] at hp
  obtain ⟨hi, e0⟩ := List.getElem?_eq_some_iff.mp h0
  obtain ⟨hj, e1⟩ := List.getElem?_eq_some_iff.mp h1
  have := hp i j (by simpa using hi) (by simpa using hj) hij
  simp only [List.getElem_map, e0, e1] at this
  exact this a ha b hb

theorem mem_content {K : List Kids} {i : Nat} {ks : Kids} (h : K[i]? = some ks) {a : Entry}
    (ha : a ∈ flatOf ks) : a ∈ (K.map flatOf).flatten := by
  rw [List.mem_flatten]
  exact ⟨flatOf ks, List.mem_map.mpr ⟨ks, List.mem_of_getElem? h, rfl⟩, ha⟩

theorem flatten_move (K : List Kids) (i : Nat) (ks0 ks1 : Kids) (off : Nat)
    (h0 : K[i]? = some ks0) (h1 : K[i + 1]? = some ks1) :
    (((K.set i (ks0 ++ [(off, flatOf ks1)])).set (i + 1) []).map flatOf).flatten
      = (K.map flatOf).flatten := by
  induction K generalizing i with
  | nil => simp at h0
  | cons a K ih =>
    cases i with
    | zero =>
      cases K with
      | nil => simp at h1
      | cons b K =>
        simp at h0 h1; subst h0; subst h1
        simp [List.append_assoc]
    | succ i =>
      simp only [List.getElem?_cons_succ] at h0 h1
      simp only [List.set_cons_succ, List.map_cons, List.flatten_cons, ih i h0 h1]

theorem flatten_push (K : List Kids) (i : Nat) (ks0 : Kids) (k : Nat × List Entry)
    (h0 : K[i]? = some ks0) (hl : K.length = i + 1) :
    ((K.set i (ks0 ++ [k])).map flatOf).flatten = (K.map flatOf).flatten ++ k.2 := by
  induction K generalizing i with
  | nil => simp at h0
  | cons a K ih =>
    cases i with
    | zero =>
      simp at hl; subst hl
      simp at h0; subst h0
      simp
    | succ i =>
      simp only [List.getElem?_cons_succ] at h0
      simp only [List.length_cons, Nat.add_right_cancel_iff] at hl
      simp only [List.set_cons_succ, List.map_cons, List.flatten_cons, ih i h0 hl, List.append_assoc]

end Grenad
