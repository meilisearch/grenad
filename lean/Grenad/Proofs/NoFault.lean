/-
  Grenad.Proofs.NoFault — C12 above the I/O layer: the reader cursor under a loader that never
  fails and under one that fails less often; the merger and the sorter under a merge function
  that never fails.
-/
import Grenad.Model.Sorter
import Grenad.Proofs.ReaderEq

namespace Grenad

section CursorTotal
variable {β : Type} (ops : BlockOps β) (load : Nat → Option β) (hl : ∀ off, (load off).isSome)
include hl

theorem initialIndex_ne_none_of_total (mov : Mov) :
    ∀ (d jump : Nat) (acc : List (Nat × β)) (log : List Nat),
      RC.initialIndex ops load mov d jump acc log ≠ none := by
  intro d
  induction d with
  | zero => intro jump acc log; simp [RC.initialIndex]
  | succ d ih =>
    intro jump acc log
    obtain ⟨c, hj⟩ := Option.isSome_iff_exists.mp (hl jump)
    rcases ha : ops.apply mov c with ⟨c', r⟩
    cases r with
    | none => rw [RC.initialIndex_stop hj ha]; simp
    | some e => rw [RC.initialIndex_step hj ha]; exact ih _ _ _

theorem iterLevels_ne_none_of_total (mov : Mov) :
    ∀ (inner : List (Nat × β)) (jump : Nat) (log : List Nat),
      RC.iterLevels ops load mov jump inner log ≠ none := by
  intro inner
  induction inner with
  | nil => intro jump log; simp [RC.iterLevels_nil]
  | cons x rest ih =>
    intro jump log
    obtain ⟨⟨o2, c2, log2⟩, hr⟩ : ∃ y, RC.reload load jump x log = some y := by
      unfold RC.reload
      split
      · obtain ⟨c, hc⟩ := Option.isSome_iff_exists.mp (hl jump)
        exact ⟨_, by rw [hc]; rfl⟩
      · exact ⟨_, rfl⟩
    rcases ha : ops.apply mov c2 with ⟨c', r⟩
    cases r with
    | none => rw [RC.iterLevels_stop hr ha]; simp
    | some e => rw [RC.iterLevels_step hr ha]; simpa using ih _ _

theorem recurLevels_ne_none_of_total (fix : Bool) (mov : Mov) :
    ∀ (lv : List (Nat × β)) (log : List Nat), RC.recurLevels ops load fix mov lv log ≠ none := by
  intro lv
  induction lv with
  | nil => intro log; simp [RC.recurLevels_nil]
  | cons p parents ih =>
    intro log
    obtain ⟨off, c⟩ := p
    rcases ha : ops.apply mov c with ⟨c', r⟩
    cases r with
    | some e => rw [RC.recurLevels_stay _ _ ha]; simp
    | none =>
      cases hr : RC.recurLevels ops load fix mov parents log with
      | none => exact absurd hr (ih _)
      | some x =>
        obtain ⟨parents', r, log'⟩ := x
        cases r with
        | none => rw [RC.recurLevels_out ha hr]; simp
        | some e =>
          obtain ⟨nc, hj⟩ := Option.isSome_iff_exists.mp (hl (offOf e))
          rw [RC.recurLevels_climb ha hr hj]; simp

theorem iterIndex_ne_none_of_total (mov : Mov) (c : RC β) :
    RC.iterIndex ops load mov c ≠ none := by
  cases hin : c.inner with
  | some inner =>
    rw [RC.iterIndex_some hin]
    simpa using iterLevels_ne_none_of_total ops load hl mov _ _ _
  | none =>
    rw [RC.iterIndex_none hin]
    simpa using initialIndex_ne_none_of_total ops load hl mov _ _ _ _

theorem recurIndex_ne_none_of_total (fix : Bool) (mov : Mov) (c : RC β) :
    RC.recurIndex ops load fix mov c ≠ none := by
  have init : ∀ (c1 : RC β) inner, c1.inner = some inner →
      RC.recurIndex ops load fix mov c1 ≠ none := by
    intro c1 inner h
    rw [RC.recurIndex_some h]
    simpa using recurLevels_ne_none_of_total ops load hl fix mov _ _
  cases hin : c.inner with
  | some inner => exact init c inner hin
  | none =>
    rw [RC.recurIndex_none hin]
    cases hi : RC.initialIndex ops load mov (c.levels + 1) c.base [] c.log with
    | none => exact absurd hi (initialIndex_ne_none_of_total ops load hl mov _ _ _ _)
    | some x =>
      obtain ⟨inner, lg⟩ := x
      cases inner with
      | none => simp
      | some l => exact init _ l rfl

theorem enterWith_ne_err_of_total (mov : Mov) (c : RC β) (e : Entry) :
    (RC.enterWith ops load mov c e).2 ≠ .err := by
  obtain ⟨b, hb⟩ := Option.isSome_iff_exists.mp (hl (offOf e))
  rw [RC.enterWith_ok hb]; simp

theorem seek_ne_err_of_total (mov : Mov) (keepCur : Bool) (c : RC β) :
    (RC.seek ops load mov keepCur c).2 ≠ .err := by
  cases hi : RC.iterIndex ops load mov c with
  | none => exact absurd hi (iterIndex_ne_none_of_total ops load hl _ _)
  | some x =>
    obtain ⟨c1, r⟩ := x
    cases r with
    | none => rw [RC.seek_none hi]; simp
    | some e => rw [RC.seek_some hi]; exact enterWith_ne_err_of_total ops load hl mov c1 e

theorem climb_ne_err_of_total (fix : Bool) (mov : Mov) (c : RC β) :
    (RC.climb ops load fix mov c).2 ≠ .err := by
  cases hi : RC.recurIndex ops load fix mov c with
  | none => exact absurd hi (recurIndex_ne_none_of_total ops load hl _ _ _)
  | some x =>
    obtain ⟨c1, r⟩ := x
    cases r with
    | none => rw [RC.climb_none hi]; simp
    | some e => rw [RC.climb_some hi]; exact enterWith_ne_err_of_total ops load hl _ c1 e

theorem rel_ne_err_of_total (fix : Bool) (mov : Mov) (c : RC β) :
    (RC.rel ops load fix mov c).2 ≠ .err := by
  cases hc : c.cur with
  | none => rw [RC.rel_none hc]; exact seek_ne_err_of_total ops load hl _ _ c
  | some b =>
    cases hm : (ops.apply mov b).2 with
    | some e => rw [RC.rel_stay hc hm]; simp
    | none => rw [RC.rel_climb hc hm]; exact climb_ne_err_of_total ops load hl fix mov _

theorem step_ne_err_of_total (fix : Bool) (c : RC β) (op : Op) :
    (RC.step ops load fix c op).2 ≠ .err := by
  have seek := seek_ne_err_of_total ops load hl
  have rel := rel_ne_err_of_total ops load hl fix
  cases op with
  | first => exact seek .first false c
  | last => exact seek .last false c
  | next => show (RC.next ops load fix c).2 ≠ .err; rw [RC.next_eq]; exact rel _ c
  | prev => show (RC.prev ops load fix c).2 ≠ .err; rw [RC.prev_eq]; exact rel _ c
  | ge q => exact seek (.ge q) true c
  | le q =>
    show (RC.le ops load fix q c).2 ≠ .err
    rw [RC.le_eq]
    have hg := seek (.ge q) true c
    rcases hge : RC.seek ops load (.ge q) true c with ⟨c1, r⟩
    rw [hge] at hg
    cases r with
    | err => exact absurd rfl hg
    | ok o =>
      cases o with
      | some kv =>
        obtain ⟨k, v⟩ := kv
        simp only
        split
        · simp
        · exact rel .prev c1
      | none =>
        simp only
        have hla := seek .last false c1
        rcases hlast : RC.seek ops load .last false c1 with ⟨c2, r2⟩
        rw [hlast] at hla
        cases r2 with
        | err => exact absurd rfl hla
        | ok o2 => simp
  | eq q =>
    show (RC.eq ops load q c).2 ≠ .err
    rw [RC.eq_eq]
    have hg := seek (.ge q) true c
    rcases hge : RC.seek ops load (.ge q) true c with ⟨c1, r⟩
    rw [hge] at hg
    cases r with
    | err => exact absurd rfl hg
    | ok o => simp
  | reset => simp [RC.step]
  | current => simp [RC.step]

end CursorTotal

/-! `load ≤ load'`: wherever `load` succeeds `load'` returns the same block.  Every result obtained
without error under `load` is obtained identically under `load'`: a result never depends on a
load that failed, so an error can only be caused by a load the operation really attempted. -/

section CursorMono
variable {β : Type} (ops : BlockOps β) (load load' : Nat → Option β)
  (hm : ∀ off b, load off = some b → load' off = some b)
include hm

theorem initialIndex_load_mono (mov : Mov) :
    ∀ (d jump : Nat) (acc : List (Nat × β)) (log : List Nat) x,
      RC.initialIndex ops load mov d jump acc log = some x →
      RC.initialIndex ops load' mov d jump acc log = some x := by
  intro d
  induction d with
  | zero => intro jump acc log x h; simpa [RC.initialIndex] using h
  | succ d ih =>
    intro jump acc log x h
    cases hj : load jump with
    | none => rw [RC.initialIndex_fail hj] at h; cases h
    | some c =>
      rcases ha : ops.apply mov c with ⟨c', r⟩
      cases r with
      | none => rw [RC.initialIndex_stop hj ha] at h; rw [RC.initialIndex_stop (hm _ _ hj) ha, h]
      | some e =>
        rw [RC.initialIndex_step hj ha] at h
        rw [RC.initialIndex_step (hm _ _ hj) ha]
        exact ih _ _ _ _ h

theorem iterLevels_load_mono (mov : Mov) :
    ∀ (inner : List (Nat × β)) (jump : Nat) (log : List Nat) x,
      RC.iterLevels ops load mov jump inner log = some x →
      RC.iterLevels ops load' mov jump inner log = some x := by
  intro inner
  induction inner with
  | nil => intro jump log x h; simpa [RC.iterLevels_nil] using h
  | cons p rest ih =>
    intro jump log x h
    cases hr : RC.reload load jump p log with
    | none => rw [RC.iterLevels_fail hr] at h; cases h
    | some y =>
      obtain ⟨o2, c2, log2⟩ := y
      have hr' : RC.reload load' jump p log = some (o2, c2, log2) := by
        unfold RC.reload at hr ⊢
        split at hr
        · rename_i hne
          cases hj : load jump with
          | none => rw [hj] at hr; cases hr
          | some c0 => rw [hj] at hr; rw [if_pos hne, hm _ _ hj]; exact hr
        · rename_i hne
          rw [if_neg hne]; exact hr
      rcases ha : ops.apply mov c2 with ⟨c', r⟩
      cases r with
      | none => rw [RC.iterLevels_stop hr ha] at h; rw [RC.iterLevels_stop hr' ha, h]
      | some e =>
        rw [RC.iterLevels_step hr ha] at h
        rw [RC.iterLevels_step hr' ha]
        cases hi : RC.iterLevels ops load mov (offOf e) rest log2 with
        | none => rw [hi] at h; cases h
        | some z => rw [hi] at h; rw [ih _ _ _ hi]; exact h

theorem recurLevels_load_mono (fix : Bool) (mov : Mov) :
    ∀ (lv : List (Nat × β)) (log : List Nat) x,
      RC.recurLevels ops load fix mov lv log = some x →
      RC.recurLevels ops load' fix mov lv log = some x := by
  intro lv
  induction lv with
  | nil => intro log x h; simpa [RC.recurLevels_nil] using h
  | cons p parents ih =>
    intro log x h
    obtain ⟨off, c⟩ := p
    rcases ha : ops.apply mov c with ⟨c', r⟩
    cases r with
    | some e => rw [RC.recurLevels_stay _ _ ha] at h; rw [RC.recurLevels_stay _ _ ha, h]
    | none =>
      cases hr : RC.recurLevels ops load fix mov parents log with
      | none => rw [RC.recurLevels_fail ha hr] at h; cases h
      | some z =>
        obtain ⟨parents', r, log'⟩ := z
        have hr' := ih _ _ hr
        cases r with
        | none => rw [RC.recurLevels_out ha hr] at h; rw [RC.recurLevels_out ha hr', h]
        | some e =>
          cases hj : load (offOf e) with
          | none => rw [RC.recurLevels_climb_fail ha hr hj] at h; cases h
          | some nc =>
            rw [RC.recurLevels_climb ha hr hj] at h
            rw [RC.recurLevels_climb ha hr' (hm _ _ hj), h]

theorem iterIndex_load_mono (mov : Mov) (c : RC β) x (h : RC.iterIndex ops load mov c = some x) :
    RC.iterIndex ops load' mov c = some x := by
  cases hin : c.inner with
  | some inner =>
    rw [RC.iterIndex_some hin] at h ⊢
    cases hi : RC.iterLevels ops load mov c.base inner c.log with
    | none => rw [hi] at h; cases h
    | some z => rw [hi] at h; rw [iterLevels_load_mono ops load load' hm mov _ _ _ _ hi]; exact h
  | none =>
    rw [RC.iterIndex_none hin] at h ⊢
    cases hi : RC.initialIndex ops load mov (c.levels + 1) c.base [] c.log with
    | none => rw [hi] at h; cases h
    | some z => rw [hi] at h; rw [initialIndex_load_mono ops load load' hm mov _ _ _ _ _ hi]; exact h

theorem recurIndex_load_mono (fix : Bool) (mov : Mov) (c : RC β) x
    (h : RC.recurIndex ops load fix mov c = some x) :
    RC.recurIndex ops load' fix mov c = some x := by
  have init : ∀ (c1 : RC β) inner, c1.inner = some inner →
      RC.recurIndex ops load fix mov c1 = some x → RC.recurIndex ops load' fix mov c1 = some x := by
    intro c1 inner hin h1
    rw [RC.recurIndex_some hin] at h1 ⊢
    cases hi : RC.recurLevels ops load fix mov inner.reverse c1.log with
    | none => rw [hi] at h1; cases h1
    | some z => rw [hi] at h1; rw [recurLevels_load_mono ops load load' hm fix mov _ _ _ hi]; exact h1
  cases hin : c.inner with
  | some inner => exact init c inner hin h
  | none =>
    rw [RC.recurIndex_none hin] at h ⊢
    cases hi : RC.initialIndex ops load mov (c.levels + 1) c.base [] c.log with
    | none => rw [hi] at h; cases h
    | some z =>
      rw [hi] at h; rw [initialIndex_load_mono ops load load' hm mov _ _ _ _ _ hi]
      obtain ⟨inner, lg⟩ := z
      cases inner with
      | none => exact h
      | some l => exact init _ l rfl h

theorem enterWith_load_mono (mov : Mov) (c : RC β) (e : Entry)
    (h : (RC.enterWith ops load mov c e).2 ≠ .err) :
    RC.enterWith ops load' mov c e = RC.enterWith ops load mov c e := by
  cases hb : load (offOf e) with
  | none => rw [RC.enterWith_err hb] at h; exact absurd rfl h
  | some b => rw [RC.enterWith_ok hb, RC.enterWith_ok (hm _ _ hb)]

theorem seek_load_mono (mov : Mov) (keepCur : Bool) (c : RC β)
    (h : (RC.seek ops load mov keepCur c).2 ≠ .err) :
    RC.seek ops load' mov keepCur c = RC.seek ops load mov keepCur c := by
  cases hi : RC.iterIndex ops load mov c with
  | none => rw [RC.seek_err hi] at h; exact absurd rfl h
  | some x =>
    have hi' := iterIndex_load_mono ops load load' hm _ _ _ hi
    obtain ⟨c1, r⟩ := x
    cases r with
    | none => rw [RC.seek_none hi, RC.seek_none hi']
    | some e =>
      rw [RC.seek_some hi] at h
      rw [RC.seek_some hi, RC.seek_some hi']
      exact enterWith_load_mono ops load load' hm mov c1 e h

theorem climb_load_mono (fix : Bool) (mov : Mov) (c : RC β)
    (h : (RC.climb ops load fix mov c).2 ≠ .err) :
    RC.climb ops load' fix mov c = RC.climb ops load fix mov c := by
  cases hi : RC.recurIndex ops load fix mov c with
  | none => rw [RC.climb_err hi] at h; exact absurd rfl h
  | some x =>
    have hi' := recurIndex_load_mono ops load load' hm _ _ _ _ hi
    obtain ⟨c1, r⟩ := x
    cases r with
    | none => rw [RC.climb_none hi, RC.climb_none hi']
    | some e =>
      rw [RC.climb_some hi] at h
      rw [RC.climb_some hi, RC.climb_some hi']
      exact enterWith_load_mono ops load load' hm _ c1 e h

theorem rel_load_mono (fix : Bool) (mov : Mov) (c : RC β)
    (h : (RC.rel ops load fix mov c).2 ≠ .err) :
    RC.rel ops load' fix mov c = RC.rel ops load fix mov c := by
  cases hc : c.cur with
  | none =>
    rw [RC.rel_none hc] at h
    rw [RC.rel_none hc, RC.rel_none hc]
    exact seek_load_mono ops load load' hm _ _ c h
  | some b =>
    cases hr : (ops.apply mov b).2 with
    | some e => rw [RC.rel_stay hc hr, RC.rel_stay hc hr]
    | none =>
      rw [RC.rel_climb hc hr] at h
      rw [RC.rel_climb hc hr, RC.rel_climb hc hr]
      exact climb_load_mono ops load load' hm fix mov _ h

theorem step_load_mono (fix : Bool) (c : RC β) (op : Op)
    (h : (RC.step ops load fix c op).2 ≠ .err) :
    RC.step ops load' fix c op = RC.step ops load fix c op := by
  have seek := seek_load_mono ops load load' hm
  have rel := rel_load_mono ops load load' hm fix
  cases op with
  | first => exact seek .first false c h
  | last => exact seek .last false c h
  | next =>
    have h : (RC.next ops load fix c).2 ≠ .err := h
    rw [RC.next_eq] at h
    show RC.next ops load' fix c = RC.next ops load fix c
    rw [RC.next_eq, RC.next_eq]
    exact rel _ c h
  | prev =>
    have h : (RC.prev ops load fix c).2 ≠ .err := h
    rw [RC.prev_eq] at h
    show RC.prev ops load' fix c = RC.prev ops load fix c
    rw [RC.prev_eq, RC.prev_eq]
    exact rel _ c h
  | ge q => exact seek (.ge q) true c h
  | le q =>
    have h : (RC.le ops load fix q c).2 ≠ .err := h
    rw [RC.le_eq] at h
    show RC.le ops load' fix q c = RC.le ops load fix q c
    rw [RC.le_eq, RC.le_eq]
    rcases hge : RC.seek ops load (.ge q) true c with ⟨c1, r⟩
    rw [hge] at h
    cases r with
    | err => exact absurd rfl h
    | ok o =>
      rw [seek _ _ c (by rw [hge]; simp), hge]
      cases o with
      | some kv =>
        obtain ⟨k, v⟩ := kv
        simp only at h ⊢
        split
        · rfl
        · rename_i hne
          rw [if_neg hne] at h
          exact rel .prev c1 h
      | none =>
        simp only at h ⊢
        rcases hla : RC.seek ops load .last false c1 with ⟨c2, r2⟩
        rw [hla] at h
        cases r2 with
        | err => exact absurd rfl h
        | ok o2 => rw [seek _ _ c1 (by rw [hla]; simp), hla]
  | eq q =>
    have h : (RC.eq ops load q c).2 ≠ .err := h
    rw [RC.eq_eq] at h
    show RC.eq ops load' q c = RC.eq ops load q c
    rw [RC.eq_eq, RC.eq_eq]
    rcases hge : RC.seek ops load (.ge q) true c with ⟨c1, r⟩
    rw [hge] at h
    cases r with
    | err => exact absurd rfl h
    | ok o => rw [seek _ _ c (by rw [hge]; simp), hge]
  | reset => rfl
  | current => rfl

end CursorMono

theorem Merger.next_ne_mergeErr (mf : MergeFn) (hmf : ∀ k vs, (mf k vs).isSome) (m : Merger) :
    (Merger.next mf m).2 ≠ .mergeErr := by
  unfold Merger.next
  split
  · simp
  · rename_i first h _
    simp only
    split
    · rename_i hn
      have := hmf first.key (first.val :: (popSame first.key (h.length + 1) h []).1.map MSrc.val)
      rw [hn] at this
      cases this
    · simp

theorem Merger.collect_ne_none (mf : MergeFn) (hmf : ∀ k vs, (mf k vs).isSome) :
    ∀ (fuel : Nat) (m : Merger) (acc : List Entry), (Merger.collect mf fuel m acc).1 ≠ none := by
  intro fuel
  induction fuel with
  | zero => intro m acc; simp [Merger.collect]
  | succ fuel ih =>
    intro m acc
    unfold Merger.collect
    have hne := Merger.next_ne_mergeErr mf hmf m
    rcases hn : Merger.next mf m with ⟨m', r⟩
    rw [hn] at hne
    cases r with
    | mergeErr => exact absurd rfl hne
    | ok o =>
      cases o with
      | none => simp
      | some e => exact ih _ _

theorem Merger.run_ne_none (mf : MergeFn) (hmf : ∀ k vs, (mf k vs).isSome)
    (sources : List (List Entry)) : (Merger.run mf sources).1 ≠ none :=
  Merger.collect_ne_none mf hmf _ _ _

theorem mergeGroups_ne_none (mf : MergeFn) (hmf : ∀ k vs, (mf k vs).isSome) :
    ∀ (l : List Entry) (cur : Option (Bytes × List Bytes)) (out : List Entry)
      (calls : List (Bytes × List Bytes)), Sorter.mergeGroups mf l cur out calls ≠ none := by
  intro l
  induction l with
  | nil =>
    intro cur out calls
    cases cur with
    | none => simp [Sorter.mergeGroups]
    | some p =>
      obtain ⟨k, vs⟩ := p
      have := hmf k vs
      cases hm : mf k vs with
      | none => simp [hm] at this
      | some m => simp [Sorter.mergeGroups, hm]
  | cons e rest ih =>
    intro cur out calls
    obtain ⟨k, v⟩ := e
    cases cur with
    | none => rw [Sorter.mergeGroups]; exact ih _ _ _
    | some p =>
      obtain ⟨ck, vs⟩ := p
      rw [Sorter.mergeGroups]
      split
      · exact ih _ _ _
      · have := hmf ck vs
        cases hm : mf ck vs with
        | none => simp [hm] at this
        | some m => exact ih _ _ _

end Grenad
