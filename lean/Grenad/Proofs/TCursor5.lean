/-
  T-cursor, part 5: `recurLevels` — the tree successor / predecessor across block boundaries,
  and preservation of cache soundness by `recurLevels` in any state.
-/
import Grenad.Proofs.TCursor4

namespace Grenad.TCursor

open Grenad Spec

theorem LC_next_some {c : LC} {i : Nat} (h : c.pos = some i) (hi : i < c.es.length) :
    LC.ops.apply .next c = (⟨c.es, some (i + 1)⟩, c.es[i + 1]?) := by
  simp [BlockOps.apply, LC.ops, LC.next, h, hi, LC.current]

theorem LC_next_fresh {c : LC} (h : c.pos = none) :
    LC.ops.apply .next c = (⟨c.es, some 0⟩, c.es[0]?) := by
  simp [BlockOps.apply, LC.ops, LC.next, h, LC.first, LC.current]

theorem LC_prev_zero {c : LC} (h : c.pos = some 0) : LC.ops.apply .prev c = (c, none) := by
  simp [BlockOps.apply, LC.ops, LC.prev, h]

theorem LC_prev_some {c : LC} {i : Nat} (h : c.pos = some i) (h0 : 0 < i) (hi : i < c.es.length) :
    LC.ops.apply .prev c = (⟨c.es, some (i - 1)⟩, c.es[i - 1]?) := by
  have : ¬ (i = 0 ∨ c.es.length ≤ i) := by omega
  simp [BlockOps.apply, LC.ops, LC.prev, h, this, LC.current]

theorem LC_prev_fresh {c : LC} (h : c.pos = none) (hne : c.es ≠ []) :
    LC.ops.apply .prev c = (⟨c.es, some (c.es.length - 1)⟩, c.es[c.es.length - 1]?) := by
  have : c.es.isEmpty = false := by simpa using hne
  simp [BlockOps.apply, LC.ops, LC.prev, h, LC.last, this, LC.current]

section
variable {s : Store} {lvl : Nat → Nat}

/-- `recurLevels` keeps the number of levels and cache soundness, in any state. -/
theorem recurLevels_pres (mov : Mov) :
    ∀ (rev : List (Nat × LC)) (k : Nat) (log : List Nat) (rev' : List (Nat × LC))
      (r : Option Entry) (log' : List Nat),
      RC.recurLevels LC.ops s.load true mov rev log = some (rev', r, log') →
      rev'.length = rev.length ∧ (CSr s lvl k rev → CSr s lvl k rev') := by
  intro rev
  induction rev with
  | nil =>
    intro k log rev' r log' h
    rw [RC.recurLevels_nil] at h
    simp only [Option.some.injEq, Prod.mk.injEq] at h
    obtain ⟨rfl, _, _⟩ := h
    exact ⟨rfl, id⟩
  | cons x ps ih =>
    obtain ⟨o, c⟩ := x
    intro k log rev' r log' h
    have hes := apply_es mov c
    cases ha : LC.ops.apply mov c with
    | mk c' r0 =>
      rw [ha] at hes; simp only at hes
      cases r0 with
      | some e0 =>
        rw [RC.recurLevels_stay ps log ha] at h
        simp only [Option.some.injEq, Prod.mk.injEq] at h
        obtain ⟨rfl, _, _⟩ := h
        refine ⟨rfl, ?_⟩
        intro hcs; exact ⟨fun hl => hes ▸ hcs.1 hl, hcs.2⟩
      | none =>
        cases hr : RC.recurLevels LC.ops s.load true mov ps log with
        | none => rw [RC.recurLevels_fail ha hr] at h; cases h
        | some res =>
          obtain ⟨ps', r1, log1⟩ := res
          obtain ⟨hlen, hcs'⟩ := ih (k + 1) log ps' r1 log1 hr
          cases r1 with
          | none =>
            rw [RC.recurLevels_out ha hr] at h
            simp only [Option.some.injEq, Prod.mk.injEq] at h
            obtain ⟨rfl, _, _⟩ := h
            refine ⟨by simp [hlen], ?_⟩
            intro hcs; exact ⟨fun hl => hes ▸ hcs.1 hl, hcs' hcs.2⟩
          | some e =>
            cases hl : s.load (offOf e) with
            | none => rw [RC.recurLevels_climb_fail ha hr hl] at h; cases h
            | some nc =>
              rw [RC.recurLevels_climb ha hr hl] at h
              simp only [Option.some.injEq, Prod.mk.injEq] at h
              obtain ⟨rfl, _, _⟩ := h
              refine ⟨by simp [hlen], ?_⟩
              intro hcs
              refine ⟨fun _ => ?_, hcs' hcs.2⟩
              rw [apply_es]; exact load_some hl

end

section
variable {s : Store} {lvl : Nat → Nat} {D root : Nat} {es : List Entry}

/-- Moving the index levels to the next block of depth `k` in tree order. -/
theorem recur_next (cx : Ctx s lvl D root es) :
    ∀ (parents : List (Nat × LC)) (k off : Nat) (fl pre post : List Entry) (log : List Nat),
      UpPath s lvl D root es k off fl parents pre post →
      (post ≠ [] → ∃ parents' e log' off' fl' post',
          RC.recurLevels LC.ops s.load true .next parents log = some (parents', some e, log') ∧
          post = fl' ++ post' ∧ UpPath s lvl D root es k off' fl' parents' (pre ++ fl) post' ∧
          Sub s lvl k off' fl' ∧ offOf e = off') ∧
      (post = [] → ∃ parents' log',
          RC.recurLevels LC.ops s.load true .next parents log = some (parents', none, log')) := by
  intro parents
  induction parents with
  | nil =>
    intro k off fl pre post log hup
    obtain ⟨_, _, _, _, hpost⟩ := hup
    exact ⟨fun h => absurd hpost h, fun _ => ⟨[], log, RC.recurLevels_nil _ _⟩⟩
  | cons x ps ih =>
    obtain ⟨o, c⟩ := x
    intro k off fl pre post log hup
    obtain ⟨poff, kpre, kpost, pre', post', hpre, hpost, hkids, hce, hpos, hup'⟩ := hup
    have hlt : kpre.length < c.es.length := by rw [hce]; simp
    cases kpost with
    | cons kid2 kpost2 =>
      obtain ⟨off2, fl2⟩ := kid2
      have hk2 : Sub s lvl k off2 fl2 := hkids (off2, fl2) (by simp)
      have hget : c.es[kpre.length + 1]? = some (lastKey fl2, be64 off2) := by
        rw [hce, List.append_cons]
        have := idx_zip_get (kpre ++ [(off, fl)]) (off2, fl2) kpost2
        simp
      have hnext := LC_next_some hpos hlt
      rw [hget] at hnext
      constructor
      · intro _
        refine ⟨(o, ⟨c.es, some (kpre.length + 1)⟩) :: ps, (lastKey fl2, be64 off2), log, off2, fl2,
          flat kpost2 ++ post', ?_, ?_, ?_, hk2, offOf_mk _ (cx.off_lt hk2)⟩
        · rw [RC.recurLevels_stay ps log hnext]
          simp only [LC.ops, LC.current, hget]
        · rw [hpost, flat_cons]; simp
        · refine ⟨poff, kpre ++ [(off, fl)], kpost2, pre', post', ?_, rfl, ?_, ?_, by simp, ?_⟩
          · rw [hpre]; simp [flat]
          · rw [← List.append_cons]; exact hkids
          · rw [← List.append_cons]; exact hce
          · rw [← List.append_cons]; exact hup'
      · intro h
        rw [hpost, flat_cons] at h
        exact absurd (List.append_eq_nil_iff.1 (List.append_eq_nil_iff.1 h).1).1 (Sub.flat_ne hk2)
    | nil =>
      have hget : c.es[kpre.length + 1]? = none := by
        rw [List.getElem?_eq_none]; rw [hce]; simp
      have hnext := LC_next_some hpos hlt
      rw [hget] at hnext
      simp only [flat, List.flatMap_nil, List.nil_append] at hpost
      subst hpost
      obtain ⟨ih1, ih2⟩ := ih (k + 1) poff _ pre' post log hup'
      constructor
      · intro hne
        obtain ⟨ps', e, log', poff', pfl', post'', hr, hp, hupn, hsubn, hoffn⟩ := ih1 hne
        obtain ⟨kids', hkne', hblk', hkids', rfl⟩ := Sub.inv_node hsubn
        cases kids' with
        | nil => exact absurd rfl hkne'
        | cons kid0 rest =>
          obtain ⟨off0, fl0⟩ := kid0
          have hk0 : Sub s lvl k off0 fl0 := hkids' (off0, fl0) (by simp)
          have hl : s.load (offOf e) = some (LC.ofList (idx ((off0, fl0) :: rest))) := by
            rw [hoffn]; exact load_eq hblk'
          have hfresh := LC_next_fresh (c := LC.ofList (idx ((off0, fl0) :: rest))) rfl
          have hclimb := RC.recurLevels_climb (o := o) hnext hr hl
          rw [hfresh] at hclimb
          refine ⟨_, _, _, off0, fl0, flat rest ++ post'', hclimb, ?_, ?_, hk0, ?_⟩
          · rw [hp, flat_cons]; simp
          · refine ⟨poff', [], rest, pre' ++ flat (kpre ++ [(off, fl)]), post'', ?_, rfl, hkids', rfl,
              rfl, hupn⟩
            rw [hpre]; simp [flat]
          · show offOf (lastKey fl0, be64 off0) = off0
            exact offOf_mk _ (cx.off_lt hk0)
      · intro hp
        obtain ⟨ps', log', hr⟩ := ih2 hp
        exact ⟨_, _, RC.recurLevels_out hnext hr⟩

/-- Moving the index levels to the previous block of depth `k` in tree order. -/
theorem recur_prev (cx : Ctx s lvl D root es) :
    ∀ (parents : List (Nat × LC)) (k off : Nat) (fl pre post : List Entry) (log : List Nat),
      UpPath s lvl D root es k off fl parents pre post →
      (pre ≠ [] → ∃ parents' e log' off' fl' pre',
          RC.recurLevels LC.ops s.load true .prev parents log = some (parents', some e, log') ∧
          pre = pre' ++ fl' ∧ UpPath s lvl D root es k off' fl' parents' pre' (fl ++ post) ∧
          Sub s lvl k off' fl' ∧ offOf e = off') ∧
      (pre = [] → ∃ parents' log',
          RC.recurLevels LC.ops s.load true .prev parents log = some (parents', none, log')) := by
  intro parents
  induction parents with
  | nil =>
    intro k off fl pre post log hup
    obtain ⟨_, _, _, hpre, _⟩ := hup
    exact ⟨fun h => absurd hpre h, fun _ => ⟨[], log, RC.recurLevels_nil _ _⟩⟩
  | cons x ps ih =>
    obtain ⟨o, c⟩ := x
    intro k off fl pre post log hup
    obtain ⟨poff, kpre, kpost, pre', post', hpre, hpost, hkids, hce, hpos, hup'⟩ := hup
    have hlt : kpre.length < c.es.length := by rw [hce]; simp
    rcases List.eq_nil_or_concat kpre with hk | ⟨kpre2, kid2, hk⟩
    · -- first child: climb
      subst hk
      have hprev := LC_prev_zero (c := c) hpos
      simp only [flat, List.flatMap_nil, List.append_nil] at hpre
      subst hpre
      obtain ⟨ih1, ih2⟩ := ih (k + 1) poff _ pre post' log hup'
      constructor
      · intro hne
        obtain ⟨ps', e, log', poff', pfl', pre'', hr, hp, hupn, hsubn, hoffn⟩ := ih1 hne
        obtain ⟨kids', hkne', hblk', hkids', rfl⟩ := Sub.inv_node hsubn
        obtain ⟨kinit, kid0, rfl⟩ := exists_snoc hkne'
        obtain ⟨off0, fl0⟩ := kid0
        have hk0 : Sub s lvl k off0 fl0 := hkids' (off0, fl0) (by simp)
        have hl : s.load (offOf e) = some (LC.ofList (idx (kinit ++ [(off0, fl0)]))) := by
          rw [hoffn]; exact load_eq hblk'
        have hfresh := LC_prev_fresh (c := LC.ofList (idx (kinit ++ [(off0, fl0)]))) rfl
          (by simp [LC.ofList])
        have hclimb := RC.recurLevels_climb (o := o) hprev hr hl
        rw [hfresh] at hclimb
        have hlen : (LC.ofList (idx (kinit ++ [(off0, fl0)]))).es.length - 1 = kinit.length := by
          simp [LC.ofList]
        rw [hlen] at hclimb
        have hget : (LC.ofList (idx (kinit ++ [(off0, fl0)]))).es[kinit.length]?
            = some (lastKey fl0, be64 off0) := idx_zip_get kinit (off0, fl0) []
        rw [hget] at hclimb
        refine ⟨_, _, _, off0, fl0, pre'' ++ flat kinit, hclimb, ?_, ?_, hk0,
          offOf_mk _ (cx.off_lt hk0)⟩
        · rw [hp]; simp [flat]
        · refine ⟨poff', kinit, [], pre'', flat ([] ++ (off, fl) :: kpost) ++ post', rfl, ?_, hkids',
            rfl, rfl, hupn⟩
          rw [hpost]; simp [flat]
      · intro hp
        obtain ⟨ps', log', hr⟩ := ih2 hp
        exact ⟨_, _, RC.recurLevels_out hprev hr⟩
    · -- an earlier sibling exists
      subst hk
      obtain ⟨off2, fl2⟩ := kid2
      have hk2 : Sub s lvl k off2 fl2 := hkids (off2, fl2) (by simp)
      have hl2 : (kpre2.concat (off2, fl2)).length - 1 = kpre2.length := by simp
      have hget : c.es[(kpre2.concat (off2, fl2)).length - 1]? = some (lastKey fl2, be64 off2) := by
        rw [hl2, hce, List.concat_eq_append, ← List.append_cons]
        exact idx_zip_get kpre2 (off2, fl2) ((off, fl) :: kpost)
      have hprev := LC_prev_some hpos (by simp) hlt
      rw [hget, hl2] at hprev
      rw [List.concat_eq_append] at hpre hkids hce hup'
      constructor
      · intro _
        refine ⟨(o, ⟨c.es, some kpre2.length⟩) :: ps, (lastKey fl2, be64 off2), log, off2, fl2,
          pre' ++ flat kpre2, ?_, ?_, ?_, hk2, offOf_mk _ (cx.off_lt hk2)⟩
        · rw [RC.recurLevels_stay ps log hprev]
          simp only [LC.ops, LC.current]
          rw [hl2] at hget; rw [hget]
        · rw [hpre]; simp [flat]
        · refine ⟨poff, kpre2, (off, fl) :: kpost, pre', post', rfl, ?_, ?_, ?_, rfl, ?_⟩
          · rw [hpost, flat_cons]; simp
          · rw [List.append_cons]; exact hkids
          · rw [List.append_cons]; exact hce
          · rw [List.append_cons]; exact hup'
      · intro h
        rw [hpre, flat, List.flatMap_append] at h
        have := (List.append_eq_nil_iff.1 (List.append_eq_nil_iff.1 h).2).2
        simp at this
        exact absurd this (Sub.flat_ne hk2)

end

end Grenad.TCursor
