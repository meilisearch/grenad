/-
  Grenad.Proofs.Loads — number of block loads per reader-cursor operation (T-loads, for C16).

  Purely structural: nothing is assumed of the in-block cursor operations `ops`, of the loader
  `load`, or of the file.  The only hypothesis is the shape invariant `Shape` (when the index
  cursor is initialised it holds exactly `levels + 1` per-level cursors), which holds of `RC.new`
  and is preserved by every operation.  Histories are run by `RC.run` (results), `RC.runStates`
  (the states around each step) and `RC.loadCounts` (loads per step), defined here.
-/
import Grenad.Proofs.ReaderEq

namespace Grenad

variable {β : Type}

/-- `log'` is `log` with at most `n` newly loaded offsets pushed in front. -/
def LogExt (log log' : List Nat) (n : Nat) : Prop :=
  ∃ pre : List Nat, log' = pre ++ log ∧ pre.length ≤ n

theorem LogExt.refl (log : List Nat) (n : Nat) : LogExt log log n :=
  ⟨[], rfl, Nat.zero_le _⟩

theorem LogExt.trans {a b c : List Nat} {n m : Nat}
    (h1 : LogExt a b n) (h2 : LogExt b c m) : LogExt a c (n + m) := by
  obtain ⟨p, rfl, hp⟩ := h1
  obtain ⟨q, rfl, hq⟩ := h2
  exact ⟨q ++ p, by simp, by simp; omega⟩

theorem LogExt.mono {a b : List Nat} {n m : Nat} (h : LogExt a b n) (hnm : n ≤ m) :
    LogExt a b m := by
  obtain ⟨p, rfl, hp⟩ := h
  exact ⟨p, rfl, by omega⟩

theorem LogExt.cons {a b : List Nat} {x n : Nat} (h : LogExt (x :: a) b n) :
    LogExt a b (n + 1) := by
  obtain ⟨p, rfl, hp⟩ := h
  exact ⟨p ++ [x], by simp, by simp; omega⟩

theorem LogExt.one (x : Nat) (a : List Nat) : LogExt a (x :: a) 1 :=
  ⟨[x], rfl, by simp⟩

theorem LogExt.length_le {a b : List Nat} {n : Nat} (h : LogExt a b n) :
    a.length ≤ b.length ∧ b.length - a.length ≤ n := by
  obtain ⟨p, rfl, hp⟩ := h
  simp; omega

/-- `initial_index_blocks` performs at most one load per remaining level, and on success returns
    exactly one cursor per level. -/
theorem initialIndex_spec (ops : BlockOps β) (load : Nat → Option β) (mov : Mov) :
    ∀ (d jump : Nat) (acc : List (Nat × β)) (log : List Nat)
      (r : Option (List (Nat × β))) (log' : List Nat),
      RC.initialIndex ops load mov d jump acc log = some (r, log') →
      LogExt log log' d ∧ ∀ l, r = some l → l.length = acc.length + d := by
  intro d
  induction d with
  | zero =>
    intro jump acc log r log' h
    simp only [RC.initialIndex, Option.some.injEq, Prod.mk.injEq] at h
    obtain ⟨rfl, rfl⟩ := h
    exact ⟨LogExt.refl _ _, by intro l hl; cases hl; simp⟩
  | succ d ih =>
    intro jump acc log r log' h
    simp only [RC.initialIndex] at h
    split at h
    · cases h
    · rename_i c hc
      split at h
      · rename_i e he
        obtain ⟨h1, h2⟩ := ih _ _ _ _ _ h
        refine ⟨h1.cons, ?_⟩
        intro l hl
        have := h2 l hl
        simp at this; omega
      · simp only [Option.some.injEq, Prod.mk.injEq] at h
        obtain ⟨rfl, rfl⟩ := h
        exact ⟨(LogExt.one _ _).mono (by omega), by intro l hl; cases hl⟩

/-- The `for` loop of `iter_index_blocks` performs at most one load per level and keeps the
    number of levels. -/
theorem iterLevels_spec (ops : BlockOps β) (load : Nat → Option β) (mov : Mov) :
    ∀ (inner : List (Nat × β)) (jump : Nat) (log : List Nat)
      (inner' : List (Nat × β)) (done : Bool) (log' : List Nat),
      RC.iterLevels ops load mov jump inner log = some (inner', done, log') →
      LogExt log log' inner.length ∧ inner'.length = inner.length := by
  intro inner
  induction inner with
  | nil =>
    intro jump log inner' done log' h
    simp only [RC.iterLevels, Option.some.injEq, Prod.mk.injEq] at h
    obtain ⟨rfl, -, rfl⟩ := h
    exact ⟨LogExt.refl _ _, rfl⟩
  | cons x rest ih =>
    intro jump log inner' done log' h
    obtain ⟨off, c⟩ := x
    simp only [RC.iterLevels] at h
    split at h
    · cases h
    · rename_i off1 c1 log1 hre
      have hlog1 : LogExt log log1 1 := by
        split at hre
        · cases hl : load jump with
          | none => simp [hl] at hre
          | some c' =>
            simp only [hl, Option.map_some, Option.some.injEq, Prod.mk.injEq] at hre
            obtain ⟨-, -, rfl⟩ := hre
            exact LogExt.one _ _
        · simp only [Option.some.injEq, Prod.mk.injEq] at hre
          obtain ⟨-, -, rfl⟩ := hre
          exact LogExt.refl _ _
      split at h
      · split at h
        · cases h
        · rename_i rest' done' log2 hrec
          simp only [Option.some.injEq, Prod.mk.injEq] at h
          obtain ⟨rfl, -, rfl⟩ := h
          obtain ⟨h1, h2⟩ := ih _ _ _ _ _ hrec
          refine ⟨(hlog1.trans h1).mono (by simp; omega), by simp [h2]⟩
      · simp only [Option.some.injEq, Prod.mk.injEq] at h
        obtain ⟨rfl, -, rfl⟩ := h
        exact ⟨hlog1.mono (by simp), by simp⟩

/-- The recursion of `recursive_index_block` reloads at most every level but the root, and keeps
    the number of levels. -/
theorem recurLevels_spec (ops : BlockOps β) (load : Nat → Option β) (fixF1 : Bool) (mov : Mov) :
    ∀ (l : List (Nat × β)) (log : List Nat)
      (l' : List (Nat × β)) (r : Option Entry) (log' : List Nat),
      RC.recurLevels ops load fixF1 mov l log = some (l', r, log') →
      LogExt log log' (l.length - 1) ∧ l'.length = l.length := by
  intro l
  induction l with
  | nil =>
    intro log l' r log' h
    simp only [RC.recurLevels, Option.some.injEq, Prod.mk.injEq] at h
    obtain ⟨rfl, -, rfl⟩ := h
    exact ⟨LogExt.refl _ _, rfl⟩
  | cons x parents ih =>
    intro log l' r log' h
    obtain ⟨off, c⟩ := x
    simp only [RC.recurLevels] at h
    split at h
    · simp only [Option.some.injEq, Prod.mk.injEq] at h
      obtain ⟨rfl, -, rfl⟩ := h
      exact ⟨LogExt.refl _ _, by simp⟩
    · split at h
      · cases h
      · rename_i parents' e log1 hrec
        split at h
        · cases h
        · simp only [Option.some.injEq, Prod.mk.injEq] at h
          obtain ⟨rfl, -, rfl⟩ := h
          obtain ⟨h1, h2⟩ := ih _ _ _ _ hrec
          cases parents with
          | nil =>
            simp [RC.recurLevels] at hrec
          | cons p ps =>
            refine ⟨(h1.trans (LogExt.one _ _)).mono (by simp), by simp [h2]⟩
      · rename_i parents' log1 hrec
        simp only [Option.some.injEq, Prod.mk.injEq] at h
        obtain ⟨rfl, -, rfl⟩ := h
        obtain ⟨h1, h2⟩ := ih _ _ _ _ hrec
        exact ⟨h1.mono (by simp), by simp [h2]⟩

/-- Shape invariant: an initialised index cursor holds exactly one in-block cursor per index
    level (`index_levels + 1` of them, root first). -/
def Shape (c : RC β) : Prop := ∀ l, c.inner = some l → l.length = c.levels + 1

/-- Reachable-state condition: a data block is entered only through an initialised index
    cursor.  Not needed for the uniform bound `2 * (levels + 2)`; it sharpens the bound of
    `next`/`prev` from `2 * levels + 2` to `levels + 2`. -/
def Reach (c : RC β) : Prop := c.cur.isSome → c.inner.isSome

/-- `c'` is `c` after at most `n` block loads: same base offset, same number of index levels,
    and the load log of `c'` is that of `c` with at most `n` offsets pushed in front. -/
structure Ext (c c' : RC β) (n : Nat) : Prop where
  base : c'.base = c.base
  levels : c'.levels = c.levels
  log : LogExt c.log c'.log n

theorem Ext.refl (c : RC β) (n : Nat) : Ext c c n := ⟨rfl, rfl, LogExt.refl _ _⟩

theorem Ext.trans {a b c : RC β} {n m : Nat} (h1 : Ext a b n) (h2 : Ext b c m) :
    Ext a c (n + m) :=
  ⟨h2.base.trans h1.base, h2.levels.trans h1.levels, h1.log.trans h2.log⟩

theorem Ext.mono {a b : RC β} {n m : Nat} (h : Ext a b n) (hnm : n ≤ m) : Ext a b m :=
  ⟨h.base, h.levels, h.log.mono hnm⟩

theorem Shape.of_eq {c c' : RC β} (hs : Shape c) (hi : c'.inner = c.inner)
    (hl : c'.levels = c.levels) : Shape c' := by
  intro l h; rw [hl]; exact hs l (hi ▸ h)

theorem shape_new (m : Meta.Meta) : Shape (RC.new m : RC β) := by
  intro l h; simp [RC.new] at h

theorem reach_new (m : Meta.Meta) : Reach (RC.new m : RC β) := by
  intro h; simp [RC.new] at h

/-- `iter_index_blocks`: at most `levels + 1` loads. -/
theorem iterIndex_spec (ops : BlockOps β) (load : Nat → Option β) (mov : Mov)
    (c c' : RC β) (r : Option Entry)
    (h : RC.iterIndex ops load mov c = some (c', r)) (hs : Shape c) :
    Ext c c' (c.levels + 1) ∧ Shape c' ∧ c'.cur = c.cur ∧
      (r.isSome → c'.inner.isSome) ∧ (c.inner.isSome → c'.inner.isSome) := by
  cases hin : c.inner with
  | some inner =>
    rw [RC.iterIndex_some hin] at h
    cases hit : RC.iterLevels ops load mov c.base inner c.log with
    | none => rw [hit] at h; cases h
    | some x =>
      obtain ⟨inner', done, log'⟩ := x
      rw [hit] at h
      obtain ⟨rfl, -⟩ := Prod.mk.inj (Option.some.inj h)
      obtain ⟨h1, h2⟩ := iterLevels_spec ops load mov _ _ _ _ _ _ hit
      have hlen := hs inner hin
      exact ⟨⟨rfl, rfl, hlen ▸ h1⟩, (by intro l hl; cases hl; exact h2.trans hlen), rfl,
        fun _ => rfl, fun _ => rfl⟩
  | none =>
    rw [RC.iterIndex_none hin] at h
    cases hinit : RC.initialIndex ops load mov (c.levels + 1) c.base [] c.log with
    | none => rw [hinit] at h; cases h
    | some x =>
      obtain ⟨inner, log'⟩ := x
      rw [hinit] at h
      obtain ⟨rfl, rfl⟩ := Prod.mk.inj (Option.some.inj h)
      obtain ⟨h1, h2⟩ := initialIndex_spec ops load mov _ _ _ _ _ _ hinit
      refine ⟨⟨rfl, rfl, h1⟩, (by intro l hl; simpa using h2 l hl), rfl, ?_, fun h' => by cases h'⟩
      cases inner with
      | none => intro h'; cases h'
      | some l => intro _; rfl

/-- `recursive_index_block`: at most `levels` loads from an initialised index cursor,
    at most `(levels + 1) + levels` otherwise. -/
theorem recurIndex_spec (ops : BlockOps β) (load : Nat → Option β) (fixF1 : Bool) (mov : Mov)
    (c c' : RC β) (r : Option Entry)
    (h : RC.recurIndex ops load fixF1 mov c = some (c', r)) (hs : Shape c) :
    Ext c c' (2 * c.levels + 1) ∧ Shape c' ∧ c'.cur = c.cur ∧
      (c.inner.isSome → Ext c c' c.levels ∧ c'.inner.isSome) := by
  -- from an initialised index cursor
  have init : ∀ (c1 : RC β) (inner : List (Nat × β)), c1.inner = some inner → Shape c1 →
      RC.recurIndex ops load fixF1 mov c1 = some (c', r) →
      Ext c1 c' c1.levels ∧ Shape c' ∧ c'.cur = c1.cur ∧ c'.inner.isSome := by
    intro c1 inner hin hs1 h
    rw [RC.recurIndex_some hin] at h
    cases hrec : RC.recurLevels ops load fixF1 mov inner.reverse c1.log with
    | none => rw [hrec] at h; cases h
    | some x =>
      obtain ⟨rev', r', log'⟩ := x
      rw [hrec] at h
      obtain ⟨rfl, -⟩ := Prod.mk.inj (Option.some.inj h)
      obtain ⟨h1, h2⟩ := recurLevels_spec ops load fixF1 mov _ _ _ _ _ hrec
      have hlen := hs1 inner hin
      exact ⟨⟨rfl, rfl, h1.mono (by simp [hlen])⟩, (by intro l hl; cases hl; simp [h2, hlen]),
        rfl, rfl⟩
  cases hin : c.inner with
  | some inner =>
    obtain ⟨a, b, d, e⟩ := init c inner hin hs h
    exact ⟨a.mono (by omega), b, d, fun _ => ⟨a, e⟩⟩
  | none =>
    rw [RC.recurIndex_none hin] at h
    cases hinit : RC.initialIndex ops load mov (c.levels + 1) c.base [] c.log with
    | none => rw [hinit] at h; cases h
    | some x =>
      obtain ⟨inner, lg⟩ := x
      rw [hinit] at h
      obtain ⟨h1, h2⟩ := initialIndex_spec ops load mov _ _ _ _ _ _ hinit
      cases inner with
      | none =>
        obtain ⟨rfl, -⟩ := Prod.mk.inj (Option.some.inj h)
        exact ⟨⟨rfl, rfl, h1.mono (by omega)⟩, (by intro l hl; cases hl), rfl,
          fun h' => by cases h'⟩
      | some l =>
        obtain ⟨a, b, d, -⟩ := init { c with inner := some l, log := lg } l rfl
          (by intro l' hl'; cases hl'; simpa using h2 l rfl) h
        exact ⟨⟨a.base, a.levels, (h1.trans a.log).mono (by show c.levels + 1 + c.levels ≤ _; omega)⟩,
          b, d, fun h' => by cases h'⟩

/-- What every public operation guarantees of its final state: at most `n` loads, base and
    levels unchanged, both invariants preserved. -/
structure Post (c c' : RC β) (n : Nat) : Prop where
  ext : Ext c c' n
  shape : Shape c'
  reach : Reach c → Reach c'

theorem Post.refl {c : RC β} (hs : Shape c) (n : Nat) : Post c c n := ⟨Ext.refl _ _, hs, id⟩

theorem Post.mono {c c' : RC β} {n m : Nat} (h : Post c c' n) (hnm : n ≤ m) : Post c c' m :=
  ⟨h.ext.mono hnm, h.shape, h.reach⟩

theorem Post.trans {a b c : RC β} {n m : Nat} (h1 : Post a b n) (h2 : Post b c m) :
    Post a c (n + m) :=
  ⟨h1.ext.trans h2.ext, h2.shape, fun h => h2.reach (h1.reach h)⟩

/-- Entering a data block is exactly one load. -/
theorem Ext.enter (c : RC β) (x : Nat) (b : β) :
    Ext c (RC.withCur { c with log := x :: c.log } b) 1 :=
  ⟨rfl, rfl, LogExt.one _ _⟩

/-- An absolute move (`move_on_first`, `move_on_last`,
    `move_on_key_greater_than_or_equal_to`): at most `levels + 2` loads; when it answers an entry,
    the index cursor is initialised and a data block is held. -/
theorem seek_spec (ops : BlockOps β) (load : Nat → Option β) (mov : Mov) (keepCur : Bool)
    (c : RC β) (hs : Shape c) :
    Post c (RC.seek ops load mov keepCur c).1 (c.levels + 2) ∧
      (∀ e, (RC.seek ops load mov keepCur c).2 = .ok (some e) →
        (RC.seek ops load mov keepCur c).1.inner.isSome ∧
          (RC.seek ops load mov keepCur c).1.cur.isSome) := by
  cases hi : RC.iterIndex ops load mov c with
  | none => rw [RC.seek_err hi]; exact ⟨Post.refl hs _, by intro e h; cases h⟩
  | some x =>
    obtain ⟨c1, r⟩ := x
    obtain ⟨a, sh, hcur, hsome, hkeep⟩ := iterIndex_spec ops load mov c c1 r hi hs
    -- after the index move, whatever it returned
    have p1 : Post c c1 (c.levels + 2) :=
      ⟨a.mono (by omega), sh, fun hr hc => hkeep (hr (hcur ▸ hc))⟩
    cases r with
    | none =>
      rw [RC.seek_none hi]
      cases keepCur with
      | true => exact ⟨p1, by intro e h; cases h⟩
      | false =>
        exact ⟨⟨⟨a.base, a.levels, a.log.mono (by omega)⟩, sh.of_eq rfl rfl,
          fun _ hc => by cases hc⟩, by intro e h; cases h⟩
    | some e =>
      rw [RC.seek_some hi]
      cases he : load (offOf e) with
      | none => rw [RC.enterWith_err he]; exact ⟨p1, by intro e h; cases h⟩
      | some b =>
        rw [RC.enterWith_ok he]
        have hinner : c1.inner.isSome := hsome rfl
        exact ⟨⟨a.trans (Ext.enter c1 _ _), sh.of_eq rfl rfl, fun _ _ => hinner⟩,
          fun _ _ => ⟨hinner, rfl⟩⟩

/-- Bounds of a relative move (`next`/`prev`): `2 * levels + 2` loads from any state satisfying
    `Shape`, `levels + 2` from a reachable state, `levels + 1` when a data block is held under an
    initialised index cursor. -/
structure RelPost (c c' : RC β) : Prop where
  post : Post c c' (2 * c.levels + 2)
  reach : Reach c → Ext c c' (c.levels + 2)
  held : c.inner.isSome → c.cur.isSome → Ext c c' (c.levels + 1)

theorem climb_spec (ops : BlockOps β) (load : Nat → Option β) (fixF1 : Bool) (mov : Mov)
    (c : RC β) (hs : Shape c) (hcur : c.cur.isSome) :
    Post c (RC.climb ops load fixF1 mov c).1 (2 * c.levels + 2) ∧
      (c.inner.isSome → Ext c (RC.climb ops load fixF1 mov c).1 (c.levels + 1)) := by
  cases hi : RC.recurIndex ops load fixF1 mov c with
  | none => rw [RC.climb_err hi]; exact ⟨Post.refl hs _, fun _ => Ext.refl _ _⟩
  | some x =>
    obtain ⟨c1, r⟩ := x
    obtain ⟨a, sh, hc1, hin⟩ := recurIndex_spec ops load fixF1 mov c c1 r hi hs
    have p1 : Post c c1 (2 * c.levels + 1) := ⟨a, sh, fun hr _ => (hin (hr hcur)).2⟩
    have stop : Post c c1 (2 * c.levels + 2) ∧ (c.inner.isSome → Ext c c1 (c.levels + 1)) :=
      ⟨p1.mono (by omega), fun h => (hin h).1.mono (by omega)⟩
    cases r with
    | none => rw [RC.climb_none hi]; exact stop
    | some e =>
      rw [RC.climb_some hi]
      cases he : load (offOf e) with
      | none => rw [RC.enterWith_err he]; exact stop
      | some nb =>
        rw [RC.enterWith_ok he]
        exact ⟨⟨a.trans (Ext.enter c1 _ _), sh.of_eq rfl rfl,
            fun hr _ => p1.reach hr (hc1 ▸ hcur)⟩,
          fun h => (hin h).1.trans (Ext.enter c1 _ _)⟩

theorem rel_spec (ops : BlockOps β) (load : Nat → Option β) (fixF1 : Bool) (mov : Mov) (c : RC β)
    (hs : Shape c) : RelPost c (RC.rel ops load fixF1 mov c).1 := by
  cases hc : c.cur with
  | none =>
    rw [RC.rel_none hc]
    have h := (seek_spec ops load mov.enter false c hs).1
    exact ⟨h.mono (by omega), fun _ => h.ext, fun _ h' => by rw [hc] at h'; cases h'⟩
  | some b =>
    have hreach : Reach c → c.inner.isSome := fun hr => hr (by rw [hc]; rfl)
    cases hm : (ops.apply mov b).2 with
    | some e =>
      rw [RC.rel_stay hc hm]
      have hext : ∀ n, Ext c (RC.withCur c (ops.apply mov b).1) n :=
        fun n => ⟨rfl, rfl, LogExt.refl _ _⟩
      exact ⟨⟨hext _, hs.of_eq rfl rfl, fun hr _ => hreach hr⟩, fun _ => hext _, fun _ _ => hext _⟩
    | none =>
      rw [RC.rel_climb hc hm]
      obtain ⟨p, hheld⟩ :=
        climb_spec ops load fixF1 mov (RC.withCur c (ops.apply mov b).1) (hs.of_eq rfl rfl) rfl
      -- the in-block move changed neither base, levels nor log
      have ext : ∀ {x : RC β} {n : Nat}, Ext (RC.withCur c (ops.apply mov b).1) x n → Ext c x n :=
        fun h => ⟨h.base, h.levels, h.log⟩
      exact ⟨⟨ext p.ext, p.shape, fun hr => p.reach (fun _ => hreach hr)⟩,
        fun hr => (ext (hheld (hreach hr))).mono (by show c.levels + 1 ≤ _; omega),
        fun hi _ => ext (hheld hi)⟩

/-- `move_on_key_equal_to`: at most `levels + 2` loads. -/
theorem eq_spec (ops : BlockOps β) (load : Nat → Option β) (q : Bytes) (c : RC β) (hs : Shape c) :
    Post c (c.eq ops load q).1 (c.levels + 2) := by
  have h := (seek_spec ops load (.ge q) true c hs).1
  rw [RC.eq_eq]
  revert h
  rcases RC.seek ops load (.ge q) true c with ⟨c1, r⟩
  intro h
  cases r with
  | err => exact h
  | ok r => exact h

/-- `move_on_key_lower_than_or_equal_to` = `ge`, then `prev` (at most `levels + 1` more loads,
    since `ge` answered from a held data block) or `last` (at most `levels + 2` more loads).
    This is the worst case of all operations. -/
private theorem le_spec (ops : BlockOps β) (load : Nat → Option β) (fixF1 : Bool) (q : Bytes) (c : RC β)
    (hs : Shape c) : Post c (c.le ops load fixF1 q).1 (2 * c.levels + 4) := by
  have h := seek_spec ops load (.ge q) true c hs
  rw [RC.le_eq]
  revert h
  rcases RC.seek ops load (.ge q) true c with ⟨c1, r⟩
  rintro ⟨hg, hg'⟩
  dsimp only at hg hg'
  have hl : c1.levels = c.levels := hg.ext.levels
  cases r with
  | err => exact hg.mono (by omega)
  | ok r =>
    cases r with
    | some kv =>
      obtain ⟨k, v⟩ := kv
      dsimp only
      by_cases hk : k = q
      · rw [if_pos hk]; exact hg.mono (by omega)
      · rw [if_neg hk]
        obtain ⟨hin, hcur⟩ := hg' _ rfl
        have hp := rel_spec ops load fixF1 .prev c1 hg.shape
        have : Post c1 (RC.rel ops load fixF1 .prev c1).1 (c1.levels + 1) :=
          ⟨hp.held hin hcur, hp.post.shape, hp.post.reach⟩
        exact (hg.trans this).mono (by omega)
    | none =>
      dsimp only
      have h2 := (seek_spec ops load .last false c1 hg.shape).1
      revert h2
      rcases RC.seek ops load .last false c1 with ⟨c2, r2⟩
      intro h2
      have : Post c c2 (2 * c.levels + 4) := (hg.trans h2).mono (by omega)
      cases r2 with
      | err => exact this
      | ok r => exact this

/-- Tight bound on the number of loads of each operation, from any state satisfying `Shape`. -/
def Op.loadBound (levels : Nat) : Op → Nat
  | .first | .last | .ge _ | .eq _ => levels + 2
  | .next | .prev => 2 * levels + 2
  | .le _ => 2 * levels + 4
  | .reset | .current => 0

/-- Tight bound from a reachable state (`Reach`): `next`/`prev` cost at most `levels + 2`. -/
def Op.loadBoundReach (levels : Nat) : Op → Nat
  | .first | .last | .ge _ | .eq _ | .next | .prev => levels + 2
  | .le _ => 2 * levels + 4
  | .reset | .current => 0

theorem Op.loadBoundReach_le (levels : Nat) (op : Op) :
    op.loadBoundReach levels ≤ op.loadBound levels := by
  cases op <;> simp only [Op.loadBound, Op.loadBoundReach] <;> omega

theorem step_spec (ops : BlockOps β) (load : Nat → Option β) (fixF1 : Bool) (c : RC β) (op : Op)
    (hs : Shape c) : Post c (RC.step ops load fixF1 c op).1 (op.loadBound c.levels) := by
  cases op with
  | first => exact (seek_spec ops load .first false c hs).1
  | last => exact (seek_spec ops load .last false c hs).1
  | next => exact (RC.next_eq ops load fixF1 c ▸ rel_spec ops load fixF1 .next c hs).post
  | prev => exact (RC.prev_eq ops load fixF1 c ▸ rel_spec ops load fixF1 .prev c hs).post
  | ge q => exact (seek_spec ops load (.ge q) true c hs).1
  | le q => exact le_spec ops load fixF1 q c hs
  | eq q => exact eq_spec ops load q c hs
  | reset =>
    exact ⟨⟨rfl, rfl, LogExt.refl _ _⟩, fun l h => by simp [RC.step, RC.reset] at h,
      fun _ h => by simp [RC.step, RC.reset] at h⟩
  | current => exact Post.refl hs _

theorem step_spec_reach (ops : BlockOps β) (load : Nat → Option β) (fixF1 : Bool) (c : RC β)
    (op : Op) (hs : Shape c) (hr : Reach c) :
    Post c (RC.step ops load fixF1 c op).1 (op.loadBoundReach c.levels) := by
  have h := step_spec ops load fixF1 c op hs
  cases op with
  | next =>
    exact ⟨(RC.next_eq ops load fixF1 c ▸ rel_spec ops load fixF1 .next c hs).reach hr, h.shape,
      h.reach⟩
  | prev =>
    exact ⟨(RC.prev_eq ops load fixF1 c ▸ rel_spec ops load fixF1 .prev c hs).reach hr, h.shape,
      h.reach⟩
  | _ => exact h

theorem step_post (ops : BlockOps β) (load : Nat → Option β) (fixF1 : Bool) (c : RC β) (op : Op)
    (hs : Shape c) : Post c (RC.step ops load fixF1 c op).1 (2 * (c.levels + 2)) :=
  (step_spec ops load fixF1 c op hs).mono (by cases op <;> simp only [Op.loadBound] <;> omega)

/-- Run a history, returning the final state and the list of states *before* each step paired
    with the state after it. -/
def RC.runStates (ops : BlockOps β) (load : Nat → Option β) (fixF1 : Bool) :
    RC β → List Op → List (RC β × RC β)
  | _, [] => []
  | c, op :: rest =>
    let c' := (RC.step ops load fixF1 c op).1
    (c, c') :: RC.runStates ops load fixF1 c' rest

theorem runStates_spec (ops : BlockOps β) (load : Nat → Option β) (fixF1 : Bool) :
    ∀ (hist : List Op) (c : RC β), Shape c →
      ∀ p ∈ RC.runStates ops load fixF1 c hist,
        p.1.levels = c.levels ∧ Post p.1 p.2 (2 * (c.levels + 2)) := by
  intro hist
  induction hist with
  | nil => intro c _ p hp; simp [RC.runStates] at hp
  | cons op rest ih =>
    intro c hs p hp
    have hpost := step_post ops load fixF1 c op hs
    simp only [RC.runStates, List.mem_cons] at hp
    rcases hp with rfl | hp
    · exact ⟨rfl, hpost⟩
    · rw [← hpost.ext.levels]; exact ih _ hpost.shape p hp

/-- Number of blocks loaded by each step of a history, in order. -/
def RC.loadCounts (ops : BlockOps β) (load : Nat → Option β) (fixF1 : Bool)
    (c : RC β) (hist : List Op) : List Nat :=
  (RC.runStates ops load fixF1 c hist).map (fun p => p.2.log.length - p.1.log.length)

/-- Run a history: final state and the results in order. -/
def RC.run (ops : BlockOps β) (load : Nat → Option β) (fixF1 : Bool) :
    RC β → List Op → RC β × List Res
  | c, [] => (c, [])
  | c, op :: rest =>
    let s := RC.step ops load fixF1 c op
    let t := RC.run ops load fixF1 s.1 rest
    (t.1, s.2 :: t.2)

theorem loadCounts_le (ops : BlockOps β) (load : Nat → Option β) (fixF1 : Bool)
    (c : RC β) (hs : Shape c) (hist : List Op) :
    ∀ n ∈ RC.loadCounts ops load fixF1 c hist, n ≤ 2 * (c.levels + 2) := by
  intro n hn
  simp only [RC.loadCounts, List.mem_map] at hn
  obtain ⟨p, hp, rfl⟩ := hn
  obtain ⟨-, hpost⟩ := runStates_spec ops load fixF1 hist c hs p hp
  exact hpost.ext.log.length_le.2

theorem loadCounts_length (ops : BlockOps β) (load : Nat → Option β) (fixF1 : Bool) :
    ∀ (hist : List Op) (c : RC β), (RC.loadCounts ops load fixF1 c hist).length = hist.length := by
  intro hist
  induction hist with
  | nil => intro c; rfl
  | cons op rest ih =>
    intro c
    have := ih (RC.step ops load fixF1 c op).1
    simp only [RC.loadCounts, RC.runStates, List.map_cons, List.length_cons, List.length_map] at this ⊢
    omega

end Grenad
