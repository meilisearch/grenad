/-
  Grenad.Proofs.AssemblyNoErr — the abstract reader cursor never reports an error over a
  well-formed file, from any reachable state (whatever the logical position, `lost` included).

  `TCursor.Inv` (cache soundness) does not say that the blocks held in a `lost` state are blocks of
  the tree, so it cannot exclude that a relative move from such a state asks the store for an
  offset it does not have.  The invariant `Good` below does: every index block held at a level
  only contains pointers to subtrees of the depth below it, and the data block held (if any) only
  contains entries of the file.  It is established by `RC.new`/`reset`, kept by every operation,
  and under it no load can fail.  `NE` joins it with the case of the empty file; `NE_step` is what
  the assembly uses.
-/
import Grenad.Proofs.TCursor7

namespace Grenad.Assembly

open Grenad Grenad.TCursor

theorem current_mem {c : LC} {e : Entry} (h : LC.current c = some e) : e ∈ c.es := by
  unfold LC.current at h
  cases hp : c.pos with
  | none => simp [hp] at h
  | some i => rw [hp] at h; exact List.mem_of_getElem? h

theorem apply_snd (mov : Mov) (c : LC) :
    (LC.ops.apply mov c).2 = none ∨ (LC.ops.apply mov c).2 = LC.current (LC.ops.apply mov c).1 := by
  cases mov <;> simp only [BlockOps.apply, LC.ops]
  · exact Or.inr rfl
  · unfold LC.last; split
    · exact Or.inl rfl
    · exact Or.inr rfl
  · unfold LC.next; split
    · exact Or.inr rfl
    · split
      · exact Or.inr rfl
      · exact Or.inl rfl
  · unfold LC.prev; split
    · unfold LC.last; split
      · exact Or.inl rfl
      · exact Or.inr rfl
    · split
      · exact Or.inl rfl
      · exact Or.inr rfl
  · exact Or.inr rfl

theorem apply_mem (mov : Mov) (c : LC) {e : Entry} (h : (LC.ops.apply mov c).2 = some e) :
    e ∈ c.es := by
  rcases apply_snd mov c with h1 | h1
  · rw [h1] at h; cases h
  · rw [h1] at h
    have := current_mem h
    rwa [apply_es] at this

/-- A move inside a block, with its outcome named: same entries, and an answer among them. -/
theorem apply_cases (mov : Mov) (c : LC) :
    ∃ c' r, LC.ops.apply mov c = (c', r) ∧ c'.es = c.es ∧ ∀ e, r = some e → e ∈ c.es :=
  ⟨_, _, rfl, apply_es mov c, fun _ he => apply_mem mov c he⟩

section
variable (es : List Entry) (s : Store) (lvl : Nat → Nat)

/-- `off` is the root of a depth-`k` subtree whose content is part of `es`. -/
def Pt (k off : Nat) : Prop := ∃ fl, Sub s lvl k off fl ∧ ∀ e ∈ fl, e ∈ es

/-- Every entry of the (index) block points to a depth-`k` subtree. -/
def GoodB (k : Nat) (blk : List Entry) : Prop := ∀ e ∈ blk, Pt es s lvl k (offOf e)

/-- Root-first list of levels: the block held at a level points to subtrees whose depth is the
    number of levels below it. -/
def GoodT : List (Nat × LC) → Prop
  | [] => True
  | (_, c) :: rest => GoodB es s lvl rest.length c.es ∧ GoodT rest

/-- Bottom-first list of levels; `k` is the depth the head points to. -/
def GoodR : Nat → List (Nat × LC) → Prop
  | _, [] => True
  | k, (_, c) :: ps => GoodB es s lvl k c.es ∧ GoodR (k + 1) ps

end

section
variable {es : List Entry} {s : Store} {lvl : Nat → Nat}

theorem GoodR_append {k : Nat} {a b : List (Nat × LC)} :
    GoodR es s lvl k (a ++ b) ↔ GoodR es s lvl k a ∧ GoodR es s lvl (k + a.length) b := by
  induction a generalizing k with
  | nil => simp [GoodR]
  | cons x a ih =>
    obtain ⟨o, c⟩ := x
    simp only [List.cons_append, GoodR, ih, List.length_cons, and_assoc]
    rw [show k + 1 + a.length = k + (a.length + 1) by omega]

theorem GoodT_iff (l : List (Nat × LC)) : GoodT es s lvl l ↔ GoodR es s lvl 0 l.reverse := by
  induction l with
  | nil => simp [GoodT, GoodR]
  | cons x l ih =>
    obtain ⟨o, c⟩ := x
    simp only [GoodT, List.reverse_cons, GoodR_append, GoodR, ih, List.length_reverse,
      Nat.zero_add, and_true]
    exact And.comm

/-- The standing assumptions: a labelled tree over `es`, offsets below `2^64`. -/
structure Env (es : List Entry) (s : Store) (lvl : Nat → Nat) (root levels : Nat) : Prop where
  sub : Sub s lvl (levels + 1) root es
  lt : ∀ off blk, s off = some blk → off < 2 ^ 64

theorem Env.root_pt {root levels : Nat} (E : Env es s lvl root levels) :
    Pt es s lvl (levels + 1) root := ⟨es, E.sub, fun _ h => h⟩

theorem Pt.load_idx (hlt : ∀ off blk, s off = some blk → off < 2 ^ 64) {k off : Nat}
    (h : Pt es s lvl (k + 1) off) : ∃ blk, s off = some blk ∧ GoodB es s lvl k blk := by
  obtain ⟨fl, hsub, hfl⟩ := h
  obtain ⟨kids, -, hblk, hkids, rfl⟩ := Sub.inv_node hsub
  refine ⟨idx kids, hblk, ?_⟩
  intro e he
  simp only [List.mem_map] at he
  obtain ⟨kid, hk, rfl⟩ := he
  have hsk := hkids kid hk
  obtain ⟨b, hb⟩ := Sub.stored hsk
  rw [offOf_mk _ (hlt _ _ hb)]
  exact ⟨kid.2, hsk, fun e he => hfl e (List.mem_flatMap.2 ⟨kid, hk, he⟩)⟩

/-! ### The index walks never fail -/

theorem initialIndex_ok (hlt : ∀ off blk, s off = some blk → off < 2 ^ 64) (mov : Mov) :
    ∀ (d jump : Nat) (acc : List (Nat × LC)) (log : List Nat),
      Pt es s lvl d jump → GoodR es s lvl d acc →
      ∃ r log', RC.initialIndex LC.ops s.load mov d jump acc log = some (r, log') ∧
        ∀ l, r = some l → l.length = acc.length + d ∧ GoodT es s lvl l := by
  intro d
  induction d with
  | zero =>
    intro jump acc log _ hacc
    refine ⟨some acc.reverse, log, rfl, ?_⟩
    intro l hl
    cases hl
    exact ⟨by simp, by rw [GoodT_iff, List.reverse_reverse]; exact hacc⟩
  | succ d ih =>
    intro jump acc log hp hacc
    obtain ⟨blk, hb, hg⟩ := hp.load_idx hlt
    obtain ⟨c', r, ha, hes, hmem⟩ := apply_cases mov (LC.ofList blk)
    cases r with
    | none =>
      rw [RC.initialIndex_stop (load_eq hb) ha]
      exact ⟨none, _, rfl, by intro l hl; cases hl⟩
    | some e =>
      rw [RC.initialIndex_step (load_eq hb) ha]
      obtain ⟨r, log', h1, h2⟩ := ih (offOf e) ((offOf e, c') :: acc) (jump :: log)
        (hg e (hmem e rfl)) ⟨by rw [hes]; exact hg, hacc⟩
      refine ⟨r, log', h1, ?_⟩
      intro l hl
      obtain ⟨g1, g2⟩ := h2 l hl
      exact ⟨by simp at g1; omega, g2⟩

theorem iterLevels_ok (hlt : ∀ off blk, s off = some blk → off < 2 ^ 64) (mov : Mov) :
    ∀ (inner : List (Nat × LC)) (jump : Nat) (log : List Nat),
      Pt es s lvl inner.length jump → GoodT es s lvl inner →
      ∃ inner' done log', RC.iterLevels LC.ops s.load mov jump inner log = some (inner', done, log') ∧
        inner'.length = inner.length ∧ GoodT es s lvl inner' := by
  intro inner
  induction inner with
  | nil =>
    intro jump log _ _
    exact ⟨[], true, log, RC.iterLevels_nil _ _ _, rfl, trivial⟩
  | cons x rest ih =>
    obtain ⟨o, c⟩ := x
    intro jump log hp hg
    obtain ⟨hgc, hgrest⟩ := hg
    simp only [List.length_cons] at hp
    -- the cursor used at this level
    have hre : ∃ o2 c2 log2, GoodB es s lvl rest.length c2.es ∧
        RC.reload s.load jump (o, c) log = some (o2, c2, log2) := by
      by_cases hj : jump = o
      · subst hj
        exact ⟨jump, c, log, hgc, RC.reload_same _ _ _⟩
      · obtain ⟨blk, hb, hgb⟩ := hp.load_idx hlt
        exact ⟨jump, LC.ofList blk, jump :: log, hgb, by rw [RC.reload_other hj, load_eq hb]; rfl⟩
    obtain ⟨o2, c2, log2, hg2, hre⟩ := hre
    obtain ⟨c', r, ha, hes, hmem⟩ := apply_cases mov c2
    cases r with
    | none =>
      rw [RC.iterLevels_stop hre ha]
      exact ⟨(o2, c') :: rest, false, log2, rfl, rfl, by rw [GoodT, hes]; exact ⟨hg2, hgrest⟩⟩
    | some e =>
      obtain ⟨rest', done, log', h1, h2, h3⟩ := ih (offOf e) log2 (hg2 e (hmem e rfl)) hgrest
      rw [RC.iterLevels_step hre ha, h1]
      exact ⟨(o2, c') :: rest', done, log', rfl, by simp [h2],
        by rw [GoodT, hes, h2]; exact ⟨hg2, h3⟩⟩

theorem recurLevels_ok (hlt : ∀ off blk, s off = some blk → off < 2 ^ 64) (mov : Mov) :
    ∀ (l : List (Nat × LC)) (k : Nat) (log : List Nat), GoodR es s lvl k l →
      ∃ l' r log', RC.recurLevels LC.ops s.load true mov l log = some (l', r, log') ∧
        l'.length = l.length ∧ GoodR es s lvl k l' ∧ ∀ e, r = some e → Pt es s lvl k (offOf e) := by
  intro l
  induction l with
  | nil =>
    intro k log _
    exact ⟨[], none, log, RC.recurLevels_nil _ _, rfl, trivial, by intro e he; cases he⟩
  | cons x parents ih =>
    obtain ⟨o, c⟩ := x
    intro k log hg
    obtain ⟨hgc, hgp⟩ := hg
    obtain ⟨c', r, ha, hes, -⟩ := apply_cases mov c
    cases r with
    | some e0 =>
      rw [RC.recurLevels_stay _ _ ha]
      refine ⟨_, _, log, rfl, rfl, ⟨by rw [hes]; exact hgc, hgp⟩, ?_⟩
      intro e he
      have := current_mem (c := c') he
      rw [hes] at this
      exact hgc e this
    | none =>
      obtain ⟨p', re, log', h1, h2, h3, h4⟩ := ih (k + 1) log hgp
      cases re with
      | none =>
        rw [RC.recurLevels_out ha h1]
        exact ⟨_, none, log', rfl, by simp [h2], ⟨by rw [hes]; exact hgc, h3⟩,
          by intro e he; cases he⟩
      | some e =>
        obtain ⟨blk, hb, hgb⟩ := (h4 e rfl).load_idx hlt
        obtain ⟨nc', r', ha2, hes2, hmem2⟩ := apply_cases mov (LC.ofList blk)
        rw [RC.recurLevels_climb ha h1 (load_eq hb), ha2]
        refine ⟨_, r', _, rfl, by simp [h2], ⟨by rw [hes2]; exact hgb, h3⟩, ?_⟩
        intro e' he'
        exact hgb e' (hmem2 e' he')

/-- Every held index block points to subtrees of the right depth; the held data block (if any)
    contains entries of the file only. -/
structure Good (es : List Entry) (s : Store) (lvl : Nat → Nat) (root levels : Nat) (c : RC LC) :
    Prop where
  hbase : c.base = root
  hlevels : c.levels = levels
  inner : ∀ l, c.inner = some l → l.length = levels + 1 ∧ GoodT es s lvl l
  cur : ∀ b, c.cur = some b → ∀ e ∈ b.es, e ∈ es

variable {root levels : Nat}

theorem Good.withCur {c : RC LC} (h : Good es s lvl root levels c) {b : LC}
    (hb : ∀ e ∈ b.es, e ∈ es) : Good es s lvl root levels (RC.withCur c b) :=
  ⟨h.hbase, h.hlevels, h.inner, by
    intro b' hb'
    simp only [RC.withCur, Option.some.injEq] at hb'
    subst hb'; exact hb⟩

/-- The levels of an index cursor replaced by good ones (and any log). -/
theorem Good.setInner {c : RC LC} (h : Good es s lvl root levels c) {l : List (Nat × LC)}
    (hlen : l.length = levels + 1) (hg : GoodT es s lvl l) (log : List Nat) :
    Good es s lvl root levels { c with inner := some l, log := log } :=
  ⟨h.hbase, h.hlevels, (by intro l' hl'; cases hl'; exact ⟨hlen, hg⟩), h.cur⟩

/-- Result of an index move: it succeeded, the state stays good, and the entry returned points to
    a data block of the tree. -/
def IdxOK (es : List Entry) (s : Store) (lvl : Nat → Nat) (root levels : Nat)
    (x : Option (RC LC × Option Entry)) : Prop :=
  ∃ c' r, x = some (c', r) ∧ Good es s lvl root levels c' ∧
    ∀ e, r = some e → Pt es s lvl 0 (offOf e)

theorem lastCurrent_pt {l : List (Nat × LC)} (h : GoodT es s lvl l) {e : Entry}
    (he : RC.lastCurrent LC.ops l = some e) : Pt es s lvl 0 (offOf e) := by
  rw [GoodT_iff] at h
  unfold RC.lastCurrent at he
  rw [List.getLast?_eq_head?_reverse] at he
  cases hr : l.reverse with
  | nil => rw [hr] at he; cases he
  | cons x ps =>
    obtain ⟨o, b⟩ := x
    rw [hr] at he h
    exact h.1 e (current_mem he)

/-- The walk that initialises the index cursor of a good state. -/
theorem Good.initialIndex_ok (E : Env es s lvl root levels) (mov : Mov) {c : RC LC}
    (hc : Good es s lvl root levels c) :
    ∃ r log', RC.initialIndex LC.ops s.load mov (c.levels + 1) c.base [] c.log = some (r, log') ∧
      ∀ l, r = some l → l.length = levels + 1 ∧ GoodT es s lvl l := by
  obtain ⟨r, log', h1, h2⟩ := Assembly.initialIndex_ok E.lt mov (c.levels + 1) c.base [] c.log
    (by rw [hc.hbase, hc.hlevels]; exact E.root_pt) trivial
  refine ⟨r, log', h1, fun l hl => ?_⟩
  obtain ⟨g1, g2⟩ := h2 l hl
  exact ⟨by simpa [hc.hlevels] using g1, g2⟩

theorem iterIndex_ok (E : Env es s lvl root levels) (mov : Mov) {c : RC LC}
    (hc : Good es s lvl root levels c) :
    IdxOK es s lvl root levels (RC.iterIndex LC.ops s.load mov c) := by
  cases hin : c.inner with
  | some inner =>
    obtain ⟨hlen, hg⟩ := hc.inner inner hin
    obtain ⟨inner', done, log', h1, h2, h3⟩ := iterLevels_ok E.lt mov inner c.base c.log
      (by rw [hlen, hc.hbase]; exact E.root_pt) hg
    rw [RC.iterIndex_some hin, h1]
    refine ⟨_, _, rfl, hc.setInner (h2.trans hlen) h3 log', ?_⟩
    intro e he
    cases done with
    | true => exact lastCurrent_pt h3 he
    | false => cases he
  | none =>
    obtain ⟨r, log', h1, h2⟩ := hc.initialIndex_ok E mov
    rw [RC.iterIndex_none hin, h1]
    cases r with
    | none =>
      exact ⟨_, _, rfl, ⟨hc.hbase, hc.hlevels, (by intro l hl; cases hl), hc.cur⟩,
        by intro e he; cases he⟩
    | some l =>
      exact ⟨_, _, rfl, hc.setInner (h2 l rfl).1 (h2 l rfl).2 log',
        fun e he => lastCurrent_pt (h2 l rfl).2 he⟩

theorem recurIndex_ok (E : Env es s lvl root levels) (mov : Mov) {c : RC LC}
    (hc : Good es s lvl root levels c) :
    IdxOK es s lvl root levels (RC.recurIndex LC.ops s.load true mov c) := by
  -- from an initialised index cursor
  have init : ∀ (c : RC LC) (inner : List (Nat × LC)), c.inner = some inner →
      Good es s lvl root levels c →
      IdxOK es s lvl root levels (RC.recurIndex LC.ops s.load true mov c) := by
    intro c inner hin hc
    obtain ⟨hlen, hg⟩ := hc.inner inner hin
    obtain ⟨l', r, log', g1, g2, g3, g4⟩ :=
      recurLevels_ok E.lt mov inner.reverse 0 c.log ((GoodT_iff inner).1 hg)
    rw [RC.recurIndex_some hin, g1]
    exact ⟨_, _, rfl, hc.setInner (by simp [g2, hlen])
      (by rw [GoodT_iff, List.reverse_reverse]; exact g3) log', g4⟩
  cases hin : c.inner with
  | some inner => exact init c inner hin hc
  | none =>
    obtain ⟨r, log', h1, h2⟩ := hc.initialIndex_ok E mov
    rw [RC.recurIndex_none hin, h1]
    cases r with
    | none =>
      exact ⟨_, none, rfl, ⟨hc.hbase, hc.hlevels, (by intro l hl; cases hl), hc.cur⟩,
        by intro e he; cases he⟩
    | some l => exact init _ l rfl (hc.setInner (h2 l rfl).1 (h2 l rfl).2 log')

/-- Outcome of a public operation: no error, good state. -/
abbrev StepOK (es : List Entry) (s : Store) (lvl : Nat → Nat) (root levels : Nat)
    (x : RC LC × Res) : Prop :=
  x.2 ≠ .err ∧ Good es s lvl root levels x.1

theorem mem_of_apply {mov : Mov} {b : LC} (hb : ∀ x ∈ b.es, x ∈ es) :
    ∀ x ∈ (LC.ops.apply mov b).1.es, x ∈ es := by
  rw [apply_es]; exact hb

theorem enterWith_good {c : RC LC} (hc : Good es s lvl root levels c) (mov : Mov) {e : Entry}
    (he : Pt es s lvl 0 (offOf e)) :
    StepOK es s lvl root levels (RC.enterWith LC.ops s.load mov c e) := by
  obtain ⟨fl, hsub, hfl⟩ := he
  rw [RC.enterWith_ok (load_eq (Sub.inv_leaf hsub))]
  have hc' : Good es s lvl root levels ({ c with log := offOf e :: c.log } : RC LC) :=
    ⟨hc.hbase, hc.hlevels, hc.inner, hc.cur⟩
  exact ⟨Res.noConfusion, hc'.withCur (mem_of_apply (b := LC.ofList fl) hfl)⟩

theorem seek_good (E : Env es s lvl root levels) (mov : Mov) (keepCur : Bool) {c : RC LC}
    (hc : Good es s lvl root levels c) :
    StepOK es s lvl root levels (RC.seek LC.ops s.load mov keepCur c) := by
  obtain ⟨c', r, h1, h2, h4⟩ := iterIndex_ok E mov hc
  cases r with
  | some e => rw [RC.seek_some h1]; exact enterWith_good h2 mov (h4 e rfl)
  | none =>
    rw [RC.seek_none h1]
    cases keepCur with
    | true => exact ⟨Res.noConfusion, h2⟩
    | false =>
      exact ⟨Res.noConfusion, h2.hbase, h2.hlevels, h2.inner, by intro b hb; cases hb⟩

theorem climb_good (E : Env es s lvl root levels) (mov : Mov) {c : RC LC}
    (hc : Good es s lvl root levels c) :
    StepOK es s lvl root levels (RC.climb LC.ops s.load true mov c) := by
  obtain ⟨c', r, h1, h2, h4⟩ := recurIndex_ok E mov hc
  cases r with
  | some e => rw [RC.climb_some h1]; exact enterWith_good h2 mov.enter (h4 e rfl)
  | none => rw [RC.climb_none h1]; exact ⟨Res.noConfusion, h2⟩

theorem rel_good (E : Env es s lvl root levels) (mov : Mov) {c : RC LC}
    (hc : Good es s lvl root levels c) :
    StepOK es s lvl root levels (RC.rel LC.ops s.load true mov c) := by
  cases hcur : c.cur with
  | none => rw [RC.rel_none hcur]; exact seek_good E mov.enter false hc
  | some b =>
    have hg : Good es s lvl root levels (RC.withCur c (LC.ops.apply mov b).1) :=
      hc.withCur (mem_of_apply (hc.cur b hcur))
    cases hm : (LC.ops.apply mov b).2 with
    | some e => rw [RC.rel_stay hcur hm]; exact ⟨Res.noConfusion, hg⟩
    | none => rw [RC.rel_climb hcur hm]; exact climb_good E mov hg

theorem le_ok (E : Env es s lvl root levels) {c : RC LC} (hc : Good es s lvl root levels c)
    (q : Bytes) : StepOK es s lvl root levels (c.le LC.ops s.load true q) := by
  have hs := seek_good E (.ge q) true hc
  rw [RC.le_eq]
  revert hs
  rcases RC.seek LC.ops s.load (.ge q) true c with ⟨c1, r⟩
  rintro ⟨h1, h2⟩
  dsimp only at h1 h2
  cases r with
  | err => exact absurd rfl h1
  | ok r =>
    cases r with
    | some kv =>
      obtain ⟨k, v⟩ := kv
      dsimp only
      by_cases hk : k = q
      · rw [if_pos hk]; exact ⟨Res.noConfusion, h2⟩
      · rw [if_neg hk]; exact rel_good E .prev h2
    | none =>
      dsimp only
      have hl := seek_good E .last false h2
      revert hl
      rcases RC.seek LC.ops s.load .last false c1 with ⟨c2, r2⟩
      rintro ⟨l1, l2⟩
      dsimp only at l1 l2
      cases r2 with
      | err => exact absurd rfl l1
      | ok r => exact ⟨Res.noConfusion, l2⟩

theorem eq_ok (E : Env es s lvl root levels) {c : RC LC} (hc : Good es s lvl root levels c)
    (q : Bytes) : StepOK es s lvl root levels (c.eq LC.ops s.load q) := by
  have hs := seek_good E (.ge q) true hc
  rw [RC.eq_eq]
  revert hs
  rcases RC.seek LC.ops s.load (.ge q) true c with ⟨c1, r⟩
  rintro ⟨h1, h2⟩
  dsimp only at h1 h2
  cases r with
  | err => exact absurd rfl h1
  | ok r => exact ⟨Res.noConfusion, h2⟩

/-- **No error, non-empty file**: every operation from a good state succeeds and leaves a good
    state. -/
theorem step_ok (E : Env es s lvl root levels) {c : RC LC} (hc : Good es s lvl root levels c)
    (op : Op) : StepOK es s lvl root levels (RC.stepA s true c op) := by
  cases op with
  | first => exact seek_good E .first false hc
  | last => exact seek_good E .last false hc
  | next =>
    show StepOK es s lvl root levels (c.next LC.ops s.load true)
    rw [RC.next_eq]; exact rel_good E .next hc
  | prev =>
    show StepOK es s lvl root levels (c.prev LC.ops s.load true)
    rw [RC.prev_eq]; exact rel_good E .prev hc
  | ge q => exact seek_good E (.ge q) true hc
  | le q => exact le_ok E hc q
  | eq q => exact eq_ok E hc q
  | reset => exact ⟨Res.noConfusion, hc.hbase, hc.hlevels, (by intro l h; cases h), (by intro b h; cases h)⟩
  | current => exact ⟨Res.noConfusion, hc⟩

end

section
variable {s : Store} {root levels : Nat} {es : List Entry}

/-- The no-error invariant of a cursor state over a well-formed file: the file is empty and
    nothing is held, or the state is `Good` for some labelling of the tree. -/
def NE (s : Store) (root levels : Nat) (es : List Entry) (c : RC LC) : Prop :=
  (es = [] ∧ s root = some [] ∧ c.base = root ∧ c.levels = levels ∧ c.inner = none ∧ c.cur = none) ∨
  (∃ lvl, Sub s lvl (levels + 1) root es ∧ Good es s lvl root levels c)

theorem NE_c0 (h : FileOK s root levels es) : NE s root levels es (c0 root levels) := by
  rcases h.tree with ⟨he, hs⟩ | ⟨lvl, hsub⟩
  · exact Or.inl ⟨he, hs, rfl, rfl, rfl, rfl⟩
  · exact Or.inr ⟨lvl, hsub, rfl, rfl, (by intro l h; cases h), (by intro b h; cases h)⟩

/-- **No error.** Over a well-formed file every operation from a state satisfying `NE` succeeds
    and leaves a state satisfying `NE`. -/
theorem NE_step (h : FileOK s root levels es) {c : RC LC} (hc : NE s root levels es c) (op : Op) :
    (RC.stepA s true c op).2 ≠ .err ∧ NE s root levels es (RC.stepA s true c op).1 := by
  rcases hc with ⟨he, hs, hb, hl, hin, hcur⟩ | ⟨lvl, hsub, hg⟩
  · obtain ⟨c', h', hb', hl', hin', hcur'⟩ := stepA_empty hs hb hin hcur op
    rw [h']
    exact ⟨Res.noConfusion, Or.inl ⟨he, hs, hb', hl'.trans hl, hin', hcur'⟩⟩
  · have E : Env es s lvl root levels := ⟨hsub, fun off blk hb => (h.blocks off blk hb).2⟩
    obtain ⟨h1, h2⟩ := step_ok E hg op
    exact ⟨h1, Or.inr ⟨lvl, hsub, h2⟩⟩

/-- Under `NE`, `current()` returns nothing or an entry of the file. -/
theorem NE.current_mem {c : RC LC} (hc : NE s root levels es c) {e : Entry}
    (h : c.current LC.ops = some e) : e ∈ es := by
  unfold RC.current at h
  cases hcur : c.cur with
  | none => rw [hcur] at h; cases h
  | some b =>
    rw [hcur] at h
    rcases hc with ⟨-, -, -, -, -, hnone⟩ | ⟨lvl, -, hg⟩
    · rw [hcur] at hnone; cases hnone
    · exact hg.cur b hcur e (Assembly.current_mem h)

end

end Grenad.Assembly
