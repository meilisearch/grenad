/-
  Grenad.Proofs.IterLists — list and byte-string lemmas used by the iterator proofs (C04, C05):
  * `advanceKey` (C05: `advanceKey_spec`, `advanceKey_none`, `isPrefixOf_iff_le_of_all255`);
  * filter of an "interval" predicate over a sorted list = `takeWhile` of a `dropWhile`;
  * where `takeWhile` stops: the entry at its length fails the test, the entries before it pass.
-/
import Grenad.Proofs.TCursor1

namespace Grenad.IterP

theorem u8_lt_succ_iff {x y : UInt8} (hx : x ≠ 255) : y < x + 1 ↔ y < x ∨ y = x := by
  have hx' : x.toNat ≠ 255 := fun h => hx (UInt8.toNat_inj.mp (by simpa using h))
  have := x.toNat_lt
  rw [UInt8.lt_iff_toNat_lt, UInt8.lt_iff_toNat_lt, ← UInt8.toNat_inj, UInt8.toNat_add]
  simp only [UInt8.toNat_one]
  omega

theorem u8_not_255_lt (y : UInt8) : ¬ (255 : UInt8) < y := by
  have := y.toNat_lt
  rw [UInt8.lt_iff_toNat_lt]
  simp only [UInt8.toNat_ofNat]
  omega

theorem bytes_not_cons_le_nil {a : UInt8} {l : Bytes} : ¬ (a :: l) ≤ [] := by
  rw [List.not_le]; exact List.Lex.nil

theorem bytes_nil_le {l : Bytes} : ([] : Bytes) ≤ l := List.nil_le l

theorem bytes_le_trans {a b c : Bytes} (h1 : a ≤ b) (h2 : b ≤ c) : a ≤ c := List.le_trans h1 h2

end Grenad.IterP

namespace Grenad
open IterP

/-! ### `advanceKey` -/

theorem advanceRev_append_singleton (l : Bytes) (x : UInt8) :
    advanceRev (l ++ [x]) =
      match advanceRev l with
      | some r => some (r ++ [x])
      | none => if x = 255 then none else some [x + 1] := by
  induction l with
  | nil => simp [advanceRev]
  | cons y l ih =>
    simp only [List.cons_append, advanceRev]
    by_cases hy : y = 255
    · simp only [hy, if_true]; exact ih
    · simp [hy]

/-- Head-recursive characterisation of `advanceKey`. -/
theorem advanceKey_cons (x : UInt8) (p : Bytes) :
    advanceKey (x :: p) =
      match advanceKey p with
      | some s => some (x :: s)
      | none => if x = 255 then none else some [x + 1] := by
  unfold advanceKey
  rw [List.reverse_cons, advanceRev_append_singleton]
  cases advanceRev p.reverse with
  | none => by_cases hx : x = 255 <;> simp [hx]
  | some r => simp

theorem advanceKey_nil : advanceKey [] = none := rfl

/-- C05 (`advance_key` returns `None` exactly on prefixes made of 0xFF only, the empty one included). -/
theorem advanceKey_none (p : Bytes) : advanceKey p = none ↔ ∀ b ∈ p, b = 255 := by
  induction p with
  | nil => simp [advanceKey_nil]
  | cons x p ih =>
    rw [advanceKey_cons]
    cases h : advanceKey p with
    | some s =>
      have : ¬ ∀ b ∈ p, b = 255 := fun h' => by rw [ih.mpr h'] at h; cases h
      simp only [List.mem_cons, forall_eq_or_imp]
      constructor
      · intro h'; cases h'
      · intro h'; exact absurd h'.2 this
    | none =>
      have h255 := ih.mp h
      by_cases hx : x = 255
      · simpa [hx] using h255
      · simp [hx]

/-- C05: for a prefix made of 0xFF only (or empty), "starts with `p`" is "`≥ p`". -/
theorem isPrefixOf_iff_le_of_all255 (p : Bytes) (h : ∀ b ∈ p, b = 255) (k : Bytes) :
    p.isPrefixOf k = true ↔ p ≤ k := by
  induction p generalizing k with
  | nil => simp
  | cons x p ih =>
    have hx : x = 255 := h x (List.mem_cons_self)
    have hp : ∀ b ∈ p, b = 255 := fun b hb => h b (List.mem_cons_of_mem _ hb)
    subst hx
    cases k with
    | nil => simp
    | cons y k =>
      rw [List.isPrefixOf_cons_cons, List.cons_le_cons_iff, Bool.and_eq_true, ih hp k]
      simp [u8_not_255_lt]

/-- C05: `advance_key(p) = Some(s)` is the exclusive upper bound of the keys that start with `p`. -/
theorem advanceKey_spec (p s : Bytes) (h : advanceKey p = some s) (k : Bytes) :
    p.isPrefixOf k = true ↔ (p ≤ k ∧ k < s) := by
  induction p generalizing s k with
  | nil => simp [advanceKey_nil] at h
  | cons x p ih =>
    rw [advanceKey_cons] at h
    cases hp : advanceKey p with
    | some s' =>
      rw [hp] at h
      simp only [Option.some.injEq] at h
      subst h
      cases k with
      | nil => simp
      | cons y k =>
        rw [List.isPrefixOf_cons_cons, List.cons_le_cons_iff, List.cons_lt_cons_iff, Bool.and_eq_true,
          ih s' hp k]
        simp only [beq_iff_eq]
        constructor
        · rintro ⟨rfl, h1, h2⟩; exact ⟨.inr ⟨rfl, h1⟩, .inr ⟨rfl, h2⟩⟩
        · rintro ⟨h1 | ⟨rfl, h1⟩, h2 | ⟨h3, h2⟩⟩
          · exact absurd h2 (UInt8.lt_asymm h1)
          · exact absurd h3.symm (UInt8.ne_of_lt h1)
          · exact absurd h2 (UInt8.lt_asymm h2)
          · exact ⟨rfl, h1, h2⟩
    | none =>
      rw [hp] at h
      have h255 := (advanceKey_none p).mp hp
      by_cases hx : x = 255
      · simp [hx] at h
      · simp only [hx, if_false, Option.some.injEq] at h
        subst h
        cases k with
        | nil => simp
        | cons y k =>
          rw [List.isPrefixOf_cons_cons, List.cons_le_cons_iff, List.cons_lt_cons_iff, Bool.and_eq_true,
            isPrefixOf_iff_le_of_all255 p h255 k, u8_lt_succ_iff hx]
          simp only [beq_iff_eq]
          constructor
          · rintro ⟨rfl, h1⟩; exact ⟨.inr ⟨rfl, h1⟩, .inl (.inr rfl)⟩
          · rintro ⟨h1 | ⟨rfl, h1⟩, (h2 | h2) | ⟨_, h2⟩⟩
            · exact absurd h2 (UInt8.lt_asymm h1)
            · exact absurd h2.symm (UInt8.ne_of_lt h1)
            · exact absurd h2 (List.not_lt_nil _)
            · exact absurd h2 (UInt8.lt_asymm h2)
            · exact ⟨rfl, h1⟩
            · exact absurd h2 (List.not_lt_nil _)

theorem not_isPrefixOf_of_advanceKey_le {p s k : Bytes} (h : advanceKey p = some s) (hk : s ≤ k) :
    p.isPrefixOf k = false := by
  cases hpk : p.isPrefixOf k with
  | false => rfl
  | true => exact absurd ((advanceKey_spec p s h k).mp hpk).2 (fun h' => hk h')

theorem le_of_isPrefixOf {p k : Bytes} (h : p.isPrefixOf k = true) : p ≤ k := by
  cases hp : advanceKey p with
  | some s => exact ((advanceKey_spec p s hp k).mp h).1
  | none => exact (isPrefixOf_iff_le_of_all255 p ((advanceKey_none p).mp hp) k).mp h

end Grenad

namespace Grenad.IterP

theorem filter_eq_takeWhile_of_all {α} (Q P : α → Bool) (l : List α)
    (hQ : ∀ x ∈ l, Q x = true) (hP : l.Pairwise (fun a b => P b = true → P a = true)) :
    l.filter (fun x => Q x && P x) = l.takeWhile P := by
  induction l with
  | nil => rfl
  | cons a t ih =>
    have hQa := hQ a List.mem_cons_self
    have hQt : ∀ x ∈ t, Q x = true := fun x hx => hQ x (List.mem_cons_of_mem _ hx)
    rw [List.pairwise_cons] at hP
    by_cases hPa : P a = true
    · rw [List.filter_cons_of_pos (by simp [hQa, hPa]), List.takeWhile_cons_of_pos hPa,
        ih hQt hP.2]
    · rw [List.takeWhile_cons_of_neg hPa, List.filter_eq_nil_iff]
      intro b hb
      rcases List.mem_cons.mp hb with rfl | hb
      · simp [hPa]
      · have : ¬ P b = true := fun h => hPa (hP.1 b hb h)
        simp [this]

/-- Over a list along which `Q` is upward closed and `P` is downward closed (where `Q` holds),
    filtering by `Q ∧ P` is: skip while `¬Q`, then take while `P`. -/
theorem filter_eq_takeWhile_dropWhile {α} (Q P : α → Bool) (l : List α)
    (hQ : l.Pairwise (fun a b => Q a = true → Q b = true))
    (hP : l.Pairwise (fun a b => Q a = true → P b = true → P a = true)) :
    l.filter (fun x => Q x && P x) = (l.dropWhile (fun x => !Q x)).takeWhile P := by
  induction l with
  | nil => rfl
  | cons a t ih =>
    rw [List.pairwise_cons] at hQ hP
    by_cases hQa : Q a = true
    · rw [List.dropWhile_cons_of_neg (by simp [hQa])]
      have hall : ∀ x ∈ a :: t, Q x = true := by
        intro x hx
        rcases List.mem_cons.mp hx with rfl | hx
        · exact hQa
        · exact hQ.1 x hx hQa
      apply filter_eq_takeWhile_of_all Q P (a :: t) hall
      rw [List.pairwise_cons]
      refine ⟨fun b hb => hP.1 b hb hQa, ?_⟩
      exact hP.2.imp_of_mem (fun {x y} hx _ h => h (hall x (List.mem_cons_of_mem _ hx)))
    · rw [List.dropWhile_cons_of_pos (by simp [hQa]), List.filter_cons_of_neg (by simp [hQa])]
      exact ih hQ.2 hP.2

theorem dropWhile_eq_drop_length_takeWhile {α} (f : α → Bool) (l : List α) :
    l.dropWhile f = l.drop (l.takeWhile f).length := by
  induction l with
  | nil => rfl
  | cons a t ih =>
    by_cases h : f a = true
    · rw [List.dropWhile_cons_of_pos h, List.takeWhile_cons_of_pos h]; simpa using ih
    · rw [List.dropWhile_cons_of_neg h, List.takeWhile_cons_of_neg h]; rfl

theorem take_length_takeWhile {α} (f : α → Bool) (l : List α) :
    l.take (l.takeWhile f).length = l.takeWhile f := by
  induction l with
  | nil => rfl
  | cons a t ih =>
    by_cases h : f a = true
    · rw [List.takeWhile_cons_of_pos h]; simpa using ih
    · rw [List.takeWhile_cons_of_neg h]; rfl

theorem dropWhile_eq_self_of_head {α} (f : α → Bool) (l : List α) (h : ∀ x ∈ l, f x = false) :
    l.dropWhile f = l := by
  cases l with
  | nil => rfl
  | cons a t => rw [List.dropWhile_cons_of_neg (by simp [h a List.mem_cons_self])]

/-- Along a list where `Q` is downward closed, skipping the non-`Q` elements of the reversed list
    leaves the reversed `Q`-prefix. -/
theorem reverse_dropWhile_not_of_closed {α} (Q : α → Bool) (l : List α)
    (hQ : l.Pairwise (fun a b => Q b = true → Q a = true)) :
    l.reverse.dropWhile (fun x => !Q x) = (l.take (l.takeWhile Q).length).reverse := by
  rw [take_length_takeWhile]
  conv => lhs; rw [← List.takeWhile_append_dropWhile (p := Q) (l := l)]
  rw [List.reverse_append, List.dropWhile_append_of_pos]
  · apply dropWhile_eq_self_of_head
    intro x hx
    have := TCursor.mem_takeWhile_imp (List.mem_reverse.mp hx)
    simp [this]
  · intro x hx
    have := TCursor.all_false_dropWhile_of_closed Q l hQ x (List.mem_reverse.mp hx)
    simp [this]

theorem getElem_takeWhile_length_lt {α} (f : α → Bool) (l : List α) (i : Nat)
    (hi : i < (l.takeWhile f).length) :
    ∃ h : i < l.length, f l[i] = true := by
  induction l generalizing i with
  | nil => simp at hi
  | cons a t ih =>
    by_cases h : f a = true
    · rw [List.takeWhile_cons_of_pos h] at hi
      cases i with
      | zero => exact ⟨by simp, by simpa using h⟩
      | succ i =>
        obtain ⟨h1, h2⟩ := ih i (by simpa using hi)
        exact ⟨by simpa using h1, by simpa using h2⟩
    · rw [List.takeWhile_cons_of_neg h] at hi; simp at hi

theorem getElem_length_takeWhile {α} (f : α → Bool) (l : List α)
    (h : (l.takeWhile f).length < l.length) : f l[(l.takeWhile f).length] = false := by
  induction l with
  | nil => simp at h
  | cons a t ih =>
    by_cases hf : f a = true
    · simp only [List.takeWhile_cons_of_pos hf, List.length_cons, List.getElem_cons_succ]
      exact ih (by simpa [List.takeWhile_cons_of_pos hf] using h)
    · simp only [List.takeWhile_cons_of_neg hf, List.length_nil, List.getElem_cons_zero]
      simpa using hf

theorem length_takeWhile_le {α} (f : α → Bool) (l : List α) : (l.takeWhile f).length ≤ l.length :=
  (List.takeWhile_sublist f).length_le

end Grenad.IterP
