/-
  Grenad.Proofs.MetaIOProofs — the open through a scheduled source (`Grenad.Model.MetaIO`):
  complete characterisation of `Meta.parseIOL` under an arbitrary read schedule.  The reads that
  follow the magic are the same for both versions but for the trailer size and the final
  index-depth byte: `recIO` is that common part, `Meta.body` (`Proofs/MetaProofs`) its pure mirror.
-/
import Grenad.Model.MetaIO
import Grenad.Proofs.IOProofs
import Grenad.Proofs.MetaProofs

namespace Grenad.MetaIO

open IOM Meta

theorem rd_step {b : Bytes} {n pos : Nat} {sch : List RResp} {out : Bytes} {pos' : Nat}
    {rest : List RResp} {err : Option Nat}
    (hr : readExact b n pos [] sch = (out, pos', rest, err)) (hlen : pos + n ≤ b.length) :
    (err = none ∧ out = (b.drop pos).take n ∧ pos' = pos + n ∧ Consumed .fail sch rest none) ∨
    (∃ t, err = some t ∧ Consumed .fail sch rest (some t)) := by
  obtain ⟨got, hp, ho, hc⟩ := readExact_char b sch n pos [] _ _ _ _ hr
  rcases hc with ⟨e, rfl, -, hs⟩ | ⟨-, h1, -⟩ | ⟨t, e, -, -, hs⟩
  · exact .inl ⟨e, ho, hp, hs⟩
  · omega
  · exact .inr ⟨t, e, hs⟩

/-- Outcome of an open that should return `pure` when no read fails: it does, having met no
    fault; or it met a fault, reports its tag and returns `Err(Io)`. -/
def OpenOutcome (sch rest : List RResp) (res pure : Except OpenErr Meta.Meta) (err : Option Nat) :
    Prop :=
  (err = none ∧ res = pure ∧ Consumed .fail sch rest none) ∨
  (∃ t, err = some t ∧ res = .error .io ∧ Consumed .fail sch rest (some t))

theorem OpenOutcome.after {sch mid rest : List RResp} {res pure : Except OpenErr Meta.Meta}
    {err : Option Nat} (h₁ : Consumed .fail sch mid none) (h : OpenOutcome mid rest res pure err) :
    OpenOutcome sch rest res pure err := by
  rcases h with ⟨e, hr, hs⟩ | ⟨t, e, hr, hs⟩
  · exact .inl ⟨e, hr, h₁.trans hs⟩
  · exact .inr ⟨t, e, hr, h₁.trans hs⟩

theorem take1_getD (l : Bytes) {p j i : Nat} (h : p = j + i) :
    ((l.drop p).take 1).getD 0 0 = (l.drop j).getD i 0 := by
  subst h
  simp [List.getD_eq_getElem?_getD, List.getElem?_drop]

theorem take_drop_tail {α} (l : List α) (k : Nat) :
    (l.drop (l.length - k)).take k = l.drop (l.length - k) := by
  apply List.take_of_length_le
  simp only [List.length_drop]; omega

theorem openIO_le (b : Bytes) : (openIO b).2.1 ≤ 22 := by
  unfold openIO; simp only; repeat' split
  all_goals simp

/-- `read_from` after the magic, for a trailer of `k` bytes, with (`lv`) or without the final
    `read_u8` of the index depth; `l1` is the read log so far. -/
def recIO (b : Bytes) (k : Nat) (lv : Bool) (sch : List RResp) (l1 : List (Nat × Nat)) : OpenRes :=
  let n := b.length
  if k > n then (.error .io, sch, none, l1) else
  match readExact b 8 (n - k) [] sch with
  | (_, _, sch, some t) => (.error .io, sch, some t, l1 ++ [(n - k, 8)])
  | (rootB, pos, sch, none) =>
    match readExact b 1 pos [] sch with
    | (_, _, sch, some t) => (.error .io, sch, some t, l1 ++ [(n - k, 8), (pos, 1)])
    | (codecB, pos', sch, none) =>
      let codec := (codecB.getD 0 0).toNat
      if codec > 5 then (.error .badCodec, sch, none, l1 ++ [(n - k, 8), (pos, 1)]) else
      match readExact b 8 pos' [] sch with
      | (_, _, sch, some t) => (.error .io, sch, some t, l1 ++ [(n - k, 8), (pos, 1), (pos', 8)])
      | (countB, pos'', sch, none) =>
        if lv then
          match readExact b 1 pos'' [] sch with
          | (_, _, sch, some t) =>
            (.error .io, sch, some t, l1 ++ [(n - k, 8), (pos, 1), (pos', 8), (pos'', 1)])
          | (levelsB, _, sch, none) =>
            (.ok { version := 2, root := leVal rootB, codec := codec, count := leVal countB,
                   levels := (levelsB.getD 0 0).toNat }, sch, none,
             l1 ++ [(n - k, 8), (pos, 1), (pos', 8), (pos'', 1)])
        else
          (.ok { version := 1, root := leVal rootB, codec := codec, count := leVal countB,
                 levels := 0 }, sch, none, l1 ++ [(n - k, 8), (pos, 1), (pos', 8)])

theorem parseIOL_eq (b : Bytes) (sch : List RResp) : parseIOL b sch =
    if 4 > b.length then (.error .io, sch, none, []) else
    match readExact b 4 (b.length - 4) [] sch with
    | (_, _, sch, some t) => (.error .io, sch, some t, [(b.length - 4, 4)])
    | (mg, _, sch, none) =>
      if leVal mg = magicV1 then recIO b 21 false sch [(b.length - 4, 4)]
      else if leVal mg = magicV2 then recIO b 22 true sch [(b.length - 4, 4)]
      else (.error .badMagic, sch, none, [(b.length - 4, 4)]) := rfl

/-- The reads `recIO` issues when none fails and the codec id is valid. -/
def recReads (b : Bytes) (k : Nat) (lv : Bool) : List (Nat × Nat) :=
  if k > b.length then [] else
  [(b.length - k, 8), (b.length - k + 8, 1), (b.length - k + 8 + 1, 8)] ++
    if lv then [(b.length - k + 8 + 1 + 8, 1)] else []

theorem recIO_char (b : Bytes) (k : Nat) (lv : Bool) (hk : 17 + lv.toNat ≤ k) (sch : List RResp)
    (l1 : List (Nat × Nat)) (res : Except OpenErr Meta.Meta) (rest : List RResp)
    (err : Option Nat) (log : List (Nat × Nat)) (h : recIO b k lv sch l1 = (res, rest, err, log)) :
    OpenOutcome sch rest res
      (body (if lv then 2 else 1) k b
        (if lv then ((b.drop (b.length - k)).getD 17 0).toNat else 0)) err ∧
    log <+: l1 ++ recReads b k lv := by
  have pre : ∀ {x y : List (Nat × Nat)}, x <+: y → l1 ++ x <+: l1 ++ y :=
    fun h => (List.prefix_append_right_inj l1).mpr h
  unfold recIO at h
  unfold body recReads
  simp only at h
  by_cases hn : k > b.length
  · rw [if_pos hn] at h; cases h
    rw [if_pos hn, if_pos hn]
    exact ⟨.inl ⟨rfl, rfl, .refl _⟩, List.prefix_append _ _⟩
  rw [if_neg hn] at h
  rw [if_neg hn, if_neg hn]
  -- the first three reads stay inside the data
  have hin : b.length - k + 8 + 1 ≤ b.length ∧ b.length - k + 8 + 1 + 8 ≤ b.length := by omega
  rcases h1 : readExact b 8 (b.length - k) [] sch with ⟨rootB, p1, s1, e1⟩
  rw [h1] at h
  rcases rd_step h1 (Nat.le_of_lt hin.1) with ⟨rfl, rfl, rfl, c1⟩ | ⟨t, rfl, c1⟩
  case inr => cases h; exact ⟨.inr ⟨t, rfl, rfl, c1⟩, pre ⟨_, rfl⟩⟩
  simp only at h
  rcases h2 : readExact b 1 (b.length - k + 8) [] s1 with ⟨codecB, p2, s2, e2⟩
  rw [h2] at h
  rcases rd_step h2 hin.1 with ⟨rfl, rfl, rfl, c2⟩ | ⟨t, rfl, c2⟩
  case inr => cases h; exact ⟨.inr ⟨t, rfl, rfl, c1.trans c2⟩, pre ⟨_, rfl⟩⟩
  simp only [take1_getD b rfl] at h
  by_cases hc : ((b.drop (b.length - k)).getD 8 0).toNat > 5
  · rw [if_pos hc] at h; cases h
    rw [if_pos hc]
    exact ⟨.inl ⟨rfl, rfl, c1.trans c2⟩, pre ⟨_, rfl⟩⟩
  rw [if_neg hc] at h
  rw [if_neg hc]
  rcases h3 : readExact b 8 (b.length - k + 8 + 1) [] s2 with ⟨countB, p3, s3, e3⟩
  rw [h3] at h
  rcases rd_step h3 hin.2 with ⟨rfl, rfl, rfl, c3⟩ | ⟨t, rfl, c3⟩
  case inr => cases h; exact ⟨.inr ⟨t, rfl, rfl, (c1.trans c2).trans c3⟩, pre ⟨_, rfl⟩⟩
  simp only at h
  have hcount : (b.drop (b.length - k + 8 + 1)).take 8 = ((b.drop (b.length - k)).drop 9).take 8 := by
    rw [List.drop_drop, Nat.add_assoc]
  cases lv with
  | false =>
    simp only [Bool.false_eq_true, if_false] at h ⊢
    cases h
    refine ⟨.inl ⟨rfl, ?_, (c1.trans c2).trans c3⟩, pre ⟨_, rfl⟩⟩
    rw [recOf, hcount]
  | true =>
    simp only [if_true] at h ⊢
    rcases h4 : readExact b 1 (b.length - k + 8 + 1 + 8) [] s3 with ⟨levelsB, p4, s4, e4⟩
    rw [h4] at h
    have hin4 : b.length - k + 8 + 1 + 8 + 1 ≤ b.length ∧
        b.length - k + 8 + 1 + 8 = b.length - k + 17 := by
      have hk' : 18 ≤ k := hk
      omega
    rcases rd_step h4 hin4.1 with ⟨rfl, rfl, rfl, c4⟩ | ⟨t, rfl, c4⟩
    case inr =>
      cases h
      exact ⟨.inr ⟨t, rfl, rfl, ((c1.trans c2).trans c3).trans c4⟩, pre (List.prefix_refl _)⟩
    cases h
    refine ⟨.inl ⟨rfl, ?_, ((c1.trans c2).trans c3).trans c4⟩, pre (List.prefix_refl _)⟩
    rw [recOf, hcount, take1_getD b (j := b.length - k) (i := 17) hin4.2]

/-- The `read_exact` calls of an open on which no read fails and the codec id is valid. -/
def readsOf (b : Bytes) : List (Nat × Nat) :=
  if 4 > b.length then [] else
  (b.length - 4, 4) ::
    if leVal (b.drop (b.length - 4)) = magicV1 then recReads b 21 false
    else if leVal (b.drop (b.length - 4)) = magicV2 then recReads b 22 true
    else []

theorem readsOf_bounds (b : Bytes) :
    (∀ p ∈ readsOf b, b.length - 22 ≤ p.1 ∧ p.1 + p.2 ≤ b.length) ∧
    ((readsOf b).map Prod.snd).sum = (openIO b).2.1 := by
  have hne : magicV2 ≠ magicV1 := by decide
  unfold readsOf recReads openIO
  by_cases h4 : 4 > b.length
  · simp [h4]
  · simp only [h4, if_false]
    by_cases h1 : leVal (b.drop (b.length - 4)) = magicV1
    · by_cases h21 : 21 > b.length
      · simp [h1, h21]; omega
      · simp [h1, h21]; omega
    · by_cases h2 : leVal (b.drop (b.length - 4)) = magicV2
      · by_cases h22 : 22 > b.length
        · simp [h2, hne, h22]; omega
        · simp [h2, hne, h22]; omega
      · simp [h1, h2]; omega

theorem parseIOL_char (b : Bytes) (sch : List RResp) (res : Except OpenErr Meta.Meta)
    (rest : List RResp) (err : Option Nat) (log : List (Nat × Nat))
    (h : parseIOL b sch = (res, rest, err, log)) :
    OpenOutcome sch rest res (parse b) err ∧ log <+: readsOf b := by
  rw [parseIOL_eq] at h
  rw [parse_eq]
  unfold readsOf
  by_cases h4 : 4 > b.length
  · rw [if_pos h4] at h; cases h
    rw [if_pos h4, if_pos h4]
    exact ⟨.inl ⟨rfl, rfl, .refl _⟩, List.prefix_refl _⟩
  rw [if_neg h4] at h
  rw [if_neg h4, if_neg h4]
  rcases h1 : readExact b 4 (b.length - 4) [] sch with ⟨mg, p1, s1, e1⟩
  rw [h1] at h
  rcases rd_step h1 (Nat.le_of_eq (Nat.sub_add_cancel (Nat.le_of_not_lt h4))) with
    ⟨rfl, rfl, -, c1⟩ | ⟨t, rfl, c1⟩
  case inr => cases h; exact ⟨.inr ⟨t, rfl, rfl, c1⟩, ⟨_, rfl⟩⟩
  simp only [take_drop_tail b 4] at h
  have cons : ∀ {x y : List (Nat × Nat)}, x <+: [(b.length - 4, 4)] ++ y →
      x <+: (b.length - 4, 4) :: y := fun h => h
  by_cases hm1 : leVal (b.drop (b.length - 4)) = magicV1
  · rw [if_pos hm1] at h
    rw [if_pos hm1, if_pos hm1]
    obtain ⟨ho, hl⟩ := recIO_char b 21 false (by decide) _ _ _ _ _ _ h
    exact ⟨ho.after c1, cons hl⟩
  rw [if_neg hm1] at h
  rw [if_neg hm1, if_neg hm1]
  by_cases hm2 : leVal (b.drop (b.length - 4)) = magicV2
  · rw [if_pos hm2] at h
    rw [if_pos hm2, if_pos hm2]
    obtain ⟨ho, hl⟩ := recIO_char b 22 true (by decide) _ _ _ _ _ _ h
    exact ⟨ho.after c1, cons hl⟩
  · rw [if_neg hm2] at h; cases h
    rw [if_neg hm2, if_neg hm2]
    exact ⟨.inl ⟨rfl, rfl, c1⟩, List.prefix_refl _⟩

theorem parseIO_char (b : Bytes) (sch : List RResp) :
    OpenOutcome sch (parseIO b sch).2.1 (parseIO b sch).1 (parse b) (parseIO b sch).2.2 :=
  (parseIOL_char b sch _ _ _ _ rfl).1

theorem parseIO_ff {sch : List RResp} (hff : RFaultFree sch) (b : Bytes) :
    (parseIO b sch).1 = parse b ∧ (parseIO b sch).2.2 = none ∧ RFaultFree (parseIO b sch).2.1 := by
  rcases parseIO_char b sch with ⟨e, hr, hs⟩ | ⟨t, -, -, hs⟩
  · exact ⟨hr, e, (hs.of_noFail hff).2⟩
  · exact nomatch (hs.of_noFail hff).1

theorem parseIOReads_bounds (b : Bytes) (sch : List RResp) :
    (∀ p ∈ parseIOReads b sch, b.length - 22 ≤ p.1 ∧ p.1 + p.2 ≤ b.length) ∧
    ((parseIOReads b sch).map Prod.snd).sum ≤ 22 ∧
    ((parseIOReads b sch).map Prod.snd).sum ≤ (openIO b).2.1 := by
  obtain ⟨more, hmore⟩ : parseIOReads b sch <+: readsOf b := (parseIOL_char b sch _ _ _ _ rfl).2
  obtain ⟨hin, hsum⟩ := readsOf_bounds b
  have hle : ((parseIOReads b sch).map Prod.snd).sum ≤ (openIO b).2.1 := by
    rw [← hsum, ← hmore, List.map_append, List.sum_append]
    exact Nat.le_add_right _ _
  exact ⟨fun p hp => hin p (hmore ▸ List.mem_append_left _ hp),
    Nat.le_trans hle (openIO_le b), hle⟩

end Grenad.MetaIO
