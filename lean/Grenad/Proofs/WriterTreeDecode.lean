/-
  T-writer (C09, specification decoder): a small recursive-descent decoder that shares
  nothing with the cursor model (trailer parse, `loadBlock`, a plain `Block.entryAt` walk), and
  that it follows a `Sub` tree (`descend_sub`); `C09_spec_decoder` concludes from there.

  The per-block fact "walking the parsed bytes of a finished block writer yields its items" is an
  explicit hypothesis here (`BlocksDecode`); `WriterTreeDecodeTB.lean` discharges it from T-block.
-/
import Grenad.Proofs.WriterTree

namespace Grenad

open WT

namespace SpecDecode

/-- Plain walk over the frames of a block, from byte offset `off`. -/
def walk (b : Block) : Nat → Nat → List Entry
  | 0, _ => []
  | fuel + 1, off =>
    match b.entryAt off with
    | some (k, v, next) => (k, v) :: walk b fuel next
    | none => []

def blockEntries (cd : Codec) (file : Bytes) (off : Nat) : Option (List Entry) :=
  (loadBlock cd file off).map (fun b => walk b (b.payload.length + 1) 0)

/-- Descend `d` index levels below the block at `off` and concatenate the data blocks reached. -/
def descend (cd : Codec) (file : Bytes) : Nat → Nat → Option (List Entry)
  | 0, off => blockEntries cd file off
  | d + 1, off =>
    match blockEntries cd file off with
    | none => none
    | some items => (items.mapM (fun e => descend cd file d (beVal e.2))).map List.flatten

/-- All entries of a file: parse the trailer, then descend `levels + 1` times from the root. -/
def entries (cd : Codec) (file : Bytes) : Option (List Entry) :=
  match Meta.parse file with
  | .ok m => descend cd file (m.levels + 1) m.root
  | .error _ => none

end SpecDecode

theorem WT.mapM_option_eq {α β : Type} (f : α → Option β) (g : α → β) (l : List α)
    (h : ∀ x ∈ l, f x = some (g x)) : l.mapM f = some (l.map g) := by
  induction l with
  | nil => rfl
  | cons a l ih =>
    rw [List.mapM_cons, h a (by simp), ih (fun x hx => h x (by simp [hx]))]
    rfl

theorem SpecDecode.descend_sub {cd : Codec} {file : Bytes} {s : Store} {lvl : Nat → Nat}
    (hread : ∀ off items, s off = some items → SpecDecode.blockEntries cd file off = some items)
    (hoff : ∀ off items, s off = some items → off < 2 ^ 64)
    {d off : Nat} {flat : List Entry} (h : Sub s lvl d off flat) :
    SpecDecode.descend cd file d off = some flat := by
  induction h with
  | leaf off es h1 _ _ =>
    unfold SpecDecode.descend
    exact hread off es h1
  | node d off kids _ h2 _ hk ih =>
    unfold SpecDecode.descend
    rw [hread off _ h2]
    simp only
    have hm : (kids.map (fun k => (lastKey k.2, be64 k.1))).mapM
        (fun e => SpecDecode.descend cd file d (beVal e.2)) = some (kids.map (·.2)) := by
      rw [List.mapM_map]
      apply WT.mapM_option_eq
      intro k hk'
      obtain ⟨items, hi⟩ := TCursor.Sub.stored (hk k hk')
      simp only [Function.comp]
      rw [beVal_be64 (hoff _ _ hi)]
      exact ih k hk'
    rw [hm]
    simp [List.flatMap_def]

/-- Per-block hypothesis: the parsed bytes of every emitted block walk back to its items. -/
def BlocksDecode (log : List Emitted) : Prop :=
  ∀ e ∈ log, ∃ b, Block.parse e.raw = some b ∧
    SpecDecode.walk b (b.payload.length + 1) 0 = e.items

end Grenad
