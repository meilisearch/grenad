/-
  The three scan loops of the in-block cursor are one scan with a stop predicate (`scanGen_spec`); what
  the offset table of a written block holds.
-/
import Grenad.Proofs.TBlock2

set_option linter.unusedSimpArgs false

namespace Grenad

theorem takeWhile_length_eq {α : Type} (p : α → Bool) (l : List α) (t : Nat) (ht : t ≤ l.length)
    (h1 : ∀ m (_ : m < t) (h' : m < l.length), p l[m] = true)
    (h2 : ∀ h : t < l.length, p l[t] = false) : (l.takeWhile p).length = t := by
  obtain ⟨s0, s1, s2⟩ := takeWhile_spec p l
  rcases Nat.lt_trichotomy (l.takeWhile p).length t with h | h | h
  · have a := s2 (by omega)
    have b := h1 _ h (by omega)
    rw [a] at b; cases b
  · exact h
  · have a := s1 t h (by omega)
    have b := h2 (by omega)
    rw [a] at b; cases b

theorem asc_get {es : List Entry} (h : StrictAsc es) {i j : Nat} (hij : i < j) (hj : j < es.length) :
    (es[i]'(by omega)).1 < es[j].1 := by
  have := List.pairwise_iff_getElem.mp h i j (by omega) hj hij
  exact this

theorem asc_get_le {es : List Entry} (h : StrictAsc es) {i j : Nat} (hij : i ≤ j) (hj : j < es.length) :
    (es[i]'(by omega)).1 ≤ es[j].1 := by
  rcases Nat.lt_or_ge i j with h' | h'
  · exact Std.le_of_lt (asc_get h h' hj)
  · have : i = j := by omega
    subst this; exact Std.le_refl _

namespace SrcTie

/-- the scans of the model as one: walk from `off`, stop before the first entry whose key satisfies `stop` -/
def scanGen (b : Grenad.Block) (stop : Bytes → Bool) : Nat → Nat → Option Nat → Option Nat
  | 0, _, acc => acc
  | fuel + 1, off, acc =>
    match b.entryAt off with
    | some (k, _, next) => if stop k then acc else scanGen b stop fuel next (some off)
    | none => acc

end SrcTie

open SrcTie (scanGen)

/-- `scanLast` never stops early. -/
theorem scanLast_eq (b : Block) : ∀ f off acc,
    BlockCursor.scanLast b f off acc = scanGen b (fun _ => false) f off acc := by
  intro f
  induction f with
  | zero => intros; rfl
  | succ f ih =>
    intro off acc
    simp only [BlockCursor.scanLast, scanGen]
    cases b.entryAt off with
    | none => rfl
    | some e => obtain ⟨k, v, n⟩ := e; simp only [ih, Bool.false_eq_true, if_false]

theorem scanPrev_eq (b : Block) (curKey : Bytes) : ∀ f off acc,
    BlockCursor.scanPrev b curKey f off acc = scanGen b (fun k => decide (curKey = k)) f off acc := by
  intro f
  induction f with
  | zero => intros; rfl
  | succ f ih =>
    intro off acc
    simp only [BlockCursor.scanPrev, scanGen]
    cases b.entryAt off with
    | none => rfl
    | some e => obtain ⟨k, v, n⟩ := e; simp only [ih, decide_eq_true_eq]

theorem scanLe_eq (b : Block) (key : Bytes) : ∀ f off acc,
    BlockCursor.scanLe b key f off acc = scanGen b (fun k => decide (key < k)) f off acc := by
  intro f
  induction f with
  | zero => intros; rfl
  | succ f ih =>
    intro off acc
    simp only [BlockCursor.scanLe, scanGen]
    cases b.entryAt off with
    | none => rfl
    | some e => obtain ⟨k, v, n⟩ := e; simp only [ih, decide_eq_true_eq]

section Scan

variable {es : List Entry} {b : Block}

/-- A scan started at entry `s` with enough fuel ends on the entry before `ub`, the first index
    from `s` on whose key stops it (`ub = es.length` if none does); it leaves `acc` if `s = ub`. -/
theorem scanGen_spec (hp : b.payload = frames es)
    (hl : ∀ e ∈ es, e.1.length < 2^32 ∧ e.2.length < 2^32) (stop : Bytes → Bool) {ub : Nat}
    (hub : ub ≤ es.length)
    (h1 : ∀ m (_ : m < ub) (h' : m < es.length), stop es[m].1 = false)
    (h2 : ∀ h : ub < es.length, stop es[ub].1 = true) :
    ∀ (fuel s : Nat) (acc : Option Nat), s ≤ ub → ub - s < fuel →
      scanGen b stop fuel (offAt es s) acc = if s < ub then some (offAt es (ub - 1)) else acc := by
  intro fuel
  induction fuel with
  | zero => intro s acc _ h; omega
  | succ fuel ih =>
    intro s acc hs hf
    rcases Nat.lt_or_ge s ub with h | h
    · simp only [scanGen, entryAt_offAt hp hl (show s < es.length by omega), h1 s h (by omega),
        Bool.false_eq_true, if_false, h, if_true]
      rw [ih (s + 1) _ (by omega) (by omega)]
      by_cases h' : s + 1 < ub
      · simp [h']
      · have : s = ub - 1 := by omega
        simp [h', this]
    · have : s = ub := by omega
      subst this
      rcases Nat.lt_or_ge s es.length with h' | h'
      · simp [scanGen, entryAt_offAt hp hl h', h2 h']
      · have : s = es.length := by omega
        subst this
        simp [scanGen, entryAt_offAt_end hp]

end Scan

section Table

variable {iv : Nat} {es : List Entry} {b : Block}

theorem BlockOf.offs_length (hb : BlockOf iv es b) :
    b.offsets.length = (es.length - 1) / iv + 1 := by
  simp [hb.offsets, offsetTable]

theorem BlockOf.offs_get? (hb : BlockOf iv es b) {m : Nat} (h : m < b.offsets.length) :
    b.offsets[m]? = some (offAt es (m * iv)) := by
  have h' : m < (es.length - 1) / iv + 1 := by rw [← hb.offs_length]; exact h
  rw [hb.offsets, offsetTable]
  simp [h']

theorem BlockOf.offs_get (hb : BlockOf iv es b) {m : Nat} (h : m < b.offsets.length) :
    b.offsets[m] = offAt es (m * iv) := by
  have := hb.offs_get? h
  rw [List.getElem?_eq_getElem h] at this
  exact Option.some.inj this

theorem BlockOf.offs_idx (hb : BlockOf iv es b) {m : Nat} (h : m < b.offsets.length) :
    m * iv ≤ es.length - 1 := by
  rw [hb.offs_length] at h
  have h1 : m ≤ (es.length - 1) / iv := by omega
  have h2 := Nat.mul_le_mul_right iv h1
  have h3 := Nat.div_mul_le_self (es.length - 1) iv
  omega

theorem BlockOf.offs_pos (hb : BlockOf iv es b) : 0 < b.offsets.length := by
  rw [hb.offs_length]; exact Nat.succ_pos _

theorem BlockOf.offs_head? (hb : BlockOf iv es b) : b.offsets.head? = some 0 := by
  rw [List.head?_eq_getElem?, hb.offs_get? hb.offs_pos]; simp

theorem BlockOf.offs_getLast? (hb : BlockOf iv es b) :
    ∃ s, b.offsets.getLast? = some (offAt es s) ∧ s ≤ es.length - 1 := by
  refine ⟨(b.offsets.length - 1) * iv, ?_, hb.offs_idx (by have := hb.offs_pos; omega)⟩
  rw [List.getLast?_eq_getElem?, hb.offs_get? (by have := hb.offs_pos; omega)]

theorem BlockOf.payload_length (hb : BlockOf iv es b) : b.payload.length = offAt es es.length := by
  rw [hb.payload, offAt_length]

theorem BlockOf.fuel (hb : BlockOf iv es b) : es.length < b.payload.length + 1 := by
  have := le_offAt es (Nat.le_refl es.length)
  rw [hb.payload_length]; omega

end Table

theorem lowerBound_eq {es : List Entry} {q : Bytes} {t : Nat} (ht : t ≤ es.length)
    (h1 : ∀ m (_ : m < t) (h' : m < es.length), es[m].1 < q)
    (h2 : ∀ h : t < es.length, ¬ es[t].1 < q) : Spec.lowerBound es q = t := by
  apply takeWhile_length_eq _ _ _ ht
  · intro m hm hm'; simpa using h1 m hm hm'
  · intro h; simpa using h2 h

theorem upperBound_eq {es : List Entry} {q : Bytes} {t : Nat} (ht : t ≤ es.length)
    (h1 : ∀ m (_ : m < t) (h' : m < es.length), es[m].1 ≤ q)
    (h2 : ∀ h : t < es.length, q < es[t].1) : Spec.upperBound es q = t := by
  apply takeWhile_length_eq _ _ _ ht
  · intro m hm hm'; simpa using h1 m hm hm'
  · intro h; simpa using h2 h

theorem upperBound_spec (es : List Entry) (q : Bytes) :
    Spec.upperBound es q ≤ es.length ∧
    (∀ m (_ : m < Spec.upperBound es q) (h' : m < es.length), es[m].1 ≤ q) ∧
    (∀ h : Spec.upperBound es q < es.length, q < es[Spec.upperBound es q].1) := by
  obtain ⟨s0, s1, s2⟩ := takeWhile_spec (fun e : Entry => decide (e.1 ≤ q)) es
  refine ⟨s0, ?_, ?_⟩
  · intro m hm hm'; simpa using s1 m hm hm'
  · intro h
    have := s2 h
    simp only [decide_eq_false_iff_not, List.not_le] at this
    exact this

end Grenad
