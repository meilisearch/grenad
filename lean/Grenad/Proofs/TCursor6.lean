/-
  T-cursor, part 6: the public relative moves `next` / `prev`: from a positioned state they move
  to the tree successor / predecessor; from any cache-sound state they stay cache-sound.
-/
import Grenad.Proofs.TCursor5

namespace Grenad.TCursor

open Grenad Spec

section
variable {s : Store} {lvl : Nat → Nat} {root levels : Nat} {es : List Entry}

theorem CScore.withCur {c : RC LC} (hc : CScore s lvl root levels c) {l : List (Nat × LC)}
    (hin : c.inner = some l) (b : LC) : CScore s lvl root levels (RC.withCur c b) :=
  ⟨hc.hbase, hc.hlevels, (by intro h; simp [RC.withCur, hin] at h), hc.inner⟩

theorem CScore.recur {c : RC LC} (hc : CScore s lvl root levels c) {l : List (Nat × LC)}
    (hin : c.inner = some l) {mov : Mov} {log log' : List Nat} {rev' : List (Nat × LC)}
    {r : Option Entry}
    (hr : RC.recurLevels LC.ops s.load true mov l.reverse log = some (rev', r, log'))
    (cur : Option LC) (log'' : List Nat) :
    CScore s lvl root levels { c with inner := some rev'.reverse, cur := cur, log := log'' } := by
  obtain ⟨hlen, hcs⟩ := hc.inner l hin
  obtain ⟨h1, h2⟩ := recurLevels_pres (lvl := lvl) mov l.reverse 1 log rev' r log' hr
  exact ⟨hc.hbase, hc.hlevels, (by intro h; cases h), (by
    intro l' hl'; cases hl'; exact ⟨by simp [h1, hlen], by simpa using h2 hcs⟩)⟩

/-- After the in-block move failed: whatever `recurIndex` and `enter` do, the state stays
    cache-sound. -/
theorem climb_pres {c : RC LC} (hc : CScore s lvl root levels c) {l : List (Nat × LC)}
    (hin : c.inner = some l) (mov : Mov) :
    CScore s lvl root levels (RC.climb LC.ops s.load true mov c).1 := by
  cases hr : RC.recurLevels LC.ops s.load true mov l.reverse c.log with
  | none =>
    rw [RC.climb_err (by rw [RC.recurIndex_some hin, hr]; rfl)]
    exact hc
  | some res =>
    obtain ⟨rev', r, log'⟩ := res
    have hi : RC.recurIndex LC.ops s.load true mov c =
        some ({ c with inner := some rev'.reverse, log := log' }, r) := by
      rw [RC.recurIndex_some hin, hr]; rfl
    cases r with
    | none => rw [RC.climb_none hi]; exact hc.recur hin hr c.cur log'
    | some e =>
      rw [RC.climb_some hi]
      cases hl : s.load (offOf e) with
      | none => rw [RC.enterWith_err hl]; exact hc.recur hin hr c.cur log'
      | some nb => rw [RC.enterWith_ok hl]; exact hc.recur hin hr (some _) (offOf e :: log')

/-- `next` / `prev` from any cache-sound state stay cache-sound. -/
theorem rel_pres (cx : Ctx s lvl (levels + 1) root es) {c : RC LC}
    (hc : CScore s lvl root levels c) {mov : Mov} (hm : AbsMov mov.enter)
    (ht : target mov.enter es < es.length) :
    CScore s lvl root levels (RC.rel LC.ops s.load true mov c).1 := by
  cases hcur : c.cur with
  | none =>
    obtain ⟨c', h1, h2, _⟩ := abs_finish cx hm false hc ht
    rw [RC.rel_none hcur, h1]; exact h2
  | some b =>
    cases hin : c.inner with
    | none => have := hc.cur_none hin; rw [hcur] at this; cases this
    | some l =>
      cases hm : (LC.ops.apply mov b).2 with
      | some e => rw [RC.rel_stay hcur hm]; exact hc.withCur hin _
      | none => rw [RC.rel_climb hcur hm]; exact climb_pres (hc.withCur hin _) hin mov

theorem next_at (cx : Ctx s lvl (levels + 1) root es) {c : RC LC}
    (hc : CScore s lvl root levels c) {i : Nat} (hp : PosInv s lvl root levels es c i) :
    ∃ c', RC.next LC.ops s.load true c = (c', .ok es[i + 1]?) ∧ CScore s lvl root levels c' ∧
      (i + 1 < es.length → PosInv s lvl root levels es c' (i + 1)) := by
  obtain ⟨l, b, off, fl, pre, post, i0, hin, hcur, hup, hbe, hbp, hi0, hi⟩ := hp
  have hsplit := hup.split
  have hnx : LC.ops.apply .next b = (⟨b.es, some (i0 + 1)⟩, b.es[i0 + 1]?) :=
    LC_next_some hbp (hbe ▸ hi0)
  by_cases hlt : i0 + 1 < fl.length
  · -- stay in the block
    have hget : b.es[i0 + 1]? = some fl[i0 + 1] := by
      rw [hbe]; exact List.getElem?_eq_getElem hlt
    have hes : es[i + 1]? = some fl[i0 + 1] := by
      rw [hsplit, hi, Nat.add_assoc, getElem?_mid pre fl post (i0 + 1) hlt]
      exact List.getElem?_eq_getElem hlt
    refine ⟨RC.withCur c ⟨b.es, some (i0 + 1)⟩, ?_, hc.withCur hin _, fun _ => ?_⟩
    · rw [RC.next_eq, RC.rel_stay hcur (by rw [hnx]; exact hget), hnx, hes]
    · exact ⟨l, _, off, fl, pre, post, i0 + 1, hin, rfl, hup, hbe, rfl, hlt, by omega⟩
  · -- leave the block
    have hget : b.es[i0 + 1]? = none := by
      rw [hbe]; exact List.getElem?_eq_none (by omega)
    have hin1 : (RC.withCur c ⟨b.es, some (i0 + 1)⟩).inner = some l := hin
    have hc1 := hc.withCur hin (⟨b.es, some (i0 + 1)⟩ : LC)
    have hstep : RC.next LC.ops s.load true c =
        RC.climb LC.ops s.load true .next (RC.withCur c ⟨b.es, some (i0 + 1)⟩) := by
      rw [RC.next_eq, RC.rel_climb hcur (by rw [hnx]; exact hget), hnx]
    obtain ⟨hr1, hr2⟩ := recur_next cx l.reverse 0 off fl pre post
      (RC.withCur c ⟨b.es, some (i0 + 1)⟩).log hup
    by_cases hpost : post = []
    · obtain ⟨rev', log', hr⟩ := hr2 hpost
      have hes : es[i + 1]? = none := by
        rw [hsplit, hpost]; apply List.getElem?_eq_none; simp; omega
      refine ⟨_, ?_, hc1.recur hin1 hr (some ⟨b.es, some (i0 + 1)⟩) log', fun h => ?_⟩
      · rw [hstep, RC.climb_none (by rw [RC.recurIndex_some hin1, hr]; rfl), hes]
        rfl
      · have := congrArg List.length hsplit
        simp [hpost] at this; omega
    · obtain ⟨rev', e, log', off', fl', post', hr, hp, hupn, hsubn, hoffn⟩ := hr1 hpost
      have hfl' : fl' ≠ [] := Sub.flat_ne hsubn
      have hes : es[i + 1]? = fl'[0]? := by
        rw [hsplit, hp, hi]
        have : pre.length + i0 + 1 = (pre ++ fl).length + 0 := by simp; omega
        rw [this, ← List.append_assoc, getElem?_mid (pre ++ fl) fl' post' 0 (List.length_pos_iff.2 hfl')]
      have hl : s.load (offOf e) = some (LC.ofList fl') := by
        rw [hoffn]; exact load_eq (Sub.inv_leaf hsubn)
      refine ⟨_, ?_, hc1.recur hin1 hr (some ⟨fl', some 0⟩) (offOf e :: log'), fun _ => ?_⟩
      · rw [hstep, RC.climb_some (by rw [RC.recurIndex_some hin1, hr]; rfl), RC.enterWith_ok hl, hes]
        rfl
      · refine ⟨rev'.reverse, ⟨fl', some 0⟩, off', fl', pre ++ fl, post', 0, rfl, rfl, ?_, rfl, rfl,
          List.length_pos_iff.2 hfl', ?_⟩
        · rw [List.reverse_reverse]; exact hupn
        · simp; omega

theorem prev_at (cx : Ctx s lvl (levels + 1) root es) {c : RC LC}
    (hc : CScore s lvl root levels c) {i : Nat} (hp : PosInv s lvl root levels es c i) :
    ∃ c', RC.prev LC.ops s.load true c = (c', .ok (if i = 0 then none else es[i - 1]?)) ∧
      CScore s lvl root levels c' ∧ (0 < i → PosInv s lvl root levels es c' (i - 1)) := by
  obtain ⟨l, b, off, fl, pre, post, i0, hin, hcur, hup, hbe, hbp, hi0, hi⟩ := hp
  have hsplit := hup.split
  by_cases hpos : 0 < i0
  · -- stay in the block
    have hnx : LC.ops.apply .prev b = (⟨b.es, some (i0 - 1)⟩, b.es[i0 - 1]?) :=
      LC_prev_some hbp hpos (hbe ▸ hi0)
    have hlt : i0 - 1 < fl.length := by omega
    have hget : b.es[i0 - 1]? = some fl[i0 - 1] := by
      rw [hbe]; exact List.getElem?_eq_getElem hlt
    have hes : es[i - 1]? = some fl[i0 - 1] := by
      have : i - 1 = pre.length + (i0 - 1) := by omega
      rw [hsplit, this, getElem?_mid pre fl post (i0 - 1) hlt]
      exact List.getElem?_eq_getElem hlt
    have hi' : ¬ i = 0 := by omega
    refine ⟨RC.withCur c ⟨b.es, some (i0 - 1)⟩, ?_, hc.withCur hin _, fun _ => ?_⟩
    · rw [RC.prev_eq, RC.rel_stay hcur (by rw [hnx]; exact hget), hnx, if_neg hi', hes]
    · exact ⟨l, _, off, fl, pre, post, i0 - 1, hin, rfl, hup, hbe, rfl, hlt, by omega⟩
  · -- leave the block
    have h0 : i0 = 0 := by omega
    subst h0
    have hnx : LC.ops.apply .prev b = (b, none) := LC_prev_zero hbp
    have hin1 : (RC.withCur c b).inner = some l := hin
    have hc1 := hc.withCur hin b
    have hstep : RC.prev LC.ops s.load true c =
        RC.climb LC.ops s.load true .prev (RC.withCur c b) := by
      rw [RC.prev_eq, RC.rel_climb hcur (by rw [hnx]), hnx]
    obtain ⟨hr1, hr2⟩ := recur_prev cx l.reverse 0 off fl pre post (RC.withCur c b).log hup
    by_cases hpre : pre = []
    · obtain ⟨rev', log', hr⟩ := hr2 hpre
      have hi' : i = 0 := by simp [hi, hpre]
      refine ⟨_, ?_, hc1.recur hin1 hr (some b) log', fun h => ?_⟩
      · rw [hstep, RC.climb_none (by rw [RC.recurIndex_some hin1, hr]; rfl), if_pos hi']
        rfl
      · omega
    · obtain ⟨rev', e, log', off', fl', pre', hr, hp, hupn, hsubn, hoffn⟩ := hr1 hpre
      have hfl' : fl' ≠ [] := Sub.flat_ne hsubn
      have hfl'pos : 0 < fl'.length := List.length_pos_iff.2 hfl'
      have hi' : ¬ i = 0 := by
        have := congrArg List.length hp; simp at this; omega
      have hes : es[i - 1]? = fl'[fl'.length - 1]? := by
        have : i - 1 = pre'.length + (fl'.length - 1) := by
          have := congrArg List.length hp; simp at this; omega
        rw [hsplit, hp, this, List.append_assoc (pre' ++ fl'), getElem?_mid pre' fl' (fl ++ post) _ (by omega)]
      have hl : s.load (offOf e) = some (LC.ofList fl') := by
        rw [hoffn]; exact load_eq (Sub.inv_leaf hsubn)
      have hlast : LC.ops.apply Mov.prev.enter (LC.ofList fl') =
          (⟨fl', some (fl'.length - 1)⟩, fl'[fl'.length - 1]?) :=
        apply_abs (mov := .last) trivial (LC.ofList fl') hfl'
      refine ⟨_, ?_, hc1.recur hin1 hr (some ⟨fl', some (fl'.length - 1)⟩) (offOf e :: log'),
        fun _ => ?_⟩
      · rw [hstep, RC.climb_some (by rw [RC.recurIndex_some hin1, hr]; rfl), RC.enterWith_ok hl,
          hlast, if_neg hi', hes]
        rfl
      · refine ⟨rev'.reverse, ⟨fl', some (fl'.length - 1)⟩, off', fl', pre', fl ++ post,
          fl'.length - 1, rfl, rfl, ?_, rfl, rfl, by omega, ?_⟩
        · rw [List.reverse_reverse]; exact hupn
        · have := congrArg List.length hp; simp at this; omega

end

end Grenad.TCursor
