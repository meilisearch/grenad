/-
  Grenad.Proofs.IOProofs — lemmas about the I/O layer (`Grenad.Model.IO`) used by C11 and C12:
  complete characterisations of `writeAll`, `writeMany`, `readExact`, `readToEndTake` and
  `loadBodyIO` under an arbitrary schedule, and their fault-free corollaries.
-/
import Grenad.Model.IO

namespace Grenad

open IOM

def WFaultFree (sch : List IOM.WResp) : Prop := ∀ r ∈ sch, ∀ t, r ≠ .fail t

def RFaultFree (sch : List IOM.RResp) : Prop := ∀ r ∈ sch, ∀ t, r ≠ .fail t

/-- No answer in `l` is a fault `f t`; `WFaultFree` and `RFaultFree` are `NoFail .fail` written out. -/
def NoFail {α : Type} (f : Nat → α) (l : List α) : Prop := ∀ r ∈ l, ∀ t, r ≠ f t

/-- A call that started on the schedule `sch` and left `rest` consumed a part without fault
    (`none`), or a part without fault followed by the fault `f t` (`some t`): a call stops at the
    first fault it meets. -/
def Consumed {α : Type} (f : Nat → α) (sch rest : List α) : Option Nat → Prop
  | none => ∃ used, NoFail f used ∧ sch = used ++ rest
  | some t => ∃ used, NoFail f used ∧ sch = used ++ f t :: rest

section Schedule
variable {α : Type} {f : Nat → α}

theorem NoFail.nil : NoFail f [] := fun _ h => nomatch h

theorem NoFail.cons_iff {r : α} {rs : List α} :
    NoFail f (r :: rs) ↔ (∀ t, r ≠ f t) ∧ NoFail f rs := by
  simp [NoFail]

theorem NoFail.append_iff {a b : List α} : NoFail f (a ++ b) ↔ NoFail f a ∧ NoFail f b := by
  simp only [NoFail, List.mem_append]
  exact ⟨fun h => ⟨fun r hr => h r (.inl hr), fun r hr => h r (.inr hr)⟩,
    fun h r hr => hr.elim (h.1 r) (h.2 r)⟩

theorem NoFail.not_mem {l : List α} (h : NoFail f l) (t : Nat) : f t ∉ l :=
  fun hm => h _ hm t rfl

theorem Consumed.refl (sch : List α) : Consumed f sch sch none := ⟨[], .nil, rfl⟩

theorem Consumed.fail (t : Nat) (rs : List α) : Consumed f (f t :: rs) rs (some t) :=
  ⟨[], .nil, rfl⟩

theorem Consumed.cons {r : α} (hr : ∀ t, r ≠ f t) {sch rest : List α} :
    ∀ {fault : Option Nat}, Consumed f sch rest fault → Consumed f (r :: sch) rest fault
  | none, ⟨used, hu, hs⟩ => ⟨r :: used, NoFail.cons_iff.mpr ⟨hr, hu⟩, by rw [hs]; rfl⟩
  | some _, ⟨used, hu, hs⟩ => ⟨r :: used, NoFail.cons_iff.mpr ⟨hr, hu⟩, by rw [hs]; rfl⟩

theorem Consumed.trans {sch mid rest : List α} (h₁ : Consumed f sch mid none) :
    ∀ {fault : Option Nat}, Consumed f mid rest fault → Consumed f sch rest fault
  | none, ⟨u₂, hu₂, hs₂⟩ =>
    let ⟨u₁, hu₁, hs₁⟩ := h₁
    ⟨u₁ ++ u₂, NoFail.append_iff.mpr ⟨hu₁, hu₂⟩, by rw [hs₁, hs₂, List.append_assoc]⟩
  | some _, ⟨u₂, hu₂, hs₂⟩ =>
    let ⟨u₁, hu₁, hs₁⟩ := h₁
    ⟨u₁ ++ u₂, NoFail.append_iff.mpr ⟨hu₁, hu₂⟩, by rw [hs₁, hs₂, List.append_assoc]⟩

theorem Consumed.of_noFail {sch rest : List α} (hff : NoFail f sch) :
    ∀ {fault : Option Nat}, Consumed f sch rest fault → fault = none ∧ NoFail f rest
  | none, ⟨_, _, hs⟩ => ⟨rfl, (NoFail.append_iff.mp (hs ▸ hff)).2⟩
  | some t, ⟨_, _, hs⟩ =>
    absurd (List.mem_append_right _ (List.mem_cons_self ..)) ((hs ▸ hff).not_mem t)

/-- A call that gets as far as the first fault of its schedule (leaves no more than what
    follows it) reports that fault and leaves exactly what follows it. -/
theorem Consumed.first_fault (hf : ∀ {t t'}, f t = f t' → t = t') {sch rest pre post : List α}
    {fault : Option Nat} {t : Nat} (h : Consumed f sch rest fault) (hpre : NoFail f pre)
    (hsch : sch = pre ++ f t :: post) (hlen : rest.length ≤ post.length) :
    fault = some t ∧ rest = post := by
  -- `used ++ tail = pre ++ f t :: post` with `used`, `pre` free of faults: if `tail` starts with
  -- a fault the two splits coincide; a `tail` without one would be longer than `post`
  have key : ∀ (used tail : List α), NoFail f used → used ++ tail = pre ++ f t :: post →
      (∃ x, tail = x ++ f t :: post) ∧ (∀ t' rest', tail = f t' :: rest' → t' = t ∧ rest' = post) := by
    intro used tail hu he
    rcases List.append_eq_append_iff.mp he with ⟨a, hp, ht⟩ | ⟨c, hu', hc⟩
    · refine ⟨⟨a, ht⟩, fun t' rest' e => ?_⟩
      rw [e] at ht
      cases a with
      | nil =>
        obtain ⟨h1, h2⟩ := List.cons.inj ht
        exact ⟨hf h1, h2⟩
      | cons x a =>
        have hx : f t' = x := (List.cons.inj ht).1
        exact absurd (by rw [hp, hx]; exact List.mem_append_right _ (List.mem_cons_self ..))
          (hpre.not_mem t')
    · cases c with
      | nil =>
        refine ⟨⟨[], hc.symm⟩, fun t' rest' e => ?_⟩
        rw [e] at hc
        obtain ⟨h1, h2⟩ := List.cons.inj hc
        exact ⟨(hf h1).symm, h2.symm⟩
      | cons x c =>
        have hx : f t = x := (List.cons.inj hc).1
        exact absurd (by rw [hu', hx]; exact List.mem_append_right _ (List.mem_cons_self ..))
          (hu.not_mem t)
  cases fault with
  | none =>
    obtain ⟨used, hu, hs⟩ := h
    obtain ⟨⟨x, hx⟩, -⟩ := key used rest hu (hs ▸ hsch)
    have := congrArg List.length hx
    simp only [List.length_append, List.length_cons] at this
    omega
  | some t' =>
    obtain ⟨used, hu, hs⟩ := h
    obtain ⟨e1, e2⟩ := (key used _ hu (hs ▸ hsch)).2 t' rest rfl
    exact ⟨by rw [e1], e2⟩

end Schedule

theorem writeAll_nil (buf : Bytes) (s : Sink) :
    writeAll buf s [] = ({ data := s.data ++ buf, count := s.count + buf.length }, [], none) := by
  simp [writeAll]

theorem writeAll_empty (s : Sink) (sch : List WResp) : writeAll [] s sch = (s, sch, none) := by
  cases sch with
  | nil => simp [writeAll]
  | cons r rs => simp [writeAll]

theorem writeAll_accept {buf : Bytes} (hb : buf ≠ []) (s : Sink) (n : Nat) (rs : List WResp) :
    writeAll buf s (.accept n :: rs) =
      writeAll (buf.drop (max 1 (min n buf.length)))
        { data := s.data ++ buf.take (max 1 (min n buf.length)),
          count := s.count + max 1 (min n buf.length) } rs := by
  have : buf.isEmpty = false := by simpa using hb
  simp [writeAll, this]

theorem writeAll_interrupted {buf : Bytes} (hb : buf ≠ []) (s : Sink) (rs : List WResp) :
    writeAll buf s (.interrupted :: rs) = writeAll buf s rs := by
  have : buf.isEmpty = false := by simpa using hb
  simp [writeAll, this]

theorem writeAll_fail {buf : Bytes} (hb : buf ≠ []) (s : Sink) (t : Nat) (rs : List WResp) :
    writeAll buf s (.fail t :: rs) = (s, rs, some t) := by
  have : buf.isEmpty = false := by simpa using hb
  simp [writeAll, this]

def WOutcome (buf : Bytes) (s : Sink) (sch : List WResp) (s' : Sink) (rest : List WResp)
    (err : Option Nat) : Prop :=
  (err = none ∧ s'.data = s.data ++ buf ∧ s'.count = s.count + buf.length ∧
      Consumed .fail sch rest none) ∨
  (∃ t k, err = some t ∧ k < buf.length ∧ s'.data = s.data ++ buf.take k ∧
      s'.count = s.count + k ∧ Consumed .fail sch rest (some t))

theorem WOutcome.cons {buf : Bytes} {s s' : Sink} {sch rest : List WResp} {err : Option Nat}
    {r : WResp} (hr : ∀ t, r ≠ .fail t) (h : WOutcome buf s sch s' rest err) :
    WOutcome buf s (r :: sch) s' rest err := by
  rcases h with ⟨e, hd, hc, hs⟩ | ⟨t, k, e, hk, hd, hc, hs⟩
  · exact .inl ⟨e, hd, hc, hs.cons hr⟩
  · exact .inr ⟨t, k, e, hk, hd, hc, hs.cons hr⟩

theorem WOutcome.piece {buf : Bytes} {s s' : Sink} {sch rest : List WResp} {err : Option Nat}
    {m : Nat} (hm : m ≤ buf.length)
    (h : WOutcome (buf.drop m) { data := s.data ++ buf.take m, count := s.count + m } sch s'
      rest err) : WOutcome buf s sch s' rest err := by
  rcases h with ⟨e, hd, hc, hs⟩ | ⟨t, k, e, hk, hd, hc, hs⟩
  · refine .inl ⟨e, ?_, ?_, hs⟩
    · rw [hd, List.append_assoc, List.take_append_drop]
    · rw [hc, List.length_drop, Nat.add_assoc, Nat.add_sub_cancel' hm]
  · refine .inr ⟨t, m + k, e, ?_, ?_, ?_, hs⟩
    · rw [List.length_drop] at hk; omega
    · rw [hd, List.take_add, List.append_assoc]
    · rw [hc, Nat.add_assoc]

theorem writeAll_char : ∀ (sch : List WResp) (buf : Bytes) (s s' : Sink) (rest : List WResp)
    (err : Option Nat), writeAll buf s sch = (s', rest, err) → WOutcome buf s sch s' rest err := by
  intro sch
  induction sch with
  | nil =>
    intro buf s s' rest err h
    rw [writeAll_nil] at h; cases h
    exact .inl ⟨rfl, rfl, rfl, .refl _⟩
  | cons r rs ih =>
    intro buf s s' rest err h
    by_cases hb : buf = []
    · subst hb
      rw [writeAll_empty] at h; cases h
      exact .inl ⟨rfl, (List.append_nil _).symm, rfl, .refl _⟩
    · have hlen : 1 ≤ buf.length := List.length_pos_iff.mpr hb
      cases r with
      | accept n =>
        rw [writeAll_accept hb] at h
        exact ((ih _ _ _ _ _ h).piece (Nat.max_le.mpr ⟨hlen, Nat.min_le_right _ _⟩)).cons
          (by intro t; simp)
      | interrupted =>
        rw [writeAll_interrupted hb] at h
        exact (ih _ _ _ _ _ h).cons (by intro t; simp)
      | fail t =>
        rw [writeAll_fail hb] at h; cases h
        exact .inr ⟨t, 0, rfl, hlen, (List.append_nil _).symm, rfl, .fail t _⟩

theorem writeAll_ff {sch : List WResp} (hff : WFaultFree sch) (buf : Bytes) (s : Sink) :
    (writeAll buf s sch).2.2 = none ∧ (writeAll buf s sch).1.data = s.data ++ buf ∧
    (writeAll buf s sch).1.count = s.count + buf.length ∧ WFaultFree (writeAll buf s sch).2.1 := by
  rcases writeAll_char sch buf s _ _ _ rfl with ⟨e, hd, hc, hs⟩ | ⟨t, k, -, -, -, -, hs⟩
  · exact ⟨e, hd, hc, (hs.of_noFail hff).2⟩
  · exact nomatch (hs.of_noFail hff).1

/-- Under every schedule, faults included: this is why `CountWrite::count` is the right value
    for an index entry's offset. -/
theorem writeAll_count_inv (sch : List WResp) (buf : Bytes) (s : Sink)
    (h : s.count = s.data.length) :
    (writeAll buf s sch).1.count = (writeAll buf s sch).1.data.length := by
  rcases writeAll_char sch buf s _ _ _ rfl with ⟨-, hd, hc, -⟩ | ⟨t, k, -, hk, hd, hc, -⟩
  · rw [hd, hc, h, List.length_append]
  · rw [hd, hc, h, List.length_append, List.length_take, Nat.min_eq_left (Nat.le_of_lt hk)]

theorem writeMany_nil (s : Sink) (sch : List WResp) : writeMany [] s sch = (s, sch, none) := by
  simp [writeMany]

theorem writeMany_cons_ok {b : Bytes} {s s1 : Sink} {sch sch1 : List WResp}
    (hw : writeAll b s sch = (s1, sch1, none)) (bs : List Bytes) :
    writeMany (b :: bs) s sch = writeMany bs s1 sch1 := by
  simp [writeMany, hw]

theorem writeMany_cons_err {b : Bytes} {s s1 : Sink} {sch sch1 : List WResp} {t : Nat}
    (hw : writeAll b s sch = (s1, sch1, some t)) (bs : List Bytes) :
    writeMany (b :: bs) s sch = (s1, sch1, some t) := by
  simp [writeMany, hw]

def WMOutcome (bufs : List Bytes) (s : Sink) (sch : List WResp) (s' : Sink) (rest : List WResp)
    (err : Option Nat) : Prop :=
  (err = none ∧ s'.data = s.data ++ bufs.flatten ∧ s'.count = s.count + bufs.flatten.length ∧
      Consumed .fail sch rest none) ∨
  (∃ t j b k, err = some t ∧ bufs[j]? = some b ∧ k < b.length ∧
      s'.data = s.data ++ (bufs.take j).flatten ++ b.take k ∧
      s'.count = s.count + (bufs.take j).flatten.length + k ∧ Consumed .fail sch rest (some t))

theorem writeMany_char : ∀ (bufs : List Bytes) (s : Sink) (sch : List WResp) (s' : Sink)
    (rest : List WResp) (err : Option Nat),
    writeMany bufs s sch = (s', rest, err) → WMOutcome bufs s sch s' rest err := by
  intro bufs
  induction bufs with
  | nil =>
    intro s sch s' rest err h
    rw [writeMany_nil] at h; cases h
    exact .inl ⟨rfl, (List.append_nil _).symm, rfl, .refl _⟩
  | cons b bs ih =>
    intro s sch s' rest err h
    rcases hw : writeAll b s sch with ⟨s1, sch1, e1⟩
    rcases writeAll_char sch b s _ _ _ hw with ⟨rfl, hd1, hc1, hs1⟩ | ⟨t, k, rfl, hk, hd1, hc1, hs1⟩
    · rw [writeMany_cons_ok hw] at h
      rcases ih _ _ _ _ _ h with ⟨e, hd2, hc2, hs2⟩ | ⟨t, j, b', k, e, hj, hk, hd2, hc2, hs2⟩
      · refine .inl ⟨e, ?_, ?_, hs1.trans hs2⟩
        · rw [hd2, hd1, List.flatten_cons, List.append_assoc]
        · rw [hc2, hc1, List.flatten_cons, List.length_append, Nat.add_assoc]
      · refine .inr ⟨t, j + 1, b', k, e, hj, hk, ?_, ?_, hs1.trans hs2⟩
        · simp only [hd2, hd1, List.take_succ_cons, List.flatten_cons, List.append_assoc]
        · simp only [hc2, hc1, List.take_succ_cons, List.flatten_cons, List.length_append,
            Nat.add_assoc]
    · rw [writeMany_cons_err hw] at h; cases h
      exact .inr ⟨t, 0, b, k, rfl, rfl, hk,
        by rw [hd1, List.take_zero, List.flatten_nil, List.append_nil],
        by rw [hc1, List.take_zero, List.flatten_nil, List.length_nil, Nat.add_zero], hs1⟩

theorem writeMany_ff {sch : List WResp} (hff : WFaultFree sch) (bufs : List Bytes) (s : Sink) :
    (writeMany bufs s sch).2.2 = none ∧ (writeMany bufs s sch).1.data = s.data ++ bufs.flatten ∧
    (writeMany bufs s sch).1.count = s.count + bufs.flatten.length ∧
    WFaultFree (writeMany bufs s sch).2.1 := by
  rcases writeMany_char bufs s sch _ _ _ rfl with ⟨e, hd, hc, hs⟩ | ⟨t, j, b, k, -, -, -, -, -, hs⟩
  · exact ⟨e, hd, hc, (hs.of_noFail hff).2⟩
  · exact nomatch (hs.of_noFail hff).1

theorem writeMany_append_ff {sch : List WResp} (hff : WFaultFree sch) (bufs₁ bufs₂ : List Bytes)
    (s : Sink) :
    writeMany (bufs₁ ++ bufs₂) s sch =
      writeMany bufs₂ (writeMany bufs₁ s sch).1 (writeMany bufs₁ s sch).2.1 := by
  induction bufs₁ generalizing s sch with
  | nil => rfl
  | cons b bs ih =>
    obtain ⟨h1, -, -, h4⟩ := writeAll_ff hff b s
    rcases hw : writeAll b s sch with ⟨s1, sch1, e1⟩
    rw [hw] at h1 h4
    obtain rfl : e1 = none := h1
    rw [List.cons_append, writeMany_cons_ok hw, writeMany_cons_ok hw]
    exact ih h4 s1

theorem split_at_getElem? {α} {l : List α} {j : Nat} {a : α} (h : l[j]? = some a) :
    l = l.take j ++ a :: l.drop (j + 1) ∧ (l.take j).length = j := by
  obtain ⟨hj, rfl⟩ := List.getElem?_eq_some_iff.mp h
  refine ⟨?_, by simp; omega⟩
  rw [← List.drop_eq_getElem_cons hj, List.take_append_drop]

theorem writeMany_prefix (bufs : List Bytes) (s : Sink) (sch : List WResp) :
    ∃ done todo, bufs.flatten = done ++ todo ∧ (writeMany bufs s sch).1.data = s.data ++ done ∧
      (writeMany bufs s sch).1.count = s.count + done.length ∧
      ((writeMany bufs s sch).2.2 = none ↔ todo = []) := by
  rcases writeMany_char bufs s sch _ _ _ rfl with
    ⟨e, hd, hc, -⟩ | ⟨t, j, b, k, e, hj, hk, hd, hc, -⟩
  · exact ⟨_, [], (List.append_nil _).symm, hd, hc, by simp [e]⟩
  · refine ⟨(bufs.take j).flatten ++ b.take k, b.drop k ++ (bufs.drop (j + 1)).flatten, ?_,
      by rw [hd, List.append_assoc], ?_, ?_⟩
    · conv => lhs; rw [(split_at_getElem? hj).1]
      simp only [List.flatten_append, List.flatten_cons, List.append_assoc]
      rw [← List.append_assoc (b.take k), List.take_append_drop]
    · rw [hc, List.length_append, List.length_take, Nat.min_eq_left (Nat.le_of_lt hk),
        Nat.add_assoc]
    · rw [e]
      refine ⟨(fun h => nomatch h), fun h => ?_⟩
      have := congrArg List.length h
      simp only [List.length_append, List.length_drop, List.length_nil] at this
      omega

theorem writeMany_count_inv (sch : List WResp) (bufs : List Bytes) (s : Sink)
    (h : s.count = s.data.length) :
    (writeMany bufs s sch).1.count = (writeMany bufs s sch).1.data.length := by
  obtain ⟨done, -, -, hd, hc, -⟩ := writeMany_prefix bufs s sch
  rw [hd, hc, h, List.length_append]

theorem readExact_zero (data : Bytes) (pos : Nat) (acc : Bytes) (sch : List RResp) :
    readExact data 0 pos acc sch = (acc, pos, sch, none) := by
  rw [readExact.eq_def]

theorem readExact_eof (data : Bytes) (want pos : Nat) (acc : Bytes) (sch : List RResp)
    (h : data.length - pos = 0) :
    readExact data (want + 1) pos acc sch = (acc, pos, sch, some 0) := by
  rw [readExact.eq_def]; simp [h]

theorem readExact_nil (data : Bytes) (want pos : Nat) (acc : Bytes)
    (h : data.length - pos ≠ 0) :
    readExact data (want + 1) pos acc [] =
      (acc ++ (data.drop pos).take (min (want + 1) (data.length - pos)),
       pos + min (want + 1) (data.length - pos), [],
       if min (want + 1) (data.length - pos) = want + 1 then none else some 0) := by
  rw [readExact]; simp only [h, if_false]; split <;> simp_all

theorem readExact_serve (data : Bytes) (want pos : Nat) (acc : Bytes) (n : Nat)
    (rs : List RResp) (h : data.length - pos ≠ 0) :
    readExact data (want + 1) pos acc (.serve n :: rs) =
      readExact data (want + 1 - max 1 (min n (min (want + 1) (data.length - pos))))
        (pos + max 1 (min n (min (want + 1) (data.length - pos))))
        (acc ++ (data.drop pos).take (max 1 (min n (min (want + 1) (data.length - pos))))) rs := by
  rw [readExact]; simp only [h, if_false]

theorem readExact_interrupted (data : Bytes) (want pos : Nat) (acc : Bytes)
    (rs : List RResp) (h : data.length - pos ≠ 0) :
    readExact data (want + 1) pos acc (.interrupted :: rs) =
      readExact data (want + 1) pos acc rs := by
  rw [readExact]; simp only [h, if_false]

theorem readExact_fail (data : Bytes) (want pos : Nat) (acc : Bytes) (t : Nat)
    (rs : List RResp) (h : data.length - pos ≠ 0) :
    readExact data (want + 1) pos acc (.fail t :: rs) = (acc, pos, rs, some t) := by
  rw [readExact]; simp only [h, if_false]

/-- `max 1 (min k (min w a))` is the size of the piece one `read` call serves when `w` bytes are
    wanted and `a` available. -/
theorem clamp_bounds (k : Nat) {w a : Nat} (hw : 1 ≤ w) (ha : 1 ≤ a) :
    max 1 (min k (min w a)) ≤ w ∧ max 1 (min k (min w a)) ≤ a :=
  ⟨Nat.max_le.mpr ⟨hw, Nat.le_trans (Nat.min_le_right _ _) (Nat.min_le_left _ _)⟩,
   Nat.max_le.mpr ⟨ha, Nat.le_trans (Nat.min_le_right _ _) (Nat.min_le_right _ _)⟩⟩

/-- `read_exact(n)` with `a` bytes available delivered `got` bytes.  The second case, tag 0 with
    no fault met, is `UnexpectedEof`. -/
def REOutcome (n a got : Nat) (err : Option Nat) (sch rest : List RResp) : Prop :=
  (err = none ∧ got = n ∧ n ≤ a ∧ Consumed .fail sch rest none) ∨
  (err = some 0 ∧ a < n ∧ got = a ∧ Consumed .fail sch rest none) ∨
  (∃ t, err = some t ∧ got < n ∧ got ≤ a ∧ Consumed .fail sch rest (some t))

theorem REOutcome.cons {n a got : Nat} {err : Option Nat} {sch rest : List RResp} {r : RResp}
    (hr : ∀ t, r ≠ .fail t) (h : REOutcome n a got err sch rest) :
    REOutcome n a got err (r :: sch) rest := by
  rcases h with ⟨e, h1, h2, h3⟩ | ⟨e, h1, h2, h3⟩ | ⟨t, e, h1, h2, h3⟩
  · exact .inl ⟨e, h1, h2, h3.cons hr⟩
  · exact .inr (.inl ⟨e, h1, h2, h3.cons hr⟩)
  · exact .inr (.inr ⟨t, e, h1, h2, h3.cons hr⟩)

theorem REOutcome.add_left (m : Nat) {n a got : Nat} {err : Option Nat} {sch rest : List RResp}
    (h : REOutcome n a got err sch rest) : REOutcome (m + n) (m + a) (m + got) err sch rest := by
  rcases h with ⟨e, h1, h2, h3⟩ | ⟨e, h1, h2, h3⟩ | ⟨t, e, h1, h2, h3⟩
  · exact .inl ⟨e, by rw [h1], Nat.add_le_add_left h2 m, h3⟩
  · exact .inr (.inl ⟨e, Nat.add_lt_add_left h1 m, by rw [h2], h3⟩)
  · exact .inr (.inr ⟨t, e, Nat.add_lt_add_left h1 m, Nat.add_le_add_left h2 m, h3⟩)

theorem REOutcome.stop {n a : Nat} (h : n = 0 ∨ a = 0) (sch : List RResp) :
    REOutcome n a 0 (if n = 0 then none else some 0) sch sch := by
  by_cases hn : n = 0
  · rw [if_pos hn]; exact .inl ⟨rfl, hn.symm, hn ▸ Nat.zero_le _, .refl _⟩
  · have ha : a = 0 := h.resolve_left hn
    rw [if_neg hn]
    exact .inr (.inl ⟨rfl, ha ▸ Nat.pos_of_ne_zero hn, ha.symm, .refl _⟩)

theorem readExact_char (data : Bytes) : ∀ (sch : List RResp) (n pos : Nat) (acc out : Bytes)
    (pos' : Nat) (rest : List RResp) (err : Option Nat),
    readExact data n pos acc sch = (out, pos', rest, err) →
    ∃ got, pos' = pos + got ∧ out = acc ++ (data.drop pos).take got ∧
      REOutcome n (data.length - pos) got err sch rest := by
  have stop : ∀ (n pos : Nat) (acc : Bytes) (sch : List RResp),
      n = 0 ∨ data.length - pos = 0 →
      ∃ got, pos = pos + got ∧ acc = acc ++ (data.drop pos).take got ∧
        REOutcome n (data.length - pos) got (if n = 0 then none else some 0) sch sch :=
    fun n pos acc sch h => ⟨0, rfl, (List.append_nil _).symm, .stop h sch⟩
  intro sch
  induction sch with
  | nil =>
    intro n pos acc out pos' rest err h
    cases n with
    | zero => rw [readExact_zero] at h; cases h; exact stop 0 _ _ _ (.inl rfl)
    | succ want =>
      by_cases ha : data.length - pos = 0
      · rw [readExact_eof _ _ _ _ _ ha] at h; cases h; exact stop (want + 1) _ _ _ (.inr ha)
      · rw [readExact_nil _ _ _ _ ha] at h; cases h
        refine ⟨_, rfl, rfl, ?_⟩
        by_cases hm : want + 1 ≤ data.length - pos
        · rw [Nat.min_eq_left hm]; exact .inl ⟨if_pos rfl, rfl, hm, .refl _⟩
        · have hm' := Nat.lt_of_not_le hm
          rw [Nat.min_eq_right (Nat.le_of_lt hm')]
          exact .inr (.inl ⟨if_neg (Nat.ne_of_lt hm'), hm', rfl, .refl _⟩)
  | cons r rs ih =>
    intro n pos acc out pos' rest err h
    cases n with
    | zero => rw [readExact_zero] at h; cases h; exact stop 0 _ _ _ (.inl rfl)
    | succ want =>
      by_cases ha : data.length - pos = 0
      · rw [readExact_eof _ _ _ _ _ ha] at h; cases h; exact stop (want + 1) _ _ _ (.inr ha)
      · cases r with
        | serve k =>
          rw [readExact_serve _ _ _ _ _ _ ha] at h
          obtain ⟨hmn, hma⟩ := clamp_bounds k (Nat.le_add_left 1 want) (Nat.pos_of_ne_zero ha)
          generalize max 1 (min k (min (want + 1) (data.length - pos))) = m at h hmn hma
          -- `want + 1 = m + n'` and `a = m + a'`: the rest of the call wants `n'` with `a'` available
          obtain ⟨n', hn'⟩ := Nat.exists_eq_add_of_le hmn
          obtain ⟨a', ha'⟩ := Nat.exists_eq_add_of_le hma
          obtain ⟨got, hp, ho, hc⟩ := ih _ _ _ _ _ _ _ h
          rw [Nat.sub_add_eq, ha', hn', Nat.add_sub_cancel_left, Nat.add_sub_cancel_left] at hc
          refine ⟨m + got, by rw [hp, Nat.add_assoc], ?_, ?_⟩
          · rw [ho, List.take_add, List.drop_drop, List.append_assoc]
          · rw [hn', ha']
            exact (hc.add_left m).cons (by intro t; simp)
        | interrupted =>
          rw [readExact_interrupted _ _ _ _ _ ha] at h
          obtain ⟨got, hp, ho, hc⟩ := ih _ _ _ _ _ _ _ h
          exact ⟨got, hp, ho, hc.cons (by intro t; simp)⟩
        | fail t =>
          rw [readExact_fail _ _ _ _ _ _ ha] at h; cases h
          exact ⟨0, rfl, (List.append_nil _).symm,
            .inr (.inr ⟨t, rfl, Nat.succ_pos _, Nat.zero_le _, .fail t _⟩)⟩

theorem readExact_ff {sch : List RResp} (hff : RFaultFree sch) (data : Bytes) (n pos : Nat)
    (acc : Bytes) (hlen : pos + n ≤ data.length) :
    (readExact data n pos acc sch).1 = acc ++ (data.drop pos).take n ∧
    (readExact data n pos acc sch).2.1 = pos + n ∧
    (readExact data n pos acc sch).2.2.2 = none ∧
    RFaultFree (readExact data n pos acc sch).2.2.1 := by
  obtain ⟨got, hp, ho, hc⟩ := readExact_char data sch n pos acc _ _ _ _ rfl
  rcases hc with ⟨e, rfl, -, hs⟩ | ⟨-, h1, -⟩ | ⟨t, -, -, -, hs⟩
  · exact ⟨ho, hp, e, (hs.of_noFail hff).2⟩
  · omega
  · exact nomatch (hs.of_noFail hff).1

theorem readToEndTake_zero (data : Bytes) (pos : Nat) (acc : Bytes) (sch : List RResp) :
    readToEndTake data 0 pos acc sch = (acc, pos, sch, none) := by
  rw [readToEndTake.eq_def]

theorem readToEndTake_eof (data : Bytes) (limit pos : Nat) (acc : Bytes) (sch : List RResp)
    (h : data.length - pos = 0) :
    readToEndTake data (limit + 1) pos acc sch = (acc, pos, sch, none) := by
  rw [readToEndTake.eq_def]; simp [h]

theorem readToEndTake_nil (data : Bytes) (limit pos : Nat) (acc : Bytes)
    (h : data.length - pos ≠ 0) :
    readToEndTake data (limit + 1) pos acc [] =
      (acc ++ (data.drop pos).take (min (limit + 1) (data.length - pos)),
       pos + min (limit + 1) (data.length - pos), [], none) := by
  rw [readToEndTake]; simp only [h, if_false]

theorem readToEndTake_serve (data : Bytes) (limit pos : Nat) (acc : Bytes) (n : Nat)
    (rs : List RResp) (h : data.length - pos ≠ 0) :
    readToEndTake data (limit + 1) pos acc (.serve n :: rs) =
      readToEndTake data (limit + 1 - max 1 (min n (min (limit + 1) (data.length - pos))))
        (pos + max 1 (min n (min (limit + 1) (data.length - pos))))
        (acc ++ (data.drop pos).take (max 1 (min n (min (limit + 1) (data.length - pos))))) rs := by
  rw [readToEndTake]; simp only [h, if_false]

theorem readToEndTake_interrupted (data : Bytes) (limit pos : Nat) (acc : Bytes)
    (rs : List RResp) (h : data.length - pos ≠ 0) :
    readToEndTake data (limit + 1) pos acc (.interrupted :: rs) =
      readToEndTake data (limit + 1) pos acc rs := by
  rw [readToEndTake]; simp only [h, if_false]

theorem readToEndTake_fail (data : Bytes) (limit pos : Nat) (acc : Bytes) (t : Nat)
    (rs : List RResp) (h : data.length - pos ≠ 0) :
    readToEndTake data (limit + 1) pos acc (.fail t :: rs) = (acc, pos, rs, some t) := by
  rw [readToEndTake]; simp only [h, if_false]

/-- `take(limit).read_to_end` is the loop of `read_exact` asked for what can be had: `limit` bytes
    or all that is available. -/
theorem readToEndTake_eq_readExact (data : Bytes) : ∀ (sch : List RResp) (limit pos : Nat)
    (acc : Bytes), readToEndTake data limit pos acc sch =
      readExact data (min limit (data.length - pos)) pos acc sch := by
  intro sch
  induction sch with
  | nil =>
    intro limit pos acc
    cases limit with
    | zero => rw [Nat.zero_min, readToEndTake_zero, readExact_zero]
    | succ l =>
      by_cases ha : data.length - pos = 0
      · rw [ha, Nat.min_zero, readToEndTake_eof _ _ _ _ _ ha, readExact_zero]
      · obtain ⟨w, hw⟩ : ∃ w, min (l + 1) (data.length - pos) = w + 1 :=
          Nat.exists_eq_succ_of_ne_zero
            (Nat.ne_of_gt (Nat.lt_min.mpr ⟨Nat.succ_pos l, Nat.pos_of_ne_zero ha⟩))
        rw [hw, readToEndTake_nil _ _ _ _ ha, readExact_nil _ _ _ _ ha, ← hw,
          Nat.min_assoc, Nat.min_self, if_pos rfl]
  | cons r rs ih =>
    intro limit pos acc
    cases limit with
    | zero => rw [Nat.zero_min, readToEndTake_zero, readExact_zero]
    | succ l =>
      by_cases ha : data.length - pos = 0
      · rw [ha, Nat.min_zero, readToEndTake_eof _ _ _ _ _ ha, readExact_zero]
      · obtain ⟨w, hw⟩ : ∃ w, min (l + 1) (data.length - pos) = w + 1 :=
          Nat.exists_eq_succ_of_ne_zero
            (Nat.ne_of_gt (Nat.lt_min.mpr ⟨Nat.succ_pos l, Nat.pos_of_ne_zero ha⟩))
        rw [hw]
        cases r with
        | serve k =>
          rw [readToEndTake_serve _ _ _ _ _ _ ha, readExact_serve _ _ _ _ _ _ ha, ih, ← hw,
            Nat.min_assoc, Nat.min_self, Nat.sub_add_eq, Nat.sub_min_sub_right]
        | interrupted =>
          rw [readToEndTake_interrupted _ _ _ _ _ ha, readExact_interrupted _ _ _ _ _ ha, ih, hw]
        | fail t =>
          rw [readToEndTake_fail _ _ _ _ _ _ ha, readExact_fail _ _ _ _ _ _ ha]

theorem readToEndTake_char (data : Bytes) (sch : List RResp) (limit pos : Nat) (acc out : Bytes)
    (pos' : Nat) (rest : List RResp) (err : Option Nat)
    (h : readToEndTake data limit pos acc sch = (out, pos', rest, err)) :
    ∃ got, pos' = pos + got ∧ out = acc ++ (data.drop pos).take got ∧
      ((err = none ∧ got = min limit (data.length - pos) ∧ Consumed .fail sch rest none) ∨
       (∃ t, err = some t ∧ got < min limit (data.length - pos) ∧
          Consumed .fail sch rest (some t))) := by
  rw [readToEndTake_eq_readExact] at h
  obtain ⟨got, hp, ho, hc⟩ := readExact_char data sch _ pos acc _ _ _ _ h
  refine ⟨got, hp, ho, ?_⟩
  rcases hc with ⟨e, h1, -, hs⟩ | ⟨-, h1, -⟩ | ⟨t, e, h1, -, hs⟩
  · exact .inl ⟨e, h1, hs⟩
  · exact absurd (Nat.min_le_right _ _) (Nat.not_le_of_lt h1)
  · exact .inr ⟨t, e, h1, hs⟩

theorem readToEndTake_ff {sch : List RResp} (hff : RFaultFree sch) (data : Bytes)
    (limit pos : Nat) (acc : Bytes) :
    (readToEndTake data limit pos acc sch).1 = acc ++ (data.drop pos).take limit ∧
    (readToEndTake data limit pos acc sch).2.1 = pos + min limit (data.length - pos) ∧
    (readToEndTake data limit pos acc sch).2.2.2 = none ∧
    RFaultFree (readToEndTake data limit pos acc sch).2.2.1 := by
  obtain ⟨got, hp, ho, hc⟩ := readToEndTake_char data sch limit pos acc _ _ _ _ rfl
  rcases hc with ⟨e, rfl, hs⟩ | ⟨t, -, -, hs⟩
  · refine ⟨?_, hp, e, (hs.of_noFail hff).2⟩
    rw [ho, List.take_eq_take_min (i := limit), List.length_drop]
  · exact nomatch (hs.of_noFail hff).1

def LBOutcome (file : Bytes) (off : Nat) (sch : List RResp) (res : Option Bytes)
    (rest : List RResp) (err : Option Nat) : Prop :=
  (err = none ∧ off + 8 ≤ file.length ∧
      res = some ((file.drop (off + 8)).take (beVal ((file.drop off).take 8))) ∧
      Consumed .fail sch rest none) ∨
  (err = some 0 ∧ res = none ∧ file.length < off + 8 ∧ Consumed .fail sch rest none) ∨
  (∃ t, err = some t ∧ res = none ∧ Consumed .fail sch rest (some t))

theorem loadBodyIO_char (file : Bytes) (off : Nat) (sch : List RResp) (res : Option Bytes)
    (rest : List RResp) (err : Option Nat) (h : loadBodyIO file off sch = (res, rest, err)) :
    LBOutcome file off sch res rest err := by
  unfold loadBodyIO at h
  rcases h1 : readExact file 8 off [] sch with ⟨hdr, pos, sch1, e1⟩
  rw [h1] at h
  obtain ⟨got, rfl, rfl, hc1⟩ := readExact_char file sch 8 off [] _ _ _ _ h1
  rcases hc1 with ⟨rfl, rfl, hl, hs1⟩ | ⟨rfl, hl, -, hs1⟩ | ⟨t, rfl, -, -, hs1⟩
  · simp only [List.nil_append] at h
    rcases h2 : readToEndTake file (beVal ((file.drop off).take 8)) (off + 8) [] sch1 with
      ⟨body, pos2, sch2, e2⟩
    rw [h2] at h
    obtain ⟨got, -, rfl, hc2⟩ := readToEndTake_char file sch1 _ _ [] _ _ _ _ h2
    rcases hc2 with ⟨rfl, rfl, hs2⟩ | ⟨t, rfl, -, hs2⟩
    · cases h
      refine .inl ⟨rfl, by omega, ?_, hs1.trans hs2⟩
      rw [List.nil_append, ← List.length_drop, ← List.take_eq_take_min]
    · cases h
      exact .inr (.inr ⟨t, rfl, rfl, hs1.trans hs2⟩)
  · cases h
    exact .inr (.inl ⟨rfl, rfl, by omega, hs1⟩)
  · cases h
    exact .inr (.inr ⟨t, rfl, rfl, hs1⟩)

theorem loadBodyIO_ff {sch : List RResp} (hff : RFaultFree sch) (file : Bytes) (off : Nat) :
    (∀ hdr, slice? file off 8 = some hdr →
        (loadBodyIO file off sch).1 = some ((file.drop (off + 8)).take (beVal hdr)) ∧
        (loadBodyIO file off sch).2.2 = none) ∧
    (slice? file off 8 = none →
        (loadBodyIO file off sch).1 = none ∧ (loadBodyIO file off sch).2.2 = some 0) ∧
    RFaultFree (loadBodyIO file off sch).2.1 := by
  unfold slice?
  rcases loadBodyIO_char file off sch _ _ _ rfl with
    ⟨e, hl, hr, hs⟩ | ⟨e, hr, hl, hs⟩ | ⟨t, -, -, hs⟩
  · refine ⟨fun hdr hh => ?_, fun hh => ?_, (hs.of_noFail hff).2⟩
    · rw [if_pos hl] at hh; cases hh; exact ⟨hr, e⟩
    · rw [if_pos hl] at hh; cases hh
  · refine ⟨fun hdr hh => ?_, fun _ => ⟨hr, e⟩, (hs.of_noFail hff).2⟩
    rw [if_neg (Nat.not_le_of_lt hl)] at hh; cases hh
  · exact nomatch (hs.of_noFail hff).1

/-- The block a schedule-driven load produces: header and body through the I/O layer, then the
    decompressor and the footer parse. -/
def loadBlockIO (cd : Codec) (file : Bytes) (off : Nat) (sch : List RResp) : Option Block :=
  ((loadBodyIO file off sch).1.bind cd.decompress).bind Block.parse

/-- `loadBlock` in the shape of `loadBlockIO`. -/
theorem loadBlock_eq (cd : Codec) (file : Bytes) (off : Nat) :
    loadBlock cd file off =
      (((slice? file off 8).map fun hdr => (file.drop (off + 8)).take (beVal hdr)).bind
        cd.decompress).bind Block.parse := by
  unfold loadBlock loadBlockLen
  cases slice? file off 8 with
  | none => rfl
  | some hdr =>
    simp only [Option.map_some, Option.bind_some]
    cases cd.decompress ((file.drop (off + 8)).take (beVal hdr)) with
    | none => rfl
    | some raw =>
      simp only [Option.bind_some]
      cases Block.parse raw <;> rfl

theorem loadBlockIO_ff {sch : List RResp} (hff : RFaultFree sch) (cd : Codec) (file : Bytes)
    (off : Nat) : loadBlockIO cd file off sch = loadBlock cd file off := by
  obtain ⟨h1, h2, _⟩ := loadBodyIO_ff hff file off
  rw [loadBlock_eq, loadBlockIO]
  cases hs : slice? file off 8 with
  | none => rw [(h2 hs).1]; rfl
  | some hdr => rw [(h1 hdr hs).1]; rfl

theorem loadBlockIO_le (cd : Codec) (file : Bytes) (off : Nat) (sch : List RResp) (b : Block)
    (h : loadBlockIO cd file off sch = some b) : loadBlock cd file off = some b := by
  unfold loadBlockIO at h
  rcases hr : loadBodyIO file off sch with ⟨res, rest, err⟩
  rw [hr] at h
  rcases loadBodyIO_char file off sch _ _ _ hr with ⟨-, hl, hres, -⟩ | ⟨-, hres, -⟩ | ⟨t, -, hres, -⟩
  · rw [loadBlock_eq, slice?, if_pos hl, ← h, hres]; rfl
  · rw [hres] at h; cases h
  · rw [hres] at h; cases h

/-- The loader of a reader whose every load goes through the I/O layer; `sched off` is the
    schedule the source applies while block `off` is loaded. -/
def ioLoader (cd : Codec) (file : Bytes) (sched : Nat → List RResp) (off : Nat) :
    Option BlockCursor :=
  (loadBlockIO cd file off (sched off)).map BlockCursor.ofBlock

theorem ioLoader_le (cd : Codec) (file : Bytes) (sched : Nat → List RResp) (off : Nat)
    (b : BlockCursor) (h : ioLoader cd file sched off = some b) :
    loadCursor cd file off = some b := by
  unfold ioLoader at h
  cases hb : loadBlockIO cd file off (sched off) with
  | none => rw [hb] at h; cases h
  | some blk =>
    rw [hb] at h
    rw [loadCursor, loadBlockIO_le cd file off _ _ hb]
    exact h

end Grenad
