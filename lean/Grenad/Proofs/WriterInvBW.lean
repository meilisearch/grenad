/-
  The block writer `BW`: the outcome of one `insert` in the conjunctive form the writer proofs use
  (read off `BW.insert_ok_iff`), and the states reachable from `BW.new` by successful inserts
  (`BW.Reach`).
-/
import Grenad.Proofs.Frame
import Grenad.Model.Writer
import Grenad.Model.Abstract
import Grenad.Proofs.TCursor1

namespace Grenad

def frameOf (e : Entry) : Bytes := BW.frame e.1 e.2

theorem StrictAsc.concat {es : List Entry} {k v : Bytes} (h : StrictAsc es)
    (hl : ∀ lk, es.getLast?.map (·.1) = some lk → lk < k) : StrictAsc (es ++ [(k, v)]) := by
  refine TCursor.strictAsc_append.2 ⟨h, List.pairwise_singleton _ _, fun a ha b hb => ?_⟩
  simp only [List.mem_singleton] at hb; subst hb
  have := TCursor.StrictAsc.le_lastKey h ha
  obtain ⟨ys, y, rfl⟩ := TCursor.exists_snoc (List.ne_nil_of_mem ha)
  rw [TCursor.lastKey_append_singleton] at this
  exact TCursor.blt_of_le_of_lt this (hl y.1 (by simp))

namespace BW

theorem finish_length (w : BW) : w.finish.length = w.sizeEstimate := by
  simp only [finish, sizeEstimate, List.length_append, flatMap_be64_length, be32_length]

theorem insert_ok {p w : BW} {k v : Bytes} (h : p.insert k v = .ok w) :
    k.length ≤ u32Max ∧ v.length ≤ u32Max ∧ (∀ lk, p.lastKey = some lk → lk < k) ∧
    w.buffer = p.buffer ++ frame k v ∧ w.lastKey = some k ∧ w.items = p.items ++ [(k, v)] ∧
    w.interval = p.interval ∧
    (w.offsets = p.offsets ∨ w.offsets = p.offsets ++ [p.buffer.length]) := by
  obtain ⟨hk, hv, hlt, rfl⟩ := (insert_ok_iff p w k v).mp h
  have hu : u32Max = 4294967295 := rfl
  refine ⟨by omega, by omega, hlt, rfl, rfl, rfl, rfl, ?_⟩
  show (if p.counter = p.interval then _ else _) = _ ∨ (if p.counter = p.interval then _ else _) = _
  split
  · exact .inr rfl
  · exact .inl rfl

theorem insert_items {p w : BW} {k v : Bytes} (h : p.insert k v = .ok w) :
    w.items = p.items ++ [(k, v)] := by
  obtain ⟨_, _, _, rfl⟩ := (insert_ok_iff p w k v).mp h; rfl

theorem insert_lastKey {p w : BW} {k v : Bytes} (h : p.insert k v = .ok w) : w.lastKey = some k := by
  obtain ⟨_, _, _, rfl⟩ := (insert_ok_iff p w k v).mp h; rfl

theorem insert_buffer {p w : BW} {k v : Bytes} (h : p.insert k v = .ok w) :
    w.buffer = p.buffer ++ frame k v := by
  obtain ⟨_, _, _, rfl⟩ := (insert_ok_iff p w k v).mp h; rfl

theorem insert_interval {p w : BW} {k v : Bytes} (h : p.insert k v = .ok w) :
    w.interval = p.interval := by
  obtain ⟨_, _, _, rfl⟩ := (insert_ok_iff p w k v).mp h; rfl

theorem insert_error {p : BW} {k v : Bytes} {t : Trap} (h : p.insert k v = .error t) :
    (t = .keyTooLong ∧ u32Max < k.length) ∨ (t = .valTooLong ∧ u32Max < v.length) ∨
    (t = .keyOrder ∧ k.length ≤ u32Max ∧ v.length ≤ u32Max ∧ ∃ lk, p.lastKey = some lk ∧ ¬ lk < k) := by
  rw [insert_eq] at h
  split at h
  · rename_i hk; cases h; exact .inl ⟨rfl, hk⟩
  split at h
  · rename_i hv; cases h; exact .inr (.inl ⟨rfl, hv⟩)
  rename_i hk hv
  split at h
  · rename_i lk hl
    split at h
    · cases h
    · rename_i hlt; cases h; exact .inr (.inr ⟨rfl, by omega, by omega, lk, hl, hlt⟩)
  · cases h

theorem insert_total (p : BW) {k v : Bytes} (hk : k.length ≤ u32Max) (hv : v.length ≤ u32Max)
    (hlk : ∀ lk, p.lastKey = some lk → lk < k) : ∃ w, p.insert k v = .ok w := by
  cases h : p.insert k v with
  | ok w => exact ⟨w, rfl⟩
  | error t =>
    rcases insert_error h with ⟨_, h'⟩ | ⟨_, h'⟩ | ⟨_, _, _, lk, h1, h2⟩
    · omega
    · omega
    · exact absurd (hlk lk h1) h2

theorem insert_keyOrder (p : BW) {k v lk : Bytes} (hk : k.length ≤ u32Max) (hv : v.length ≤ u32Max)
    (hl : p.lastKey = some lk) (hn : ¬ lk < k) : p.insert k v = .error .keyOrder := by
  cases h : p.insert k v with
  | ok w =>
    obtain ⟨_, _, hlt, _⟩ := (insert_ok_iff p w k v).mp h
    exact absurd (hlt lk hl) hn
  | error t =>
    rcases insert_error h with ⟨_, h'⟩ | ⟨_, h'⟩ | ⟨ht, _⟩
    · omega
    · omega
    · rw [ht]

theorem sizeEstimate_insert {p w : BW} {k v : Bytes} (h : p.insert k v = .ok w) :
    p.sizeEstimate + (frame k v).length ≤ w.sizeEstimate ∧
    w.sizeEstimate ≤ p.sizeEstimate + (frame k v).length + 8 := by
  obtain ⟨_, _, _, hb, _, _, _, ho⟩ := insert_ok h
  unfold sizeEstimate
  rw [hb, List.length_append]
  rcases ho with ho | ho
  · rw [ho]; omega
  · rw [ho, List.length_append, List.length_singleton]; omega

/-- States reachable from the empty writer by successful inserts. -/
inductive Reach (iv : Nat) : BW → Prop
  | new : Reach iv (BW.new iv)
  | step {p w : BW} {k v : Bytes} : Reach iv p → p.insert k v = .ok w → Reach iv w

namespace Reach

variable {iv : Nat} {w : BW}

theorem interval_eq (h : Reach iv w) : w.interval = iv := by
  induction h with
  | new => rfl
  | step _ hi ih => rw [insert_interval hi, ih]

theorem offsets_head (h : Reach iv w) : ∃ t, w.offsets = 0 :: t := by
  induction h with
  | new => exact ⟨[], rfl⟩
  | step _ hi ih =>
    obtain ⟨t, ht⟩ := ih
    obtain ⟨_, _, _, _, _, _, _, ho⟩ := insert_ok hi
    rcases ho with ho | ho
    · exact ⟨t, by rw [ho, ht]⟩
    · exact ⟨t ++ [_], by rw [ho, ht]; rfl⟩

theorem reset_eq (h : Reach iv w) : w.reset = BW.new iv := by
  obtain ⟨t, ht⟩ := h.offsets_head
  simp [reset, BW.new, ht, h.interval_eq]

theorem buffer_eq (h : Reach iv w) : w.buffer = (w.items.map frameOf).flatten := by
  induction h with
  | new => rfl
  | step _ hi ih =>
    obtain ⟨_, _, _, hb, _, hit, _, _⟩ := insert_ok hi
    simp [hb, hit, ih, frameOf]

theorem lastKey_eq (h : Reach iv w) : w.lastKey = w.items.getLast?.map (·.1) := by
  induction h with
  | new => rfl
  | step _ hi ih =>
    obtain ⟨_, _, _, _, hl, hit, _, _⟩ := insert_ok hi
    simp [hl, hit]

theorem keysAsc (h : Reach iv w) : StrictAsc w.items := by
  induction h with
  | new => exact List.Pairwise.nil
  | step hp hi ih =>
    obtain ⟨_, _, hlt, _, _, hit, _, _⟩ := insert_ok hi
    rw [hit]
    exact StrictAsc.concat ih (by rw [← hp.lastKey_eq]; exact hlt)

theorem items_ne_nil_of_lastKey (h : Reach iv w) {lk : Bytes} (hl : w.lastKey = some lk) :
    w.items ≠ [] := by
  intro he
  rw [h.lastKey_eq, he] at hl
  cases hl

theorem lastKey_mem (h : Reach iv w) {lk : Bytes} (hl : w.lastKey = some lk) :
    ∃ ini x, w.items = ini ++ [(lk, x)] := by
  rw [h.lastKey_eq] at hl
  cases hg : w.items.getLast? with
  | none => simp [hg] at hl
  | some l =>
    simp [hg] at hl
    obtain ⟨ini, hini⟩ := List.getLast?_eq_some_iff.mp hg
    exact ⟨ini, l.2, by rw [hini, ← hl]⟩

theorem lastKey_len (h : Reach iv w) {lk : Bytes} (hl : w.lastKey = some lk) : lk.length ≤ u32Max := by
  cases h with
  | new => cases hl
  | step _ hi =>
    obtain ⟨hk, _, _, _, hl', _⟩ := insert_ok hi
    rw [hl'] at hl; cases hl; exact hk

theorem items_nil_of_lastKey_none (h : Reach iv w) (hl : w.lastKey = none) : w.items = [] := by
  rw [h.lastKey_eq] at hl
  simpa using hl

theorem offsets_len_new : (BW.new iv).sizeEstimate = 12 := rfl

end Reach

end BW
end Grenad
