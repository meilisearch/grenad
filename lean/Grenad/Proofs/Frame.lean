/-
  Entry framing: `BW.insert` as one equation (`BW.insert_eq`, `BW.insert_ok_iff`), and `Block.entryAt`
  on a payload that contains `BW.frame k v` at `pre.length` returns exactly `k`, `v` and the offset
  just past the frame (base lemma of T-block, C14).
-/
import Grenad.Proofs.Varint
import Grenad.Proofs.Bytes
import Grenad.Model.Block

namespace Grenad

open Varint

theorem encode32_length_bounds (v : Nat) : 1 ≤ (encode32 v).length ∧ (encode32 v).length ≤ 5 := by
  rw [encode32_length]; exact width_bounds v

namespace BW

/-- The state after a successful insert. -/
def pushed (w : BW) (k v : Bytes) : BW :=
  { w with
    buffer := w.buffer ++ frame k v, lastKey := some k,
    offsets := if w.counter = w.interval then w.offsets ++ [w.buffer.length] else w.offsets,
    counter := (if w.counter = w.interval then 0 else w.counter) + 1,
    items := w.items ++ [(k, v)] }

theorem insert_eq (w : BW) (k v : Bytes) :
    w.insert k v =
      if k.length > u32Max then .error .keyTooLong else
      if v.length > u32Max then .error .valTooLong else
      match w.lastKey with
      | some lk => if lk < k then .ok (w.pushed k v) else .error .keyOrder
      | none => .ok (w.pushed k v) := by
  unfold insert pushed
  by_cases hc : w.counter = w.interval <;> cases hl : w.lastKey <;> simp [hc]

theorem insert_ok_iff (w w' : BW) (k v : Bytes) :
    w.insert k v = .ok w' ↔
      k.length < 2^32 ∧ v.length < 2^32 ∧ (∀ lk, w.lastKey = some lk → lk < k) ∧
        w' = w.pushed k v := by
  rw [insert_eq]
  have hu : u32Max = 4294967295 := rfl
  by_cases h1 : k.length > u32Max
  · simp [h1]; omega
  · by_cases h2 : v.length > u32Max
    · simp [h1, h2]; omega
    · have h1' : k.length < 2^32 := by omega
      have h2' : v.length < 2^32 := by omega
      simp only [h1, h2, if_false]
      cases hl : w.lastKey with
      | none => simp [h1', h2', eq_comm]
      | some lk =>
        by_cases h3 : lk < k
        · simp [h1', h2', h3, eq_comm]
        · simp [h1', h2', h3]

end BW

theorem frame_length (k v : Bytes) :
    (BW.frame k v).length = (encode32 k.length).length + (encode32 v.length).length + k.length + v.length := by
  simp [BW.frame]; omega

theorem entryAt_frame (pre post k v : Bytes) (offs : List Nat)
    (hk : k.length < 2^32) (hv : v.length < 2^32) :
    Block.entryAt { payload := pre ++ BW.frame k v ++ post, offsets := offs } pre.length
      = some (k, v, pre.length + (BW.frame k v).length) := by
  have hpos := encode32_length_bounds k.length
  have d1 := decode_encode _ hk (encode32 v.length ++ (k ++ (v ++ post)))
  have d2 := decode_encode _ hv (k ++ (v ++ post))
  unfold Block.entryAt BW.frame
  -- only the lengths of the two varints matter from here on
  generalize encode32 k.length = e1 at d1 hpos ⊢
  generalize encode32 v.length = e2 at d1 d2 ⊢
  simp only [List.append_assoc, List.drop_left, d1]
  rw [if_neg (by simp only [List.length_append]; omega), List.drop_length_add_append, List.drop_left, d2]
  simp only [slice?, Nat.add_assoc, List.drop_length_add_append, List.drop_left, List.take_left,
    List.length_append]
  rw [if_pos (by omega), if_pos (by omega)]

end Grenad
