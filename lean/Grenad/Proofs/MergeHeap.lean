/-
  Grenad.Proofs.MergeHeap — the heap-as-list of `Grenad.Model.Merger`: `heapMin` selects the least
  `(key, idx)`, `popSame` collects the other heads with that key in increasing index order
  (`heap_round`), under pairwise distinct `(key, idx)` pairs (`PairNe`); `Merger.next` in terms of
  such a round (`Merger.next_of_empty`, `Merger.next_of_round`).
-/
import Grenad.Proofs.GroupSpec
import Grenad.Model.Merger

namespace Grenad

/-- Heap entries come from pairwise different sources. -/
def IdxNe (h : List MSrc) : Prop := h.Pairwise (fun a b => a.idx ≠ b.idx)
def IdxLt (h : List MSrc) : Prop := h.Pairwise (fun a b => a.idx < b.idx)

/-- Heap entries have pairwise distinct `(key, idx)` pairs: all that the order of pops depends on. -/
def PairNe (h : List MSrc) : Prop := h.Pairwise (fun a b => a.key = b.key → a.idx ≠ b.idx)

theorem IdxNe.pairNe {h : List MSrc} (p : IdxNe h) : PairNe h :=
  List.Pairwise.imp (fun {a b} hab (_ : a.key = b.key) => hab) p

theorem PairNe.perm {h h' : List MSrc} (p : PairNe h) (hp : h.Perm h') : PairNe h' :=
  List.Pairwise.perm p hp (fun hxy => fun e e' => hxy e.symm e'.symm)

theorem IdxLt.idxNe {h : List MSrc} (p : IdxLt h) : IdxNe h :=
  List.Pairwise.imp (fun hab => Nat.ne_of_lt hab) p

theorem IdxNe.perm {h h' : List MSrc} (p : IdxNe h) (hp : h.Perm h') : IdxNe h' :=
  List.Pairwise.perm p hp (fun hxy => fun e => hxy e.symm)

theorem before_iff (a b : MSrc) :
    a.before b = true ↔ a.key < b.key ∨ (a.key = b.key ∧ a.idx < b.idx) := by
  simp [MSrc.before]

theorem before_trans {a b c : MSrc} (h1 : a.before b = true) (h2 : b.before c = true) :
    a.before c = true := by
  rw [before_iff] at *
  rcases h1 with h1 | ⟨e1, l1⟩ <;> rcases h2 with h2 | ⟨e2, l2⟩
  · left; exact blt_trans h1 h2
  · left; rw [← e2]; exact h1
  · left; rw [e1]; exact h2
  · right; exact ⟨e1.trans e2, Nat.lt_trans l1 l2⟩

theorem before_asymm {a b : MSrc} (h1 : a.before b = true) : ¬ b.before a = true := by
  rw [before_iff] at *
  rcases h1 with h1 | ⟨e1, l1⟩
  · rintro (h2 | ⟨e2, _⟩)
    · exact blt_asymm h1 h2
    · rw [e2] at h1; exact blt_irrefl _ h1
  · rintro (h2 | ⟨_, l2⟩)
    · rw [e1] at h2; exact blt_irrefl _ h2
    · omega

/-- Two entries that differ in key or in source index are comparable. -/
theorem before_total_of_ne {a b : MSrc} (hne : a.key = b.key → a.idx ≠ b.idx)
    (h : ¬ a.before b = true) : b.before a = true := by
  rw [before_iff] at *
  by_cases hk : a.key = b.key
  · right; refine ⟨hk.symm, ?_⟩
    have : ¬ a.idx < b.idx := fun hl => h (Or.inr ⟨hk, hl⟩)
    have := hne hk
    omega
  · left; exact blt_tri (fun hl => h (Or.inl hl)) hk

theorem heapMin_eq_none {h : List MSrc} : heapMin h = none ↔ h = [] := by
  cases h with
  | nil => simp [heapMin]
  | cons s r =>
    simp only [heapMin]
    split <;> (try split) <;> simp

/-- `heapMin` returns the least element for `before`, as soon as the entries have pairwise distinct
    `(key, idx)` pairs. -/
theorem heapMin_least {h : List MSrc} {m : MSrc} (hp : PairNe h) (hm : heapMin h = some m) :
    m ∈ h ∧ ∀ x ∈ h, x = m ∨ m.before x = true := by
  induction h generalizing m with
  | nil => simp [heapMin] at hm
  | cons s r ih =>
    have hp' := List.pairwise_cons.mp hp
    simp only [heapMin] at hm
    split at hm
    · rename_i hn
      have : r = [] := heapMin_eq_none.mp hn
      subst this
      cases hm
      simp
    · rename_i m0 hm0
      obtain ⟨hmem, hall⟩ := ih hp'.2 hm0
      split at hm
      · rename_i hb
        cases hm
        refine ⟨List.mem_cons_self, ?_⟩
        intro x hx
        rcases List.mem_cons.mp hx with e | hx
        · left; exact e
        · right
          rcases hall x hx with e | hb'
          · rw [e]; exact hb
          · exact before_trans hb hb'
      · rename_i hb
        cases hm
        refine ⟨List.mem_cons_of_mem _ hmem, ?_⟩
        intro x hx
        rcases List.mem_cons.mp hx with e | hx
        · right; rw [e]
          exact before_total_of_ne (hp'.1 _ hmem) hb
        · exact hall x hx

theorem heapPop_eq_none {h : List MSrc} : heapPop h = none ↔ h = [] := by
  unfold heapPop
  split
  · rename_i hn; simp [heapMin_eq_none.mp hn]
  · rename_i m hm
    constructor
    · intro h'; cases h'
    · intro e; subst e; simp [heapMin] at hm

/-- What `heapPop` returns: the least element by `(key, idx)` and the rest. -/
theorem heapPop_spec {h h1 : List MSrc} {m : MSrc} (hp : PairNe h) (hm : heapPop h = some (m, h1)) :
    m ∈ h ∧ h1 = h.erase m ∧ h.Perm (m :: h1) ∧ PairNe h1 ∧
    (∀ x ∈ h, ¬ x.key < m.key) ∧
    (∀ x ∈ h1, x.key = m.key → m.idx < x.idx) := by
  unfold heapPop at hm
  split at hm
  · cases hm
  · rename_i m' hmin
    cases hm
    obtain ⟨hmem, hall⟩ := heapMin_least hp hmin
    have hperm : h.Perm (m :: h.erase m) := List.perm_cons_erase hmem
    have hp2' := List.pairwise_cons.mp (hp.perm hperm)
    refine ⟨hmem, rfl, hperm, hp2'.2, ?_, ?_⟩
    · intro x hx hlt
      rcases hall x hx with e | hb
      · rw [e] at hlt; exact blt_irrefl _ hlt
      · rw [before_iff] at hb
        rcases hb with hb | ⟨e, _⟩
        · exact blt_asymm hlt hb
        · rw [e] at hlt; exact blt_irrefl _ hlt
    · intro x hx hk
      have hx' : x ∈ h := hperm.symm.subset (List.mem_cons_of_mem _ hx)
      rcases hall x hx' with e | hb
      · exact absurd (e ▸ rfl) (hp2'.1 x hx hk.symm)
      · rw [before_iff] at hb
        rcases hb with hb | ⟨_, hl⟩
        · rw [hk] at hb; exact absurd hb (blt_irrefl _)
        · exact hl

/-- `popSame` collects exactly the heap entries whose key is `k` (the least key), in increasing
    index order, and leaves the others. -/
theorem popSame_spec (k : Bytes) : ∀ (fuel : Nat) (h acc : List MSrc), PairNe h →
    (∀ x ∈ h, ¬ x.key < k) → h.length + 1 ≤ fuel →
    ∃ S h', popSame k fuel h acc = (acc.reverse ++ S, h') ∧
      S.Perm (h.filter (fun x => decide (x.key = k))) ∧ IdxLt S ∧
      h'.Perm (h.filter (fun x => decide (x.key ≠ k))) := by
  intro fuel
  induction fuel with
  | zero => intro h acc _ _ hf; omega
  | succ fuel ih =>
    intro h acc hp hge hf
    simp only [popSame]
    cases hpop : heapPop h with
    | none =>
      have : h = [] := heapPop_eq_none.mp hpop
      subst this
      exact ⟨[], [], by simp, by simp, by simp [IdxLt], by simp⟩
    | some p =>
      obtain ⟨m, h1⟩ := p
      obtain ⟨hmem, herase, hperm, hp1, hmin, hsame⟩ := heapPop_spec hp hpop
      simp only []
      by_cases hk : m.key = k
      · simp only [hk, if_true]
        have hlen : h1.length + 1 = h.length := by
          have := hperm.length_eq; simp only [List.length_cons] at this; omega
        have hge1 : ∀ x ∈ h1, ¬ x.key < k := fun x hx =>
          hge x (hperm.symm.subset (List.mem_cons_of_mem _ hx))
        obtain ⟨S1, h', heq, hS, hlt, hh'⟩ := ih h1 (m :: acc) hp1 hge1 (by omega)
        refine ⟨m :: S1, h', ?_, ?_, ?_, ?_⟩
        · rw [heq]; simp
        · have := (hperm.filter (fun x => decide (x.key = k)))
          refine List.Perm.trans ?_ this.symm
          simp only [List.filter_cons, hk, decide_true, if_true]
          exact List.Perm.cons _ hS
        · refine List.pairwise_cons.mpr ⟨?_, hlt⟩
          intro x hx
          have hx' := List.mem_filter.mp (hS.subset hx)
          have hxk : x.key = k := by simpa using hx'.2
          exact hsame x hx'.1 (hxk.trans hk.symm)
        · have := (hperm.filter (fun x => decide (x.key ≠ k)))
          refine List.Perm.trans hh' ?_
          refine List.Perm.trans ?_ this.symm
          simp [hk]
      · simp only [hk, if_false]
        have hall : ∀ x ∈ h, x.key ≠ k := by
          intro x hx e
          have h1 : ¬ x.key < m.key := hmin x hx
          have h2 : ¬ m.key < k := hge m hmem
          rw [e] at h1
          exact hk (by grind)
        refine ⟨[], h, by simp, ?_, by simp [IdxLt], ?_⟩
        · rw [List.filter_eq_nil_iff.mpr]
          intro x hx; simpa using hall x hx
        · rw [List.filter_eq_self.mpr]
          intro x hx; simpa using hall x hx

/-- One round of pops on a heap: the first pop and the `popSame` loop together return all heads
    carrying the least key, in increasing index order. -/
theorem heap_round {h h1 : List MSrc} {first : MSrc} (hp : PairNe h)
    (hpop : heapPop h = some (first, h1)) :
    ∃ S h2, popSame first.key (h1.length + 1) h1 [] = (S, h2) ∧
      (first :: S).Perm (h.filter (fun x => decide (x.key = first.key))) ∧
      IdxLt (first :: S) ∧
      h2.Perm (h.filter (fun x => decide (x.key ≠ first.key))) ∧
      first ∈ h ∧ ∀ x ∈ h, ¬ x.key < first.key := by
  obtain ⟨hmem, _, hperm, hp1, hmin, hsame⟩ := heapPop_spec hp hpop
  have hge1 : ∀ x ∈ h1, ¬ x.key < first.key := fun x hx =>
    hmin x (hperm.symm.subset (List.mem_cons_of_mem _ hx))
  obtain ⟨S, h2, heq, hS, hlt, hh2⟩ := popSame_spec first.key (h1.length + 1) h1 [] hp1 hge1
    (Nat.le_refl _)
  refine ⟨S, h2, by simpa using heq, ?_, ?_, ?_, hmem, hmin⟩
  · have := (hperm.filter (fun x => decide (x.key = first.key)))
    refine List.Perm.trans ?_ this.symm
    simp only [List.filter_cons, decide_true, if_true]
    exact List.Perm.cons _ hS
  · refine List.pairwise_cons.mpr ⟨?_, hlt⟩
    intro x hx
    have hx' := List.mem_filter.mp (hS.subset hx)
    exact hsame x hx'.1 (by simpa using hx'.2)
  · have := (hperm.filter (fun x => decide (x.key ≠ first.key)))
    refine List.Perm.trans hh2 ?_
    refine List.Perm.trans ?_ this.symm
    simp

/-! ### `Merger.next` by rounds -/

theorem Merger.next_of_empty (mf : MergeFn) {m : Merger} (h : heapPop m.heap = none) :
    Merger.next mf m = (m, .ok none) := by
  simp only [Merger.next, h]

/-- `MergerIter::next` when a round pops `first :: S` and leaves `h2`: one merge call on the values
    of the round, in the order popped. -/
theorem Merger.next_of_round (mf : MergeFn) {m : Merger} {first : MSrc} {h1 S h2 : List MSrc}
    (hpop : heapPop m.heap = some (first, h1))
    (hps : popSame first.key (h1.length + 1) h1 [] = (S, h2)) :
    Merger.next mf m =
      match mf first.key (first.val :: S.map MSrc.val) with
      | none => (⟨h2, (first.key, first.val :: S.map MSrc.val) :: m.calls⟩, .mergeErr)
      | some v => (⟨(first :: S).foldl advance h2, (first.key, first.val :: S.map MSrc.val) :: m.calls⟩,
          .ok (some (first.key, v))) := by
  simp only [Merger.next, hpop, hps]
  cases mf first.key (first.val :: S.map MSrc.val) <;> rfl

/-- The entries popped in one round and the entries left together make up the heap. -/
theorem round_append_perm {k : Bytes} {F h2 h : List MSrc}
    (hF : F.Perm (h.filter (fun x => decide (x.key = k))))
    (hh2 : h2.Perm (h.filter (fun x => decide (x.key ≠ k)))) : (F ++ h2).Perm h := by
  have hfun : (fun x : MSrc => decide (x.key ≠ k)) = (fun x => !decide (x.key = k)) := by
    funext x; simp
  rw [hfun] at hh2
  exact (hF.append hh2).trans (List.filter_append_perm _ _)

end Grenad
