/-
  T-block, closing statements: writer, footer and payload in one (`tblock_roundtrip`), the simulation of
  `byteOps_sim` (TBlock5) along a sequence of moves (`byteOps_sim_run`), `BlockOf.entryAt_lt/_end`, and
  an instance (`exEs`) showing that the hypotheses can be met.

  Assumptions (all explicit hypotheses): `1 ≤ iv` (Rust: `NonZeroUsize`), `StrictAsc es`, key and
  value lengths `< 2^32` (both are consequences of `BW.Built`, see `BW.built_spec`), and for the
  footer parse the payload is shorter than `2^32` bytes (bounds every offset by `2^64` and the
  number of offsets by `2^32`).
-/
import Grenad.Proofs.TBlock5

namespace Grenad

theorem BlockOf.entryAt_lt {iv : Nat} {es : List Entry} {b : Block} (hb : BlockOf iv es b)
    {i : Nat} (hi : i < es.length) :
    b.entryAt (offAt es i) = some (es[i].1, es[i].2, offAt es (i + 1)) :=
  entryAt_offAt hb.payload hb.lens hi

theorem BlockOf.entryAt_end {iv : Nat} {es : List Entry} {b : Block} (hb : BlockOf iv es b) :
    b.entryAt (offAt es es.length) = none :=
  entryAt_offAt_end hb.payload

/-- Writer, footer and payload in one statement: inserting `es` succeeds, the finished bytes
    parse back to the writer's buffer and offset table, and the parsed block is `BlockOf iv es`. -/
theorem tblock_roundtrip {iv : Nat} (hiv : 1 ≤ iv) {es : List Entry} (hasc : StrictAsc es)
    (hl : ∀ e ∈ es, e.1.length < 2^32 ∧ e.2.length < 2^32) (hsz : (frames es).length < 2^32) :
    ∃ w b, (BW.new iv).insertAll es = .ok w ∧ BW.Built iv es w ∧
      Block.parse w.finish = some b ∧ b.payload = w.buffer ∧ b.offsets = w.offsets ∧
      BlockOf iv es b := by
  obtain ⟨w, hw, hb⟩ := BW.insertAll_succeeds hiv hasc hl
  have hbuf := (hb.inv hiv).buffer
  obtain ⟨b, h1, h2, h3, h4⟩ := parse_built hiv hb (by rw [hbuf]; exact hsz)
  exact ⟨w, b, hw, hb, h1, h2, h3, h4⟩

/-- The whole chain for a sequence of moves: starting from a freshly loaded cursor, the byte-level
    cursor and the list cursor return the same entries. -/
theorem byteOps_sim_run {iv : Nat} {es : List Entry} {b : Block} (hb : BlockOf iv es b)
    (ms : List Mov) :
    ∀ {c : BlockCursor} {l : LC}, BRepr es b c l →
      (ms.foldl (fun (s : BlockCursor × List (Option Entry)) m =>
          ((byteOps.apply m s.1).1, s.2 ++ [(byteOps.apply m s.1).2])) (c, [])).2
      = (ms.foldl (fun (s : LC × List (Option Entry)) m =>
          ((LC.ops.apply m s.1).1, s.2 ++ [(LC.ops.apply m s.1).2])) (l, [])).2 := by
  suffices H : ∀ (ms : List Mov) (c : BlockCursor) (l : LC) (acc : List (Option Entry)),
      BRepr es b c l →
      (ms.foldl (fun (s : BlockCursor × List (Option Entry)) m =>
          ((byteOps.apply m s.1).1, s.2 ++ [(byteOps.apply m s.1).2])) (c, acc)).2
      = (ms.foldl (fun (s : LC × List (Option Entry)) m =>
          ((LC.ops.apply m s.1).1, s.2 ++ [(LC.ops.apply m s.1).2])) (l, acc)).2 by
    intro c l h; exact H ms c l [] h
  intro ms
  induction ms with
  | nil => intro c l acc _; rfl
  | cons m ms ih =>
    intro c l acc h
    obtain ⟨h1, h2⟩ := byteOps_sim hb h m
    simp only [List.foldl_cons]
    rw [h2]
    exact ih _ _ _ h1

/-! ### The hypotheses are satisfiable -/

private def exEs : List Entry := [([1], [10]), ([1, 2], []), ([3], [7, 8, 9])]

example : ∃ w b, (BW.new 2).insertAll exEs = .ok w ∧ BW.Built 2 exEs w ∧
    Block.parse w.finish = some b ∧ b.payload = w.buffer ∧ b.offsets = w.offsets ∧
    BlockOf 2 exEs b := by
  apply tblock_roundtrip (by decide)
  · simp [StrictAsc, exEs]; decide
  · simp [exEs]
  · decide

example : ∃ b c l, BlockOf 2 exEs b ∧ BRepr exEs b c l := by
  obtain ⟨w, b, _, _, _, _, _, hb⟩ := tblock_roundtrip (iv := 2) (es := exEs) (by decide)
    (by simp [StrictAsc, exEs]; decide) (by simp [exEs]) (by decide)
  exact ⟨b, _, _, hb, byteOps_init exEs b⟩

end Grenad

section Audit
open Grenad
#print axioms BW.built_spec
#print axioms BW.insertAll_succeeds
#print axioms BW.built_iff_insertAll
#print axioms parse_finish
#print axioms parse_built
#print axioms BlockOf.entryAt_lt
#print axioms BlockOf.entryAt_end
#print axioms current_sim
#print axioms first_sim
#print axioms last_sim
#print axioms next_sim
#print axioms prev_sim
#print axioms le_spec
#print axioms ge_sim
#print axioms byteOps_sim
#print axioms byteOps_current
#print axioms byteOps_init
#print axioms tblock_roundtrip
#print axioms byteOps_sim_run
end Audit
