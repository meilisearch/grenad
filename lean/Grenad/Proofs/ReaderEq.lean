/-
  Grenad.Proofs.ReaderEq — the reader cursor (`Grenad.Model.Reader`) through its equations.

  The seven public operations of `ReaderCursor` (src/reader/reader_cursor.rs) have two shapes.
  * `RC.seek mov`: `move_on_first`, `move_on_last`, `move_on_key_greater_than_or_equal_to` walk the
    index from the root with `mov` (`iter_index_blocks`), load the data block found and make the same
    move inside it.
  * `RC.rel mov`: `move_on_next`, `move_on_prev` first move inside the data block held; when that
    answers `None`, `RC.climb mov` moves the index to the neighbouring block
    (`next_block_from_index` / `prev_block_from_index`, i.e. `recursive_index_block`), loads it and
    enters it with `mov.enter` (`move_on_first` after `next`, `move_on_last` after `prev`).
  `le` and `eq` are built from `ge`, `prev` and `last`.  Both shapes end in `RC.enterWith`.

  The three index loops (`initialIndex`, `iterLevels`, `recurLevels`) and the two index moves
  (`iterIndex`, `recurIndex`) are given one equation per branch.  Everything here holds for every
  in-block cursor `ops`, loader `load` and value of `fixF1`.
-/
import Grenad.Model.Reader

namespace Grenad

/-- The move made inside the data block a relative move arrives in. -/
def Mov.enter : Mov → Mov
  | .prev => .last
  | _ => .first

namespace RC

variable {β : Type} (ops : BlockOps β) (load : Nat → Option β) (fixF1 : Bool)

/-- Load the data block the index entry `e` points to and make the move `mov` inside it. -/
def enterWith (mov : Mov) (c : RC β) (e : Entry) : RC β × Res :=
  match enter load c e with
  | none => (c, .err)
  | some (c, b) => (withCur c (ops.apply mov b).1, .ok (ops.apply mov b).2)

/-- An absolute move.  When the index answers `None`, `first` and `last` drop the data block
    held, `ge` keeps it (`keepCur`). -/
def seek (mov : Mov) (keepCur : Bool) (c : RC β) : RC β × Res :=
  match iterIndex ops load mov c with
  | none => (c, .err)
  | some (c, some e) => enterWith ops load mov c e
  | some (c, none) => (if keepCur then c else { c with cur := none }, .ok none)

/-- A relative move after the data block held answered `None`. -/
def climb (mov : Mov) (c : RC β) : RC β × Res :=
  match recurIndex ops load fixF1 mov c with
  | none => (c, .err)
  | some (c, some e) => enterWith ops load mov.enter c e
  | some (c, none) => (c, .ok none)

def rel (mov : Mov) (c : RC β) : RC β × Res :=
  match c.cur with
  | some b =>
    match (ops.apply mov b).2 with
    | some e => (withCur c (ops.apply mov b).1, .ok (some e))
    | none => climb ops load fixF1 mov (withCur c (ops.apply mov b).1)
  | none => seek ops load mov.enter false c

variable {ops load fixF1}

theorem enterWith_err {mov : Mov} {c : RC β} {e : Entry} (h : load (offOf e) = none) :
    enterWith ops load mov c e = (c, .err) := by
  unfold enterWith enter; rw [h]

theorem enterWith_ok {mov : Mov} {c : RC β} {e : Entry} {b : β} (h : load (offOf e) = some b) :
    enterWith ops load mov c e =
      (withCur { c with log := offOf e :: c.log } (ops.apply mov b).1, .ok (ops.apply mov b).2) := by
  unfold enterWith enter; rw [h]

theorem seek_err {mov : Mov} {keepCur : Bool} {c : RC β} (h : iterIndex ops load mov c = none) :
    seek ops load mov keepCur c = (c, .err) := by
  unfold seek; rw [h]

theorem seek_some {mov : Mov} {keepCur : Bool} {c c1 : RC β} {e : Entry}
    (h : iterIndex ops load mov c = some (c1, some e)) :
    seek ops load mov keepCur c = enterWith ops load mov c1 e := by
  unfold seek; rw [h]

theorem seek_none {mov : Mov} {keepCur : Bool} {c c1 : RC β}
    (h : iterIndex ops load mov c = some (c1, none)) :
    seek ops load mov keepCur c = (if keepCur then c1 else { c1 with cur := none }, .ok none) := by
  unfold seek; rw [h]

theorem climb_err {mov : Mov} {c : RC β} (h : recurIndex ops load fixF1 mov c = none) :
    climb ops load fixF1 mov c = (c, .err) := by
  unfold climb; rw [h]

theorem climb_some {mov : Mov} {c c1 : RC β} {e : Entry}
    (h : recurIndex ops load fixF1 mov c = some (c1, some e)) :
    climb ops load fixF1 mov c = enterWith ops load mov.enter c1 e := by
  unfold climb; rw [h]

theorem climb_none {mov : Mov} {c c1 : RC β}
    (h : recurIndex ops load fixF1 mov c = some (c1, none)) :
    climb ops load fixF1 mov c = (c1, .ok none) := by
  unfold climb; rw [h]

theorem rel_none {mov : Mov} {c : RC β} (h : c.cur = none) :
    rel ops load fixF1 mov c = seek ops load mov.enter false c := by
  unfold rel; rw [h]

theorem rel_stay {mov : Mov} {c : RC β} {b : β} {e : Entry} (h : c.cur = some b)
    (hm : (ops.apply mov b).2 = some e) :
    rel ops load fixF1 mov c = (withCur c (ops.apply mov b).1, .ok (some e)) := by
  unfold rel; rw [h]; simp only [hm]

theorem rel_climb {mov : Mov} {c : RC β} {b : β} (h : c.cur = some b)
    (hm : (ops.apply mov b).2 = none) :
    rel ops load fixF1 mov c = climb ops load fixF1 mov (withCur c (ops.apply mov b).1) := by
  unfold rel; rw [h]; simp only [hm]

/-! ### The public operations are these shapes -/

variable (ops load fixF1)

theorem first_eq (c : RC β) : c.first ops load = seek ops load .first false c := rfl

theorem last_eq (c : RC β) : c.last ops load = seek ops load .last false c := rfl

theorem ge_eq (q : Bytes) (c : RC β) : c.ge ops load q = seek ops load (.ge q) true c := rfl

theorem next_eq (c : RC β) : c.next ops load fixF1 = rel ops load fixF1 .next c := by
  unfold next rel
  cases c.cur with
  | none => exact first_eq ops load c
  | some b =>
    show (match ops.next b with
      | (b', some e) => (withCur c b', Res.ok (some e))
      | (b', none) => _) = (match (ops.next b).2 with
      | some e => (withCur c (ops.next b).1, Res.ok (some e))
      | none => climb ops load fixF1 .next (withCur c (ops.next b).1))
    rcases ops.next b with ⟨b', r⟩
    cases r with
    | some e => rfl
    | none =>
      dsimp only
      unfold climb enterWith
      cases recurIndex ops load fixF1 .next (withCur c b') with
      | none => rfl
      | some x =>
        obtain ⟨c1, r⟩ := x
        cases r with
        | none => rfl
        | some e => cases enter load c1 e <;> rfl

theorem prev_eq (c : RC β) : c.prev ops load fixF1 = rel ops load fixF1 .prev c := by
  unfold prev rel
  cases c.cur with
  | none => exact last_eq ops load c
  | some b =>
    show (match ops.prev b with
      | (b', some e) => (withCur c b', Res.ok (some e))
      | (b', none) => _) = (match (ops.prev b).2 with
      | some e => (withCur c (ops.prev b).1, Res.ok (some e))
      | none => climb ops load fixF1 .prev (withCur c (ops.prev b).1))
    rcases ops.prev b with ⟨b', r⟩
    cases r with
    | some e => rfl
    | none =>
      dsimp only
      unfold climb enterWith
      cases recurIndex ops load fixF1 .prev (withCur c b') with
      | none => rfl
      | some x =>
        obtain ⟨c1, r⟩ := x
        cases r with
        | none => rfl
        | some e => cases enter load c1 e <;> rfl

variable {ops load fixF1}

theorem next_none {c : RC β} (h : c.cur = none) : c.next ops load fixF1 = c.first ops load := by
  rw [next_eq, rel_none h, first_eq]; rfl

theorem prev_none {c : RC β} (h : c.cur = none) : c.prev ops load fixF1 = c.last ops load := by
  rw [prev_eq, rel_none h, last_eq]; rfl

variable (ops load fixF1)

/-- `move_on_key_equal_to`. -/
theorem eq_eq (q : Bytes) (c : RC β) :
    c.eq ops load q =
      match seek ops load (.ge q) true c with
      | (c, .err) => (c, .err)
      | (c, .ok r) => (c, .ok (r.filter (fun e => decide (e.1 = q)))) := by
  unfold eq; rw [ge_eq]; rfl

/-- `move_on_key_lower_than_or_equal_to`. -/
theorem le_eq (q : Bytes) (c : RC β) :
    c.le ops load fixF1 q =
      match seek ops load (.ge q) true c with
      | (c, .err) => (c, .err)
      | (c, .ok (some (k, v))) =>
        if k = q then (c, .ok (some (k, v))) else rel ops load fixF1 .prev c
      | (c, .ok none) =>
        match seek ops load .last false c with
        | (c, .err) => (c, .err)
        | (c, .ok r) => (c, .ok (r.filter (fun e => decide (e.1 ≤ q)))) := by
  unfold le; rw [ge_eq]
  rcases seek ops load (.ge q) true c with ⟨c1, r⟩
  cases r with
  | err => rfl
  | ok r =>
    cases r with
    | some kv => obtain ⟨k, v⟩ := kv; show (if _ then _ else _) = _; rw [prev_eq]
    | none => show (match c1.last ops load with | (c, .err) => _ | (c, .ok r) => _) = _; rw [last_eq]

/-! ### `initial_index_blocks` -/

variable {ops load fixF1}

theorem initialIndex_fail {mov : Mov} {d jump : Nat} {acc : List (Nat × β)} {log : List Nat}
    (h : load jump = none) : initialIndex ops load mov (d + 1) jump acc log = none := by
  rw [initialIndex, h]

theorem initialIndex_stop {mov : Mov} {d jump : Nat} {acc : List (Nat × β)} {log : List Nat}
    {c c' : β} (h : load jump = some c) (ha : ops.apply mov c = (c', none)) :
    initialIndex ops load mov (d + 1) jump acc log = some (none, jump :: log) := by
  rw [initialIndex, h]; simp only [ha]

theorem initialIndex_step {mov : Mov} {d jump : Nat} {acc : List (Nat × β)} {log : List Nat}
    {c c' : β} {e : Entry} (h : load jump = some c) (ha : ops.apply mov c = (c', some e)) :
    initialIndex ops load mov (d + 1) jump acc log =
      initialIndex ops load mov d (offOf e) ((offOf e, c') :: acc) (jump :: log) := by
  rw [initialIndex, h]; simp only [ha]

/-! ### The loop of `iter_index_blocks` -/

/-- The cursor the loop uses at a level: the one held when its recorded offset is the offset
    asked for, a freshly loaded one otherwise. -/
def reload (load : Nat → Option β) (jump : Nat) (x : Nat × β) (log : List Nat) :
    Option (Nat × β × List Nat) :=
  if jump ≠ x.1 then (load jump).map (fun c' => (jump, c', jump :: log)) else some (x.1, x.2, log)

theorem reload_same (jump : Nat) (c : β) (log : List Nat) :
    reload load jump (jump, c) log = some (jump, c, log) := by
  unfold reload; rw [if_neg (fun h => h rfl)]

theorem reload_other {jump off : Nat} (h : jump ≠ off) (c : β) (log : List Nat) :
    reload load jump (off, c) log = (load jump).map (fun c' => (jump, c', jump :: log)) := by
  unfold reload; rw [if_pos h]

theorem iterLevels_nil (mov : Mov) (jump : Nat) (log : List Nat) :
    iterLevels ops load mov jump [] log = some ([], true, log) := by
  rw [iterLevels]

theorem iterLevels_fail {mov : Mov} {jump : Nat} {x : Nat × β} {rest : List (Nat × β)}
    {log : List Nat} (h : reload load jump x log = none) :
    iterLevels ops load mov jump (x :: rest) log = none := by
  obtain ⟨off, c⟩ := x
  rw [iterLevels]; unfold reload at h; simp only [h]

theorem iterLevels_stop {mov : Mov} {jump : Nat} {x : Nat × β} {rest : List (Nat × β)}
    {log log2 : List Nat} {o2 : Nat} {c2 c' : β} (h : reload load jump x log = some (o2, c2, log2))
    (ha : ops.apply mov c2 = (c', none)) :
    iterLevels ops load mov jump (x :: rest) log = some ((o2, c') :: rest, false, log2) := by
  obtain ⟨off, c⟩ := x
  rw [iterLevels]; unfold reload at h; simp only [h, ha]

theorem iterLevels_step {mov : Mov} {jump : Nat} {x : Nat × β} {rest : List (Nat × β)}
    {log log2 : List Nat} {o2 : Nat} {c2 c' : β} {e : Entry}
    (h : reload load jump x log = some (o2, c2, log2)) (ha : ops.apply mov c2 = (c', some e)) :
    iterLevels ops load mov jump (x :: rest) log =
      (iterLevels ops load mov (offOf e) rest log2).map
        (fun r => ((o2, c') :: r.1, r.2.1, r.2.2)) := by
  obtain ⟨off, c⟩ := x
  rw [iterLevels]; unfold reload at h; simp only [h, ha]
  cases iterLevels ops load mov (offOf e) rest log2 <;> rfl

/-! ### The recursion of `recursive_index_block` (levels last-first) -/

theorem recurLevels_nil (mov : Mov) (log : List Nat) :
    recurLevels ops load fixF1 mov [] log = some ([], none, log) := by
  rw [recurLevels]

theorem recurLevels_stay {mov : Mov} {o : Nat} {c c' : β} {e0 : Entry} (ps : List (Nat × β))
    (log : List Nat) (h : ops.apply mov c = (c', some e0)) :
    recurLevels ops load fixF1 mov ((o, c) :: ps) log = some ((o, c') :: ps, ops.current c', log) := by
  rw [recurLevels]; simp only [h]

theorem recurLevels_fail {mov : Mov} {o : Nat} {c c' : β} {ps : List (Nat × β)} {log : List Nat}
    (h : ops.apply mov c = (c', none)) (hr : recurLevels ops load fixF1 mov ps log = none) :
    recurLevels ops load fixF1 mov ((o, c) :: ps) log = none := by
  rw [recurLevels]; simp only [h, hr]

theorem recurLevels_out {mov : Mov} {o : Nat} {c c' : β} {ps ps' : List (Nat × β)}
    {log log' : List Nat} (h : ops.apply mov c = (c', none))
    (hr : recurLevels ops load fixF1 mov ps log = some (ps', none, log')) :
    recurLevels ops load fixF1 mov ((o, c) :: ps) log = some ((o, c') :: ps', none, log') := by
  rw [recurLevels]; simp only [h, hr]

theorem recurLevels_climb_fail {mov : Mov} {o : Nat} {c c' : β} {e : Entry}
    {ps ps' : List (Nat × β)} {log log' : List Nat} (h : ops.apply mov c = (c', none))
    (hr : recurLevels ops load fixF1 mov ps log = some (ps', some e, log'))
    (hl : load (offOf e) = none) :
    recurLevels ops load fixF1 mov ((o, c) :: ps) log = none := by
  rw [recurLevels]; simp only [h, hr, hl]

theorem recurLevels_climb {mov : Mov} {o : Nat} {c c' nc : β} {e : Entry}
    {ps ps' : List (Nat × β)} {log log' : List Nat} (h : ops.apply mov c = (c', none))
    (hr : recurLevels ops load fixF1 mov ps log = some (ps', some e, log'))
    (hl : load (offOf e) = some nc) :
    recurLevels ops load fixF1 mov ((o, c) :: ps) log =
      some ((if fixF1 then offOf e else o, (ops.apply mov nc).1) :: ps', (ops.apply mov nc).2,
        offOf e :: log') := by
  rw [recurLevels]; simp only [h, hr, hl]

/-! ### `iter_index_blocks` and `recursive_index_block` -/

/-- The entry under the cursor of the last index level. -/
def lastCurrent (ops : BlockOps β) (l : List (Nat × β)) : Option Entry :=
  match l.getLast? with
  | some (_, b) => ops.current b
  | none => none

theorem iterIndex_some {mov : Mov} {c : RC β} {inner : List (Nat × β)} (h : c.inner = some inner) :
    iterIndex ops load mov c =
      (iterLevels ops load mov c.base inner c.log).map (fun r =>
        ({ c with inner := some r.1, log := r.2.2 }, if r.2.1 then lastCurrent ops r.1 else none)) := by
  unfold iterIndex; rw [h]; dsimp only
  cases iterLevels ops load mov c.base inner c.log with
  | none => rfl
  | some r =>
    obtain ⟨inner', done, lg⟩ := r
    cases done <;> rfl

theorem iterIndex_none {mov : Mov} {c : RC β} (h : c.inner = none) :
    iterIndex ops load mov c =
      (initialIndex ops load mov (c.levels + 1) c.base [] c.log).map (fun r =>
        ({ c with inner := r.1, log := r.2 },
          match r.1 with
          | some l => lastCurrent ops l
          | none => none)) := by
  unfold iterIndex; rw [h]; dsimp only
  cases initialIndex ops load mov (c.levels + 1) c.base [] c.log with
  | none => rfl
  | some r =>
    obtain ⟨inner, lg⟩ := r
    cases inner <;> rfl

theorem recurIndex_some {mov : Mov} {c : RC β} {inner : List (Nat × β)} (h : c.inner = some inner) :
    recurIndex ops load fixF1 mov c =
      (recurLevels ops load fixF1 mov inner.reverse c.log).map (fun r =>
        ({ c with inner := some r.1.reverse, log := r.2.2 }, r.2.1)) := by
  unfold recurIndex; simp only [h]
  cases recurLevels ops load fixF1 mov inner.reverse c.log <;> rfl

/-- From an index cursor that holds nothing: initialise it with the same move, then go on as from
    an initialised one. -/
theorem recurIndex_none {mov : Mov} {c : RC β} (h : c.inner = none) :
    recurIndex ops load fixF1 mov c =
      match initialIndex ops load mov (c.levels + 1) c.base [] c.log with
      | none => none
      | some (none, lg) => some ({ c with inner := none, log := lg }, none)
      | some (some l, lg) => recurIndex ops load fixF1 mov { c with inner := some l, log := lg } := by
  unfold recurIndex; simp only [h]
  cases initialIndex ops load mov (c.levels + 1) c.base [] c.log with
  | none => rfl
  | some r =>
    obtain ⟨inner, lg⟩ := r
    cases inner <;> rfl

end RC

end Grenad
