/-
  The writer's loops as elementary steps.  `W.cutLevels` and `W.flushLevels` walk the index writers
  from the last one up; what they do to `(idx, out, log)` at one level is one of three elementary
  steps (`cutAt`, `rootAt`, `dataAt`).  For each loop there is an unfolding equation and a rule
  (`cutLevels_rule`, `flushLevels_rule`): an invariant indexed by the level under consideration and
  kept by the steps holds of the result, and a trap is a trap of a parent's `BW.insert`.
  `W.insert` and `W.finish` are written in terms of the same steps (`insert_cases`, `finish_eq`).
-/
import Grenad.Proofs.WriterInvBW

namespace Grenad

/-- The part of the writer state the level loops work on: index writers, output, log. -/
abbrev WSt := List BW × Bytes × List Emitted

/-- Emit the block of the index writer `cur` (list index `i+1`), whose parent (list index `i`)
    has become `parent'`. -/
def cutAt (cd : Codec) (i : Nat) (cur parent' : BW) (s : WSt) : WSt :=
  ((s.1.set i parent').set (i + 1) cur.reset, s.2.1 ++ W.blockBytes cd cur.finish,
   s.2.2 ++ [{ offset := s.2.1.length, level := s.1.length - (i + 1), raw := cur.finish,
               items := cur.items }])

/-- Emit the root block (list index 0). -/
def rootAt (cd : Codec) (cur : BW) (s : WSt) : WSt :=
  (s.1.set 0 cur.reset, s.2.1 ++ W.blockBytes cd cur.finish,
   s.2.2 ++ [{ offset := s.2.1.length, level := s.1.length, raw := cur.finish,
               items := cur.items }])

/-- Emit a data block; the last index writer (list index `i`) has become `parent'`. -/
def dataAt (cd : Codec) (i : Nat) (bw parent' : BW) (s : WSt) : WSt :=
  (s.1.set i parent', s.2.1 ++ W.blockBytes cd bw.finish,
   s.2.2 ++ [{ offset := s.2.1.length, level := 0, raw := bw.finish, items := bw.items }])

/-- Reading `(l.set i a).set (i + 1) b` — the index writers after a cut — at any index. -/
theorem getElem?_set_set {α : Type} {l : List α} {i j : Nat} {a b x : α}
    (h : ((l.set i a).set (i + 1) b)[j]? = some x) :
    (j = i + 1 ∧ x = b) ∨ (j = i ∧ x = a) ∨ (j ≠ i ∧ j ≠ i + 1 ∧ l[j]? = some x) := by
  rw [List.getElem?_set, List.getElem?_set] at h
  by_cases h1 : i + 1 = j
  · rw [if_pos h1] at h
    split at h
    · exact .inl ⟨h1.symm, (Option.some.inj h).symm⟩
    · cases h
  · rw [if_neg h1] at h
    by_cases h0 : i = j
    · rw [if_pos h0] at h
      split at h
      · exact .inr (.inl ⟨h0.symm, (Option.some.inj h).symm⟩)
      · cases h
    · rw [if_neg h0] at h
      exact .inr (.inr ⟨fun e => h0 e.symm, fun e => h1 e.symm, h⟩)

namespace W

/-- List indices 0 and 1 are never cut. -/
theorem cutLevels_lt_two (cd : Codec) (bs : Nat) {i : Nat} (h : i < 2) (idx : List BW) (out : Bytes)
    (log : List Emitted) : cutLevels cd bs i idx out log = .ok (idx, out, log) := by
  match i, h with
  | 0, _ => rfl
  | 1, _ => rfl

theorem cutLevels_of_length_le (cd : Codec) (bs : Nat) {i : Nat} {idx : List BW}
    (h : idx.length ≤ i + 2) (out : Bytes) (log : List Emitted) :
    cutLevels cd bs (i + 2) idx out log = .ok (idx, out, log) := by
  rw [cutLevels, List.getElem?_eq_none h]
  rfl

theorem cutLevels_succ_succ (cd : Codec) (bs i : Nat) (idx : List BW) (out : Bytes)
    (log : List Emitted) {cur parent : BW} (hc : idx[i + 2]? = some cur)
    (hp : idx[i + 1]? = some parent) :
    cutLevels cd bs (i + 2) idx out log =
      if bs ≤ cur.sizeEstimate then
        match cur.lastKey with
        | some lk =>
          match parent.insert lk (be64 out.length) with
          | .error t => .error t
          | .ok p' =>
            cutLevels cd bs (i + 1) (cutAt cd (i + 1) cur p' (idx, out, log)).1
              (cutAt cd (i + 1) cur p' (idx, out, log)).2.1 (cutAt cd (i + 1) cur p' (idx, out, log)).2.2
        | none => cutLevels cd bs (i + 1) idx out log
      else cutLevels cd bs (i + 1) idx out log := by
  rw [cutLevels]
  simp only [show ¬ (i + 1 + 1 < 2) by omega, if_false, hc, hp, ge_iff_le, cutAt]
  rfl

/-- `P j` is what holds when the writer at list index `j` is about to be looked at.  If skipping a
    writer that is small or empty and cutting one that is not both keep `P`, then `P` holds of the
    result, at an index below 2 (or beyond the list, when the loop was started there); and a trap
    is one of a parent's `BW.insert`, of which `E` holds. -/
theorem cutLevels_rule (cd : Codec) (bs : Nat) (P : Nat → WSt → Prop) (E : Trap → Prop)
    (hskip : ∀ i s cur, P (i + 2) s → s.1[i + 2]? = some cur →
      (cur.sizeEstimate < bs ∨ cur.lastKey = none) → P (i + 1) s)
    (hcut : ∀ i s cur parent lk, P (i + 2) s → s.1[i + 2]? = some cur →
      s.1[i + 1]? = some parent → bs ≤ cur.sizeEstimate → cur.lastKey = some lk →
      match parent.insert lk (be64 s.2.1.length) with
      | .ok p' => P (i + 1) (cutAt cd (i + 1) cur p' s)
      | .error t => E t) :
    ∀ i s, P i s → match cutLevels cd bs i s.1 s.2.1 s.2.2 with
      | .ok r => ∃ j, (j < 2 ∨ r.1.length ≤ j) ∧ P j r
      | .error t => E t := by
  intro i
  induction i with
  | zero => intro s h; exact ⟨0, .inl (by omega), h⟩
  | succ i ih =>
    intro s h
    cases i with
    | zero => exact ⟨1, .inl (by omega), h⟩
    | succ i =>
      by_cases hl : i + 2 < s.1.length
      · have hc : s.1[i + 2]? = some s.1[i + 2] := List.getElem?_eq_getElem hl
        have hp : s.1[i + 1]? = some s.1[i + 1] := List.getElem?_eq_getElem (by omega)
        rw [cutLevels_succ_succ cd bs i s.1 s.2.1 s.2.2 hc hp]
        by_cases hge : bs ≤ s.1[i + 2].sizeEstimate
        · rw [if_pos hge]
          cases hlk : s.1[i + 2].lastKey with
          | some lk =>
            have := hcut i s _ _ lk h hc hp hge hlk
            cases hins : s.1[i + 1].insert lk (be64 s.2.1.length) with
            | error t => simp only [hins] at this ⊢; exact this
            | ok p' => simp only [hins] at this ⊢; exact ih _ this
          | none => exact ih s (hskip i s _ h hc (.inr hlk))
        · rw [if_neg hge]
          exact ih s (hskip i s _ h hc (.inl (by omega)))
      · rw [cutLevels_of_length_le cd bs (by omega)]
        exact ⟨i + 2, .inr (Nat.le_of_not_lt hl), h⟩

/-- One level of `flushLevels` at a list index `i + 1 ≥ 1`: a non-empty writer is emitted and its
    last key goes to the parent; an empty one is passed over. -/
theorem flushLevels_succ_succ (cd : Codec) (i : Nat) (idx : List BW) (out : Bytes)
    (log : List Emitted) (r0 : Nat) {cur parent : BW} (hc : idx[i + 1]? = some cur)
    (hp : idx[i]? = some parent) :
    flushLevels cd (i + 2) idx out log r0 =
      match cur.lastKey with
      | some lk =>
        match parent.insert lk (be64 out.length) with
        | .error t => .error t
        | .ok p' =>
          flushLevels cd (i + 1) (cutAt cd i cur p' (idx, out, log)).1
            (cutAt cd i cur p' (idx, out, log)).2.1 (cutAt cd i cur p' (idx, out, log)).2.2 out.length
      | none => flushLevels cd (i + 1) idx out log out.length := by
  rw [flushLevels]
  simp only [hc, Nat.add_eq_zero_iff, Nat.succ_ne_self, and_false, if_false, Nat.add_sub_cancel, hp,
    cutAt, List.length_set]
  rfl

/-- The root (list index 0) is written even when it is empty; its offset is the result. -/
theorem flushLevels_one (cd : Codec) (idx : List BW) (out : Bytes) (log : List Emitted) (r0 : Nat)
    {cur : BW} (hc : idx[0]? = some cur) :
    flushLevels cd 1 idx out log r0 =
      .ok ((rootAt cd cur (idx, out, log)).1, (rootAt cd cur (idx, out, log)).2.1,
           (rootAt cd cur (idx, out, log)).2.2, out.length) := by
  rw [flushLevels]
  simp only [hc]
  cases cur.lastKey <;> simp [flushLevels, rootAt]

/-- `P m` is what holds while `m` writers (`idx[0..m]`) remain to be flushed.  If emitting a
    non-empty writer and passing over an empty one keep `P`, then what `P 1` gives for the root
    step (`Q`) holds of the result, and a trap is one of a parent's `BW.insert`, of which `E` holds. -/
theorem flushLevels_rule (cd : Codec) (P : Nat → WSt → Prop) (Q : WSt → Nat → Prop)
    (E : Trap → Prop)
    (hlen : ∀ i s, P (i + 1) s → i < s.1.length)
    (hcut : ∀ i s cur parent lk, P (i + 2) s → s.1[i + 1]? = some cur → s.1[i]? = some parent →
      cur.lastKey = some lk →
      match parent.insert lk (be64 s.2.1.length) with
      | .ok p' => P (i + 1) (cutAt cd i cur p' s)
      | .error t => E t)
    (hskip : ∀ i s cur, P (i + 2) s → s.1[i + 1]? = some cur → cur.lastKey = none → P (i + 1) s)
    (hroot : ∀ s cur, P 1 s → s.1[0]? = some cur → Q (rootAt cd cur s) s.2.1.length) :
    ∀ i s r0, P (i + 1) s → match flushLevels cd (i + 1) s.1 s.2.1 s.2.2 r0 with
      | .ok r => Q (r.1, r.2.1, r.2.2.1) r.2.2.2
      | .error t => E t := by
  intro i
  induction i with
  | zero =>
    intro s r0 h
    have hl := hlen 0 s h
    have hc : s.1[0]? = some s.1[0] := List.getElem?_eq_getElem hl
    rw [flushLevels_one cd s.1 s.2.1 s.2.2 r0 hc]
    exact hroot s _ h hc
  | succ i ih =>
    intro s r0 h
    have hl := hlen (i + 1) s h
    have hc : s.1[i + 1]? = some s.1[i + 1] := List.getElem?_eq_getElem hl
    have hp : s.1[i]? = some s.1[i] := List.getElem?_eq_getElem (by omega)
    rw [flushLevels_succ_succ cd i s.1 s.2.1 s.2.2 r0 hc hp]
    cases hlk : s.1[i + 1].lastKey with
    | some lk =>
      have := hcut i s _ _ lk h hc hp hlk
      cases hins : s.1[i].insert lk (be64 s.2.1.length) with
      | error t => simp only [hins] at this ⊢; exact this
      | ok p' => simp only [hins] at this ⊢; exact ih _ _ this
    | none => exact ih s _ (hskip i s _ h hc hlk)

/-- The first half of `Writer::into_inner`: flush the pending data block. -/
def finishData (cd : Codec) (w : W) : Except Trap WSt :=
  match w.bw.lastKey with
  | some lk =>
    match w.idx[w.idx.length - 1]? with
    | some lastIdx =>
      match lastIdx.insert lk (be64 w.out.length) with
      | .error t => .error t
      | .ok lastIdx' => .ok (dataAt cd (w.idx.length - 1) w.bw lastIdx' (w.idx, w.out, w.log))
    | none => .ok (w.idx, w.out, w.log)
  | none => .ok (w.idx, w.out, w.log)

/-- The trailer of `Writer::into_inner`. -/
def finishWrap (cd : Codec) (cnt : Nat) :
    Except Trap (List BW × Bytes × List Emitted × Nat) → Except Trap (Bytes × List Emitted)
  | .error t => .error t
  | .ok (idx, out, log, root) =>
    .ok (out ++ Meta.encode { version := 2, root := root, codec := cd.id, count := cnt, levels := (idx.length - 1) % 256 }, log)

theorem finish_eq (cd : Codec) (w : W) :
    W.finish cd w = match finishData cd w with
      | .error t => .error t
      | .ok (idx, out, log) =>
        finishWrap cd w.count (flushLevels cd idx.length idx out log out.length) := by
  unfold W.finish finishData finishWrap dataAt
  rfl

/-- `Writer::insert`, outcome by outcome.  After a successful `BW.insert` the block writer has a
    last key, and there is always a last index writer: the corresponding branches of the
    definition are dead. -/
theorem insert_cases (cd : Codec) (w : W) (k v : Bytes) (hn : 0 < w.idx.length) :
    match w.bw.insert k v with
    | .error t => W.insert cd w k v = .error t
    | .ok bw =>
      if bw.sizeEstimate < w.cfg.clamped then
        W.insert cd w k v = .ok { w with bw := bw, count := w.count + 1 }
      else ∃ last, w.idx[w.idx.length - 1]? = some last ∧
        match last.insert k (be64 w.out.length) with
        | .error t => W.insert cd w k v = .error t
        | .ok p' =>
          W.insert cd w k v =
            match cutLevels cd w.cfg.clamped (w.idx.length - 1)
                (dataAt cd (w.idx.length - 1) bw p' (w.idx, w.out, w.log)).1
                (dataAt cd (w.idx.length - 1) bw p' (w.idx, w.out, w.log)).2.1
                (dataAt cd (w.idx.length - 1) bw p' (w.idx, w.out, w.log)).2.2 with
            | .error t => .error t
            | .ok (idx, out, log) =>
              .ok { w with bw := bw.reset, count := w.count + 1, idx := idx, out := out, log := log } := by
  unfold W.insert
  cases hb : w.bw.insert k v with
  | error t => rfl
  | ok bw =>
    have hl : bw.lastKey = some k := BW.insert_lastKey hb
    have el : w.idx[w.idx.length - 1]? = some w.idx[w.idx.length - 1] :=
      List.getElem?_eq_getElem (by omega)
    simp only
    by_cases hlt : bw.sizeEstimate < w.cfg.clamped
    · rw [if_pos hlt, if_neg (by omega)]
    · rw [if_neg hlt, if_pos (by omega), hl]
      refine ⟨_, el, ?_⟩
      simp only [el]
      cases w.idx[w.idx.length - 1].insert k (be64 w.out.length) with
      | error t => rfl
      | ok p' => rfl

end W
end Grenad
