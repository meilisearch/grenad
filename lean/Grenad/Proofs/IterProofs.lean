/-
  Grenad.Proofs.IterProofs — C04 / C05: the range and prefix iterators of `Grenad.Model.Iter`,
  run over any cursor that refines the specification cursor `Spec.step es`, yield exactly the
  filtered list (forward) or its reverse (backward).

  The specification cursor is read through indices (`land`, `landB`, `lowerBound`, `upperBound`);
  `Sim` says that a cursor `step'` simulates `Spec.step es` through a relation `R` (results agree
  wherever the specification is determined; nothing is assumed where it is not); `collect_fwd` /
  `collect_bwd` are the two scans every iterator is an instance of.
-/
import Grenad.Proofs.IterLists

namespace Grenad.IterP

open Spec (Pos SRes land lowerBound upperBound)

/-! ### The specification cursor, by indices -/

/-- Backward landing: "the entry before index `n`". -/
def landB (es : List Entry) (n : Nat) : Pos × SRes :=
  if n = 0 then (.lost, some none) else land es (n - 1)

theorem upperBound_le_length (es : List Entry) (q : Bytes) : upperBound es q ≤ es.length :=
  length_takeWhile_le _ _

theorem not_decide_lt (a b : Bytes) : (!decide (a < b)) = decide (b ≤ a) := decide_not.symm

theorem not_decide_le (a b : Bytes) : (!decide (a ≤ b)) = decide (b < a) := by
  rw [← not_decide_lt, Bool.not_not]

theorem step_last (es : List Entry) (pos : Pos) : Spec.step es pos .last = landB es es.length := by
  cases es with
  | nil => cases pos <;> rfl
  | cons e t => cases pos <;> rfl

theorem step_next_at (es : List Entry) (i : Nat) :
    Spec.step es (.at i) .next = land es (i + 1) := rfl

theorem step_current_at (es : List Entry) (i : Nat) :
    Spec.step es (.at i) .current = (.at i, some es[i]?) := rfl

/-! #### `lowerBound` / `upperBound` over a strictly ascending list -/

theorem lt_of_lt_lowerBound (es : List Entry) (q : Bytes) (m : Nat) (e : Entry)
    (hm : m < lowerBound es q) (he : es[m]? = some e) : e.1 < q := by
  obtain ⟨h1, h2⟩ := getElem_takeWhile_length_lt _ es m hm
  rw [List.getElem?_eq_getElem h1] at he
  cases he
  simpa using h2

/-- The two possible relations of `upperBound` and `lowerBound` for a probe `q`:
    `q` is absent (they coincide, and neither neighbour has key `q`) or present at `lowerBound`. -/
theorem bound_cases (es : List Entry) (h : StrictAsc es) (q : Bytes) :
    (upperBound es q = lowerBound es q ∧
        (∀ e, es[lowerBound es q]? = some e → e.1 ≠ q) ∧
        (∀ m e, lowerBound es q = m + 1 → es[m]? = some e → e.1 ≠ q)) ∨
    (upperBound es q = lowerBound es q + 1 ∧ ∃ e, es[lowerBound es q]? = some e ∧ e.1 = q) := by
  have hprev : ∀ m e, lowerBound es q = m + 1 → es[m]? = some e → e.1 ≠ q := by
    intro m e hm he heq
    have := lt_of_lt_lowerBound es q m e (by omega) he
    rw [heq] at this
    exact List.lt_irrefl _ this
  have hu := TCursor.upperBound_eq h q
  cases he : es[lowerBound es q]? with
  | none =>
    rw [he] at hu
    exact Or.inl ⟨hu, (fun e h' => by cases h'), hprev⟩
  | some e =>
    rw [he] at hu
    dsimp only at hu
    by_cases heq : e.1 = q
    · rw [if_pos heq] at hu
      exact Or.inr ⟨hu, e, rfl, heq⟩
    · rw [if_neg heq] at hu
      exact Or.inl ⟨hu, (fun e' h' => by cases h'; exact heq), hprev⟩

/-! #### start / end indices of a range -/

/-- Index of the first entry accepted by the lower bound. -/
def startIdx (es : List Entry) (lo : Bound) : Nat :=
  (es.takeWhile (fun e => !startContains lo e.1)).length

/-- Index after the last entry accepted by the upper bound. -/
def endIdx (es : List Entry) (hi : Bound) : Nat :=
  (es.takeWhile (fun e => endContains hi e.1)).length

theorem startIdx_unbounded (es : List Entry) : startIdx es .unbounded = 0 := by
  cases es <;> simp [startIdx, startContains]

theorem startIdx_included (es : List Entry) (s : Bytes) :
    startIdx es (.included s) = lowerBound es s := by
  simp only [startIdx, startContains, not_decide_le]; rfl

theorem startIdx_excluded (es : List Entry) (s : Bytes) :
    startIdx es (.excluded s) = upperBound es s := by
  simp only [startIdx, startContains, not_decide_lt]; rfl

theorem endIdx_unbounded (es : List Entry) : endIdx es .unbounded = es.length := by
  have : es.takeWhile (fun e => endContains .unbounded e.1) = es := by
    induction es with
    | nil => rfl
    | cons e t ih => simpa [endContains] using ih
  simp only [endIdx, this]

theorem endIdx_included (es : List Entry) (e : Bytes) :
    endIdx es (.included e) = upperBound es e := rfl

theorem endIdx_excluded (es : List Entry) (e : Bytes) :
    endIdx es (.excluded e) = lowerBound es e := rfl

theorem endIdx_le_length (es : List Entry) (hi : Bound) : endIdx es hi ≤ es.length :=
  length_takeWhile_le _ _

theorem startContains_mono {lo : Bound} {a b : Bytes} (hab : a < b) :
    startContains lo a = true → startContains lo b = true := by
  cases lo with
  | unbounded => intro _; rfl
  | included s =>
    simp only [startContains, decide_eq_true_eq]
    exact fun h => List.le_of_lt (List.lt_of_le_of_lt h hab)
  | excluded s =>
    simp only [startContains, decide_eq_true_eq]
    exact fun h => List.lt_trans h hab

theorem endContains_anti {hi : Bound} {a b : Bytes} (hab : a < b) :
    endContains hi b = true → endContains hi a = true := by
  cases hi with
  | unbounded => intro _; rfl
  | included s =>
    simp only [endContains, decide_eq_true_eq]
    exact fun h => List.le_of_lt (TCursor.blt_of_lt_of_le hab h)
  | excluded s =>
    simp only [endContains, decide_eq_true_eq]
    exact fun h => List.lt_trans hab h

/-- Ascending characterisation of a range. -/
theorem range_eq_fwd (es : List Entry) (h : StrictAsc es) (lo hi : Bound) :
    Spec.range es lo hi =
      (es.drop (startIdx es lo)).takeWhile (fun e => endContains hi e.1) := by
  unfold Spec.range startIdx
  rw [← dropWhile_eq_drop_length_takeWhile]
  have := filter_eq_takeWhile_dropWhile (fun e : Entry => startContains lo e.1)
    (fun e : Entry => endContains hi e.1) es
    (h.imp (fun hab => startContains_mono hab))
    (h.imp (fun hab _ => endContains_anti hab))
  simpa [inRange] using this

/-- Descending characterisation of a range. -/
theorem range_reverse_eq_bwd (es : List Entry) (h : StrictAsc es) (lo hi : Bound) :
    (Spec.range es lo hi).reverse =
      (es.take (endIdx es hi)).reverse.takeWhile (fun e => startContains lo e.1) := by
  unfold Spec.range endIdx
  rw [← reverse_dropWhile_not_of_closed (fun e : Entry => endContains hi e.1) es
    (h.imp (fun hab => endContains_anti hab)), ← List.filter_reverse]
  have hr : es.reverse.Pairwise (fun a b => b.1 < a.1) := List.pairwise_reverse.mpr h
  have := filter_eq_takeWhile_dropWhile (fun e : Entry => endContains hi e.1)
    (fun e : Entry => startContains lo e.1) es.reverse
    (hr.imp (fun hab => endContains_anti hab))
    (hr.imp (fun hab _ => startContains_mono hab))
  rw [← this]
  apply List.filter_congr
  intro e _
  simp [inRange, Bool.and_comm]

/-- Ascending characterisation of a prefix set. -/
theorem withPrefix_eq_fwd (es : List Entry) (h : StrictAsc es) (p : Bytes) :
    Spec.withPrefix es p =
      (es.drop (lowerBound es p)).takeWhile (fun e => p.isPrefixOf e.1) := by
  rw [← startIdx_included]
  unfold Spec.withPrefix startIdx
  rw [← dropWhile_eq_drop_length_takeWhile]
  have hclosed : ∀ a b : Bytes, a < b → p ≤ a → p.isPrefixOf b = true → p.isPrefixOf a = true := by
    intro a b hab hpa hpb
    cases hp : advanceKey p with
    | some s =>
      exact (advanceKey_spec p s hp a).mpr
        ⟨hpa, List.lt_trans hab ((advanceKey_spec p s hp b).mp hpb).2⟩
    | none => exact (isPrefixOf_iff_le_of_all255 p ((advanceKey_none p).mp hp) a).mpr hpa
  have := filter_eq_takeWhile_dropWhile (fun e : Entry => startContains (.included p) e.1)
    (fun e : Entry => p.isPrefixOf e.1) es
    (h.imp (fun hab => startContains_mono hab))
    (h.imp (fun {a b} hab hq => hclosed a.1 b.1 hab (by simpa [startContains] using hq)))
  rw [← this]
  apply List.filter_congr
  intro e _
  cases hpe : p.isPrefixOf e.1 with
  | false => simp
  | true => simp [startContains, le_of_isPrefixOf hpe]

/-- Index after the last entry that can start with `p`. -/
def prefixEndIdx (es : List Entry) (p : Bytes) : Nat :=
  match advanceKey p with
  | some np => lowerBound es np
  | none => es.length

theorem prefixEndIdx_le_length (es : List Entry) (p : Bytes) : prefixEndIdx es p ≤ es.length := by
  unfold prefixEndIdx
  cases advanceKey p with
  | none => exact Nat.le_refl _
  | some np => exact TCursor.lowerBound_le es np

/-- Descending characterisation of a prefix set. -/
theorem withPrefix_reverse_eq_bwd (es : List Entry) (h : StrictAsc es) (p : Bytes) :
    (Spec.withPrefix es p).reverse =
      (es.take (prefixEndIdx es p)).reverse.takeWhile (fun e => p.isPrefixOf e.1) := by
  have hr : es.reverse.Pairwise (fun a b => b.1 < a.1) := List.pairwise_reverse.mpr h
  unfold Spec.withPrefix prefixEndIdx
  rw [← List.filter_reverse]
  cases hp : advanceKey p with
  | none =>
    have h255 := (advanceKey_none p).mp hp
    simp only [List.take_length]
    have := filter_eq_takeWhile_of_all (fun _ : Entry => true) (fun e : Entry => p.isPrefixOf e.1)
      es.reverse (fun _ _ => rfl)
      (hr.imp (fun {a b} hab hb => (isPrefixOf_iff_le_of_all255 p h255 a.1).mpr
        (List.le_of_lt (List.lt_of_le_of_lt
          ((isPrefixOf_iff_le_of_all255 p h255 b.1).mp hb) hab))))
    simpa using this
  | some np =>
    simp only
    rw [← endIdx_excluded, endIdx,
      ← reverse_dropWhile_not_of_closed (fun e : Entry => endContains (.excluded np) e.1) es
        (h.imp (fun hab => endContains_anti hab))]
    have := filter_eq_takeWhile_dropWhile (fun e : Entry => endContains (.excluded np) e.1)
      (fun e : Entry => p.isPrefixOf e.1) es.reverse
      (hr.imp (fun hab => endContains_anti hab))
      (hr.imp (fun {a b} hab ha hb => (advanceKey_spec p np hp a.1).mpr
        ⟨List.le_of_lt (List.lt_of_le_of_lt ((advanceKey_spec p np hp b.1).mp hb).1 hab),
          by simpa [endContains] using ha⟩))
    rw [← this]
    apply List.filter_congr
    intro e _
    cases hpe : p.isPrefixOf e.1 with
    | false => simp
    | true => simp [endContains, ((advanceKey_spec p np hp e.1).mp hpe).2]

/-! ### Simulation of the specification cursor -/

/-- `step'` simulates the specification cursor over `es` through `R`: positions stay related and
    results agree *wherever the specification determines them* (`Spec.Agree`); where it does not
    (`next` / `prev` / `current` in position `lost`) the result of `step'` is arbitrary. -/
def Sim {γ : Type} (es : List Entry) (step' : γ → Op → γ × Res) (R : γ → Pos → Prop) : Prop :=
  ∀ c pos op, R c pos →
    R (step' c op).1 (Spec.step es pos op).1 ∧ Spec.Agree (step' c op).2 (Spec.step es pos op).2

theorem sim_stepTotal (es : List Entry) : Sim es (Spec.stepTotal es) Eq := by
  intro c pos op h
  subst h
  unfold Spec.stepTotal
  cases hs : Spec.step es c op with
  | mk p' r => cases r <;> simp [Spec.Agree]

section sim
variable {γ : Type} {es : List Entry} {step' : γ → Op → γ × Res} {R : γ → Pos → Prop}

/-- Where the specification determines the result, `step'` returns it and lands on a related position. -/
theorem sim_some (hsim : Sim es step' R) {c : γ} {pos p' : Pos} {op : Op} {r : Option Entry}
    (hR : R c pos) (hs : Spec.step es pos op = (p', some r)) :
    ∃ c', step' c op = (c', .ok r) ∧ R c' p' := by
  obtain ⟨h1, h2⟩ := hsim c pos op hR
  rw [hs] at h1 h2
  exact ⟨(step' c op).1, Prod.ext rfl h2, h1⟩

theorem sim_land (hsim : Sim es step' R) {c : γ} {pos : Pos} {op : Op} {i : Nat}
    (hR : R c pos) (hs : Spec.step es pos op = land es i) :
    ∃ c', step' c op = (c', .ok es[i]?) ∧ (i < es.length → R c' (.at i)) := by
  obtain ⟨c', h1, h2⟩ := sim_some hsim hR (hs.trans (TCursor.land_eq es i))
  exact ⟨c', h1, fun hi => by simpa [hi] using h2⟩

theorem sim_landB (hsim : Sim es step' R) {c : γ} {pos : Pos} {op : Op} {n : Nat}
    (hR : R c pos) (hn : n ≤ es.length) (hs : Spec.step es pos op = landB es n) :
    ∃ c', (n = 0 ∧ step' c op = (c', .ok none) ∧ R c' .lost) ∨
      (∃ m e, n = m + 1 ∧ es[m]? = some e ∧ step' c op = (c', .ok (some e)) ∧ R c' (.at m)) := by
  cases n with
  | zero =>
    obtain ⟨c', h1, h2⟩ := sim_some hsim hR (hs.trans rfl)
    exact ⟨c', .inl ⟨rfl, h1, h2⟩⟩
  | succ m =>
    obtain ⟨c', h1, h2⟩ := sim_land hsim hR (i := m) (hs.trans rfl)
    have hm : m < es.length := hn
    refine ⟨c', .inr ⟨m, es[m], rfl, List.getElem?_eq_getElem hm, ?_, h2 hm⟩⟩
    rw [h1, List.getElem?_eq_getElem hm]

end sim

/-- Ascending scan: if each call examines `es[i]`, yields it and moves to `i+1` when it is `good`,
    and ends otherwise, then `collect` yields the `good`-prefix of `es.drop i`. -/
theorem collect_fwd {ι : Type} (nxt : ι → ι × Res) (es : List Entry) (good : Entry → Bool)
    (I : ι → Nat → Prop)
    (hstep : ∀ it i, I it i → ∃ it',
      (∃ e, es[i]? = some e ∧ good e = true ∧ nxt it = (it', .ok (some e)) ∧ I it' (i + 1)) ∨
      ((∀ e, es[i]? = some e → good e = false) ∧ nxt it = (it', .ok none))) :
    ∀ (fuel : Nat) (it : ι) (i : Nat) (acc : List Entry), I it i → es.length < fuel + i →
      collect nxt fuel it acc = some (acc.reverse ++ (es.drop i).takeWhile good) := by
  intro fuel
  induction fuel with
  | zero =>
    intro it i acc _ hf
    rw [List.drop_eq_nil_of_le (by omega)]
    simp [collect]
  | succ fuel ih =>
    intro it i acc hI hf
    obtain ⟨it', h | h⟩ := hstep it i hI
    · obtain ⟨e, he, hg, hn, hI'⟩ := h
      have hi : i < es.length := by
        rcases Nat.lt_or_ge i es.length with h | h
        · exact h
        · rw [List.getElem?_eq_none h] at he; cases he
      have hee : es[i] = e := by
        rw [List.getElem?_eq_getElem hi] at he; exact Option.some.inj he
      simp only [collect, hn]
      rw [ih it' (i + 1) (e :: acc) hI' (by omega), List.drop_eq_getElem_cons hi, hee,
        List.takeWhile_cons_of_pos hg]
      simp
    · obtain ⟨hb, hn⟩ := h
      simp only [collect, hn]
      rcases Nat.lt_or_ge i es.length with hi | hi
      · have := hb es[i] (List.getElem?_eq_getElem hi)
        rw [List.drop_eq_getElem_cons hi, List.takeWhile_cons_of_neg (by simp [this])]
        simp
      · rw [List.drop_eq_nil_of_le hi]; simp

/-- Descending scan: if each call examines `es[n-1]`, yields it and moves to `n-1` when it is
    `good`, and ends otherwise (or when `n = 0`), then `collect` yields the `good`-prefix of the
    reversed `es.take n`. -/
theorem collect_bwd {ι : Type} (nxt : ι → ι × Res) (es : List Entry) (good : Entry → Bool)
    (I : ι → Nat → Prop)
    (hstep : ∀ it n, I it n → ∃ it',
      (∃ m e, n = m + 1 ∧ es[m]? = some e ∧ good e = true ∧ nxt it = (it', .ok (some e)) ∧
        I it' m) ∨
      ((∀ m e, n = m + 1 → es[m]? = some e → good e = false) ∧ nxt it = (it', .ok none))) :
    ∀ (fuel : Nat) (it : ι) (n : Nat) (acc : List Entry), I it n → n ≤ es.length → n < fuel →
      collect nxt fuel it acc = some (acc.reverse ++ (es.take n).reverse.takeWhile good) := by
  intro fuel
  induction fuel with
  | zero => intro it n acc _ _ hf; omega
  | succ fuel ih =>
    intro it n acc hI hn hf
    obtain ⟨it', h | h⟩ := hstep it n hI
    · obtain ⟨m, e, hnm, he, hg, hnx, hI'⟩ := h
      subst hnm
      simp only [collect, hnx]
      rw [ih it' m (e :: acc) hI' (by omega) (by omega), List.take_add_one, he]
      simp [List.takeWhile_cons_of_pos, hg]
    · obtain ⟨hb, hnx⟩ := h
      simp only [collect, hnx]
      cases n with
      | zero => simp
      | succ m =>
        have hm : m < es.length := hn
        have := hb m es[m] rfl (List.getElem?_eq_getElem hm)
        rw [List.take_add_one, List.getElem?_eq_getElem hm, Option.toList_some,
          List.reverse_append, List.reverse_singleton, List.singleton_append,
          List.takeWhile_cons_of_neg (by simp [this])]
        simp

/-! ### The first half of each `next` -/

section iters
variable {γ : Type} (step : γ → Op → γ × Res)

/-- First half of `RangeIter.next`: position the cursor. -/
def rangeSeek (it : RangeIter γ) : γ × Res :=
  if it.start then
    match it.lo with
    | .unbounded => step it.cursor .first
    | .included s => step it.cursor (.ge s)
    | .excluded s =>
      match step it.cursor (.ge s) with
      | (c, .ok (some (k, v))) => if k = s then step c .next else (c, .ok (some (k, v)))
      | (c, r) => (c, r)
  else step it.cursor .next

def rangeSeekRev (it : RangeIter γ) : γ × Res :=
  if it.start then
    match it.hi with
    | .unbounded => step it.cursor .last
    | .included e => step it.cursor (.le e)
    | .excluded e =>
      match step it.cursor (.le e) with
      | (c, .ok (some (k, v))) => if k = e then step c .prev else (c, .ok (some (k, v)))
      | (c, r) => (c, r)
  else step it.cursor .prev

def prefixSeek (it : PrefixIter γ) : γ × Res :=
  if it.start then step it.cursor (.ge it.pre) else step it.cursor .next

def prefixSeekRev (it : PrefixIter γ) : γ × Res :=
  if it.start then moveOnLastPrefix step it.cursor it.pre else step it.cursor .prev

end iters

end Grenad.IterP
