/-
  Predicates over pending writers and emitted blocks, the list of all pending index keys, and the
  invariant `LInv` of both level loops with its steps (`LInv.skip`, `LInv.cut`, `LInv.data`);
  what `W.cutLevels` leaves behind.
-/
import Grenad.Proofs.WriterEq

namespace Grenad

open BW

/-- A pending writer that is subject to cutting: empty, or below the block size. -/
def Pend (B : Nat) (w : BW) : Prop := w.items = [] ∨ w.sizeEstimate < B

/-- `w` is one insert after a reachable state that was empty or below the block size. -/
def GoodPred (iv B : Nat) (w : BW) : Prop :=
  ∃ p k v, Reach iv p ∧ p.insert k v = .ok w ∧ Pend B p

def PendG (iv B : Nat) (w : BW) : Prop := w.items = [] ∨ GoodPred iv B w

/-- What is recorded of an emitted block (`n` = number of index writers = `levels + 1`):
    it is the `finish` of a reachable block writer, and on the levels that are subject to cutting
    (data blocks, and index blocks at list index `≥ 2`, i.e. `level + 2 ≤ n`) the writer was below
    the block size (or empty) before its final entry. -/
def EmOK (iv B n : Nat) (e : Emitted) : Prop :=
  ∃ bw, Reach iv bw ∧ e.items = bw.items ∧ e.raw = bw.finish ∧
    ((e.level = 0 ∨ e.level + 2 ≤ n) → GoodPred iv B bw)

theorem GoodPred.items_ne_nil {iv B : Nat} {w : BW} (h : GoodPred iv B w) : w.items ≠ [] := by
  obtain ⟨p, k, v, _, hi, _⟩ := h
  rw [insert_items hi]
  simp

theorem Pend.toPendG {iv B : Nat} {w : BW} (hr : Reach iv w) (hp : Pend B w) : PendG iv B w := by
  cases hr with
  | new => exact .inl rfl
  | step hpR hi =>
    rcases hp with hp | hp
    · exact .inl hp
    · refine .inr ⟨_, _, _, hpR, hi, .inr ?_⟩
      have := (sizeEstimate_insert hi).1
      omega

def bwKeys (w : BW) : List Bytes := w.items.map Prod.fst

def allKeys (idx : List BW) : List Bytes := idx.flatMap bwKeys

abbrev Asc (l : List Bytes) : Prop := l.Pairwise (· < ·)

@[simp] theorem allKeys_nil : allKeys [] = [] := rfl
@[simp] theorem allKeys_cons (a : BW) (t : List BW) : allKeys (a :: t) = bwKeys a ++ allKeys t := by
  simp [allKeys]

theorem bwKeys_new (iv : Nat) : bwKeys (BW.new iv) = [] := rfl

/-- Moving the last key of writer `i+1` to the end of writer `i` and emptying writer `i+1`
    yields a sublist of the keys. -/
theorem allKeys_transfer {idx : List BW} {i : Nat} {parent cur parent' cur' : BW} {lk : Bytes}
    (hp : idx[i]? = some parent) (hc : idx[i+1]? = some cur)
    (hp' : bwKeys parent' = bwKeys parent ++ [lk]) (hlk : lk ∈ bwKeys cur) (hc' : bwKeys cur' = []) :
    (allKeys ((idx.set i parent').set (i+1) cur')).Sublist (allKeys idx) := by
  induction idx generalizing i with
  | nil => simp at hp
  | cons a t ih =>
    cases i with
    | zero =>
      simp at hp
      subst hp
      cases t with
      | nil => simp at hc
      | cons b C =>
        simp at hc
        subst hc
        simp only [List.set_cons_zero, List.set_cons_succ, allKeys_cons, hp', hc', List.nil_append]
        rw [List.append_assoc]
        refine List.Sublist.append_left ?_ _
        refine List.Sublist.append_right ?_ _
        exact List.singleton_sublist.mpr hlk
    | succ i =>
      simp only [List.getElem?_cons_succ] at hp hc
      simp only [List.set_cons_succ, allKeys_cons]
      exact List.Sublist.append_left (ih hp hc) _

theorem allKeys_adjacent {idx : List BW} {i : Nat} {a b : BW}
    (ha : idx[i]? = some a) (hb : idx[i+1]? = some b) (h : Asc (allKeys idx)) :
    ∀ x ∈ bwKeys a, ∀ y ∈ bwKeys b, x < y := by
  induction idx generalizing i with
  | nil => simp at ha
  | cons c t ih =>
    cases i with
    | zero =>
      simp at ha
      subst ha
      cases t with
      | nil => simp at hb
      | cons d C =>
        simp at hb
        subst hb
        simp only [allKeys_cons] at h
        intro x hx y hy
        exact (List.pairwise_append.mp h).2.2 x hx y (List.mem_append_left _ hy)
    | succ i =>
      simp only [List.getElem?_cons_succ] at ha hb
      simp only [allKeys_cons] at h
      exact ih ha hb (List.pairwise_append.mp h).2.1

theorem allKeys_set_last {idx : List BW} {w w' : BW} {lk : Bytes}
    (hw : idx[idx.length - 1]? = some w) (hw' : bwKeys w' = bwKeys w ++ [lk]) :
    allKeys (idx.set (idx.length - 1) w') = allKeys idx ++ [lk] := by
  rcases List.eq_nil_or_concat idx with rfl | ⟨ini, x, rfl⟩
  · simp at hw
  · simp only [List.concat_eq_append, List.length_append, List.length_singleton,
      Nat.add_sub_cancel] at hw ⊢
    rw [List.getElem?_append_right (Nat.le_refl _), Nat.sub_self] at hw
    cases hw
    rw [List.set_append_right _ _ (Nat.le_refl _), Nat.sub_self]
    simp [allKeys, hw']

theorem be64_length_le (v : Nat) : (be64 v).length ≤ u32Max := by
  rw [be64_length]; decide

theorem bwKeys_insert {p w : BW} {k v : Bytes} (h : p.insert k v = .ok w) :
    bwKeys w = bwKeys p ++ [k] := by
  simp [bwKeys, insert_items h]

theorem BW.Reach.lastKey_mem_bwKeys {iv : Nat} {w : BW} {lk : Bytes} (h : Reach iv w)
    (hl : w.lastKey = some lk) : lk ∈ bwKeys w := by
  obtain ⟨ini, x, hit⟩ := h.lastKey_mem hl
  simp [bwKeys, hit]

/-- An index entry `(lk, offset)` is refused only by the order assertion: the parent holds a key
    that is not below `lk`. -/
theorem link_error {iv : Nat} {parent : BW} {lk v : Bytes} {t : Trap} (hR : Reach iv parent)
    (hlk : lk.length ≤ u32Max) (hv : v.length ≤ u32Max) (h : parent.insert lk v = .error t) :
    t = .keyOrder ∧ ∃ x ∈ bwKeys parent, ¬ x < lk := by
  rcases insert_error h with ⟨_, h'⟩ | ⟨_, h'⟩ | ⟨ht, _, _, plk, hplk, hnlt⟩
  · omega
  · omega
  · exact ⟨ht, plk, hR.lastKey_mem_bwKeys hplk, hnlt⟩

/-- The index writers while the one at list index `i` is under consideration: all are reachable;
    those at list index `≥ 2` are empty or below the block size, except writer `i`, which may
    just have received an entry and was so before it. -/
structure LvInv (iv B n i : Nat) (idx : List BW) : Prop where
  len : idx.length = n
  reach : ∀ w ∈ idx, Reach iv w
  pend : ∀ j w, idx[j]? = some w → 2 ≤ j → j ≠ i → Pend B w
  hot : ∀ w, idx[i]? = some w → 2 ≤ i → PendG iv B w

namespace LvInv

variable {iv B n i : Nat} {idx : List BW}

/-- With `j` below list index 2 no writer is exempt, so any may be taken as the exempt one. -/
theorem of_lt_two {j : Nat} (h : LvInv iv B n j idx) (hj : j < 2) : LvInv iv B n i idx :=
  ⟨h.len, h.reach, fun j' w hw h2 _ => h.pend j' w hw h2 (by omega),
    fun w hw h2 => Pend.toPendG (h.reach w (List.mem_of_getElem? hw)) (h.pend i w hw h2 (by omega))⟩

/-- Writer `i + 1` turned out empty or small: go on to writer `i`. -/
theorem cool {cur : BW} (h : LvInv iv B n (i + 1) idx) (hc : idx[i + 1]? = some cur)
    (hP : Pend B cur) : LvInv iv B n i idx where
  len := h.len
  reach := h.reach
  pend := by
    intro j w hj h2 _
    by_cases hji : j = i + 1
    · subst hji; rw [hc] at hj; cases hj; exact hP
    · exact h.pend j w hj h2 hji
  hot := fun w hw h2 => Pend.toPendG (h.reach w (List.mem_of_getElem? hw)) (h.pend i w hw h2 (by omega))

/-- An entry goes into writer `i` while no writer is exempt. -/
theorem push {j : Nat} {parent p' : BW} {lk v : Bytes} (h : LvInv iv B n j idx) (hj : j < 2)
    (hp : idx[i]? = some parent) (hins : parent.insert lk v = .ok p') :
    LvInv iv B n i (idx.set i p') where
  len := by simp [h.len]
  reach := by
    intro w hw
    rcases List.mem_or_eq_of_mem_set hw with hw | hw
    · exact h.reach w hw
    · rw [hw]; exact Reach.step (h.reach parent (List.mem_of_getElem? hp)) hins
  pend := by
    intro j' w hw h2 hne
    rw [List.getElem?_set_ne (by omega)] at hw
    exact h.pend j' w hw h2 (by omega)
  hot := by
    intro w hw h2
    rw [List.getElem?_set_self (List.getElem?_eq_some_iff.mp hp).1] at hw
    cases hw
    exact .inr ⟨parent, lk, v, h.reach parent (List.mem_of_getElem? hp), hins,
      h.pend i parent hp h2 (by omega)⟩

/-- Writer `i + 1` is emitted and reset, its parent `i` takes the index entry. -/
theorem link {cur parent p' : BW} {lk v : Bytes} (h : LvInv iv B n (i + 1) idx)
    (hc : idx[i + 1]? = some cur) (hp : idx[i]? = some parent) (hins : parent.insert lk v = .ok p') :
    LvInv iv B n i ((idx.set i p').set (i + 1) cur.reset) where
  len := by simp [h.len]
  reach := by
    intro w hw
    rcases List.mem_or_eq_of_mem_set hw with hw | hw
    · rcases List.mem_or_eq_of_mem_set hw with hw | hw
      · exact h.reach w hw
      · rw [hw]; exact Reach.step (h.reach parent (List.mem_of_getElem? hp)) hins
    · rw [hw, (h.reach cur (List.mem_of_getElem? hc)).reset_eq]; exact Reach.new
  pend := by
    intro j w hw h2 hne
    rcases getElem?_set_set hw with ⟨_, rfl⟩ | ⟨rfl, _⟩ | ⟨_, hj1, hw⟩
    · exact .inl rfl
    · exact absurd rfl hne
    · exact h.pend j w hw h2 hj1
  hot := by
    intro w hw h2
    rcases getElem?_set_set hw with ⟨hj, _⟩ | ⟨_, rfl⟩ | ⟨hj, _, _⟩
    · omega
    · exact .inr ⟨parent, lk, v, h.reach parent (List.mem_of_getElem? hp), hins,
        h.pend i parent hp h2 (by omega)⟩
    · exact absurd rfl hj

end LvInv

/-- Invariant of a level loop on `(idx, out, log)`, with the writer at list index `i` under
    consideration: the pending keys are a sublist of `K`, the log extends `log0`, and every
    emitted block satisfies `EmOK` — and, while blocks are only cut for their size (`big`), has at
    least `B` bytes. -/
structure LInv (iv B n : Nat) (K : List Bytes) (log0 : List Emitted) (big : Prop) (i : Nat)
    (s : WSt) : Prop where
  lv : LvInv iv B n i s.1
  keys : (allKeys s.1).Sublist K
  ext : log0 <+: s.2.2
  logok : ∀ e ∈ s.2.2, EmOK iv B n e ∧ (big → B ≤ e.raw.length)

namespace LInv

variable {iv B n : Nat} {K : List Bytes} {log0 : List Emitted} {big : Prop} {i : Nat} {s : WSt}

theorem skip {cur : BW} (h : LInv iv B n K log0 big (i + 1) s) (hc : s.1[i + 1]? = some cur)
    (hP : Pend B cur) : LInv iv B n K log0 big i s :=
  ⟨h.lv.cool hc hP, h.keys, h.ext, h.logok⟩

/-- The step shared by both level loops: writer `i + 1` holds a last key and is emitted.  Either
    its parent refuses the index entry — then the pending keys were not ascending — or the
    invariant holds again, one level up. -/
theorem cut (cd : Codec) {cur parent : BW} {lk : Bytes} (h : LInv iv B n K log0 big (i + 1) s)
    (hc : s.1[i + 1]? = some cur) (hp : s.1[i]? = some parent) (hlk : cur.lastKey = some lk)
    (hbig : big → B ≤ cur.sizeEstimate) :
    match parent.insert lk (be64 s.2.1.length) with
    | .ok p' => LInv iv B n K log0 big i (cutAt cd i cur p' s)
    | .error t => t = .keyOrder ∧ ¬ Asc K := by
  have hcurR : Reach iv cur := h.lv.reach cur (List.mem_of_getElem? hc)
  have hparR : Reach iv parent := h.lv.reach parent (List.mem_of_getElem? hp)
  have hlkmem : lk ∈ bwKeys cur := hcurR.lastKey_mem_bwKeys hlk
  cases hins : parent.insert lk (be64 s.2.1.length) with
  | error t =>
    obtain ⟨ht, x, hx, hn⟩ := link_error hparR (hcurR.lastKey_len hlk) (be64_length_le _) hins
    exact ⟨ht, fun hasc => hn (allKeys_adjacent hp hc (hasc.sublist h.keys) x hx lk hlkmem)⟩
  | ok p' =>
    refine ⟨h.lv.link hc hp hins, ?_, h.ext.trans (List.prefix_append _ _), ?_⟩
    · exact (allKeys_transfer hp hc (bwKeys_insert hins) hlkmem
        (by rw [hcurR.reset_eq]; rfl)).trans h.keys
    · intro e he
      rcases List.mem_append.mp he with he | he
      · exact h.logok e he
      · simp only [List.mem_singleton] at he
        subst he
        refine ⟨⟨cur, hcurR, rfl, rfl, fun hlv => ?_⟩, fun hb => ?_⟩
        · -- a level subject to cutting is a list index `≥ 2`
          have hlv' : s.1.length - (i + 1) = 0 ∨ s.1.length - (i + 1) + 2 ≤ n := hlv
          have hin := (List.getElem?_eq_some_iff.mp hc).1
          have hlen := h.lv.len
          exact (h.lv.hot cur hc (by omega)).resolve_left (hcurR.items_ne_nil_of_lastKey hlk)
        · show B ≤ cur.finish.length
          rw [finish_length]; exact hbig hb

/-- Emission of a data block `bw` (by `insert` or `into_inner`): its last key goes to the last
    index writer.  `K'` is the key list the caller measures against. -/
theorem data (cd : Codec) {K' : List Bytes} {bw last : BW} {lk : Bytes}
    (h : LInv iv B n K log0 big i s) (hi : i < 2) (hbwR : Reach iv bw) (hgood : GoodPred iv B bw)
    (hlk : bw.lastKey = some lk) (hp : s.1[s.1.length - 1]? = some last)
    (hK : (allKeys s.1 ++ [lk]).Sublist K') (hbig : big → B ≤ bw.sizeEstimate) :
    match last.insert lk (be64 s.2.1.length) with
    | .ok p' => LInv iv B n K' log0 big (s.1.length - 1) (dataAt cd (s.1.length - 1) bw p' s)
    | .error t => t = .keyOrder ∧ ¬ Asc K' := by
  have hlastR : Reach iv last := h.lv.reach last (List.mem_of_getElem? hp)
  cases hins : last.insert lk (be64 s.2.1.length) with
  | error t =>
    obtain ⟨ht, x, hx, hn⟩ := link_error hlastR (hbwR.lastKey_len hlk) (be64_length_le _) hins
    refine ⟨ht, fun hasc => hn ?_⟩
    exact (List.pairwise_append.mp (hasc.sublist hK)).2.2 x
      (List.mem_flatMap.mpr ⟨_, List.mem_of_getElem? hp, hx⟩) lk (by simp)
  | ok p' =>
    refine ⟨h.lv.push hi hp hins, ?_, h.ext.trans (List.prefix_append _ _), ?_⟩
    · show (allKeys (s.1.set (s.1.length - 1) p')).Sublist K'
      rw [allKeys_set_last hp (bwKeys_insert hins)]
      exact hK
    · intro e he
      rcases List.mem_append.mp he with he | he
      · exact h.logok e he
      · simp only [List.mem_singleton] at he
        subst he
        refine ⟨⟨bw, hbwR, rfl, rfl, fun _ => hgood⟩, fun hb => ?_⟩
        show B ≤ bw.finish.length
        rw [finish_length]; exact hbig hb

end LInv

namespace W

/-- The level loop of `Writer::insert`, started at the writer `i` that has just received an
    entry: afterwards no writer is exempt any more; its only trap is `keyOrder`, which requires the
    pending keys not to be ascending. -/
theorem cutLevels_spec (cd : Codec) {iv B n : Nat} {K : List Bytes} {log0 : List Emitted} {i : Nat}
    {s : WSt} (h : LInv iv B n K log0 True i s) (hi : i < n) :
    match cutLevels cd B i s.1 s.2.1 s.2.2 with
    | .ok r => LInv iv B n K log0 True 0 r
    | .error t => t = .keyOrder ∧ ¬ Asc K := by
  have := cutLevels_rule cd B (fun j s => LInv iv B n K log0 True j s ∧ j < n)
    (fun t => t = .keyOrder ∧ ¬ Asc K)
    (fun j s cur h hc hsmall => ⟨h.1.skip hc (by
      rcases hsmall with hlt | hnone
      · exact .inr hlt
      · exact .inl ((h.1.lv.reach cur (List.mem_of_getElem? hc)).items_nil_of_lastKey_none hnone)),
      by omega⟩)
    (fun j s cur parent lk h hc hp hge hlk => by
      have := h.1.cut cd hc hp hlk (fun _ => hge)
      cases hins : parent.insert lk (be64 s.2.1.length) with
      | error t => rw [hins] at this; exact this
      | ok p' => rw [hins] at this; exact ⟨this, by omega⟩)
    i s ⟨h, hi⟩
  cases hr : cutLevels cd B i s.1 s.2.1 s.2.2 with
  | error t => rw [hr] at this; exact this
  | ok r =>
    rw [hr] at this
    obtain ⟨j, hj, hL, hjn⟩ := this
    rcases hj with hj | hj
    · exact ⟨hL.lv.of_lt_two hj, hL.keys, hL.ext, hL.logok⟩
    · have := hL.lv.len; omega

end W
end Grenad
