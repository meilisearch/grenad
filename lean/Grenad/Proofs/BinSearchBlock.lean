/-
  Grenad.Proofs.BinSearchBlock — the two in-block searches of `Grenad.Model.Block`
  (`BlockCursor.searchOffsets`, `BlockCursor.searchKey`), which the model defines by their
  `takeWhile` specification, are the results of Rust's `binary_search_by` loops
  (`Grenad.Model.BinSearch`) with the comparisons the crate passes, on every strictly ascending
  table — in particular on every block built by the block writer (`BlockOf`).
-/
import Grenad.Proofs.BinSearchProofs
import Grenad.Proofs.TBlock5

namespace Grenad.BinSearch

open Grenad

/-- `entry_at(off).map(|(key, _, _)| key)`: the key of the entry a table offset designates. -/
def keyAt (b : Block) (off : Nat) : Option Bytes := (b.entryAt off).map (fun (k, _, _) => k)

/-- The comparison of `offsets.binary_search_by_key(&Some(key), |off| entry_at(off).key)`:
    `|off| entry_at(off).key.cmp(&Some(key))`. -/
def cmpKey (b : Block) (key : Bytes) (off : Nat) : Ordering :=
  compareOption cmpBytes (keyAt b off) (some key)

/-- The keys designated by the offset table ascend strictly (`None < Some _`). -/
def TableKeysAsc (b : Block) : Prop :=
  b.offsets.Pairwise (fun o₁ o₂ => Option.lt (· < ·) (keyAt b o₁) (keyAt b o₂))

/-- The comparison of `offsets.binary_search(&x)`, `|p| p.cmp(&x)`, is monotone. -/
theorem cmpOff_mono (x a b : Nat) (hab : a < b) (h : compare a x ≠ .lt) : compare b x = .gt := by
  rw [Nat.compare_eq_gt]
  have : ¬ a < x := fun h' => h (Nat.compare_eq_lt.mpr h')
  omega

theorem searchOffsets_eq_takeWhile (offs : List Nat) (x : Nat) :
    BlockCursor.searchOffsets offs x = (offs.takeWhile (fun o => compare o x == .lt)).length := by
  unfold BlockCursor.searchOffsets
  congr 1
  apply takeWhile_congr'
  intro a _
  by_cases h : a < x
  · simp [h, Nat.compare_eq_lt.mpr h]
  · have : compare a x ≠ .lt := fun h' => h (Nat.compare_eq_lt.mp h')
    simp [h, this]

/-- On a strictly ascending offset table, what `move_on_prev` computes with
    `offsets.binary_search(&cur).unwrap_or_else(|x| x)` — by either loop of the standard
    library — is the model's `searchOffsets`. -/
theorem searchOffsets_is_binSearch (offs : List Nat) (x : Nat) (h : offs.Pairwise (· < ·)) :
    BlockCursor.searchOffsets offs x = okOrErr (binSearchBy (fun o => compare o x) offs) ∧
    BlockCursor.searchOffsets offs x = okOrErr (binSearchBy' (fun o => compare o x) offs) := by
  obtain ⟨h1, h2⟩ := binSearchBy_strict (cmp := fun o => compare o x) h (cmpOff_mono x)
  have h3 : BlockCursor.searchOffsets offs x = okOrErr (binSearchBy (fun o => compare o x) offs) := by
    rw [h1, searchOffsets_eq_takeWhile]
    split
    · split <;> rfl
    · rfl
  exact ⟨h3, by rw [h3, ← h2]⟩

theorem cmpBytes_lt {a b : Bytes} : cmpBytes a b = .lt ↔ a < b :=
  compareOfLessAndEq_eq_lt

theorem cmpBytes_eq {a b : Bytes} : cmpBytes a b = .eq ↔ a = b :=
  compareOfLessAndEq_eq_eq (fun x => List.le_refl x) List.not_le

theorem cmpBytes_gt {a b : Bytes} : cmpBytes a b = .gt ↔ b < a :=
  compareOfLessAndEq_eq_gt List.le_antisymm List.le_total List.not_le a b

theorem cmpKey_mono (b : Block) (key : Bytes) (o₁ o₂ : Nat)
    (hR : Option.lt (· < ·) (keyAt b o₁) (keyAt b o₂)) (h : cmpKey b key o₁ ≠ .lt) :
    cmpKey b key o₂ = .gt := by
  unfold cmpKey at *
  cases h1 : keyAt b o₁ with
  | none => rw [h1] at h; exact absurd rfl h
  | some a =>
    cases h2 : keyAt b o₂ with
    | none => rw [h1, h2] at hR; exact absurd hR (by simp [Option.lt])
    | some c =>
      rw [h1, h2] at hR
      rw [h1] at h
      have hac : a < c := hR
      have hna : ¬ a < key := fun h' => h (cmpBytes_lt.mpr h')
      show cmpBytes c key = .gt
      rw [cmpBytes_gt]
      exact List.lt_of_le_of_lt (List.not_lt.mp hna) hac

theorem keyLt_eq_cmpKey (b : Block) (key : Bytes) (off : Nat) :
    keyLt b key off = (cmpKey b key off == .lt) := by
  unfold keyLt cmpKey keyAt
  cases (b.entryAt off).map (fun (k, _, _) => k) with
  | none => rfl
  | some k =>
    show decide (k < key) = (cmpBytes k key == .lt)
    by_cases h : k < key
    · simp [h, cmpBytes_lt.mpr h]
    · have : cmpBytes k key ≠ .lt := fun h' => h (cmpBytes_lt.mp h')
      simp [h, this]

theorem cmpKey_eq_iff (b : Block) (key : Bytes) (off : Nat) :
    cmpKey b key off = .eq ↔ keyAt b off = some key := by
  unfold cmpKey
  cases keyAt b off with
  | none => simp [compareOption]
  | some k =>
    show cmpBytes k key = .eq ↔ _
    rw [cmpBytes_eq]; simp

/-- On a block whose table keys ascend strictly, the `(found, index)` the model's `searchKey`
    returns is the reading of `offsets.binary_search_by_key(&Some(key), |off| entry_at(off).key)`
    — by either loop of the standard library. -/
theorem searchKey_is_binSearch (b : Block) (key : Bytes) (h : TableKeysAsc b) :
    BlockCursor.searchKey b key = foundAt (binSearchBy (cmpKey b key) b.offsets) ∧
    BlockCursor.searchKey b key = foundAt (binSearchBy' (cmpKey b key) b.offsets) := by
  obtain ⟨h1, h2⟩ := binSearchBy_strict (cmp := cmpKey b key) h (cmpKey_mono b key)
  have h3 : BlockCursor.searchKey b key = foundAt (binSearchBy (cmpKey b key) b.offsets) := by
    rw [h1, searchKey_eq]
    have e : b.offsets.takeWhile (keyLt b key) =
        b.offsets.takeWhile (fun o => cmpKey b key o == .lt) :=
      takeWhile_congr' (fun a _ => keyLt_eq_cmpKey b key a)
    rw [e]
    generalize (b.offsets.takeWhile (fun o => cmpKey b key o == .lt)).length = i
    cases b.offsets[i]? with
    | none => rfl
    | some off =>
      simp only
      by_cases hc : cmpKey b key off = .eq
      · have := (cmpKey_eq_iff b key off).mp hc
        unfold keyAt at this
        simp [hc, this, foundAt]
      · have : ¬ keyAt b off = some key := fun h' => hc ((cmpKey_eq_iff b key off).mpr h')
        unfold keyAt at this
        simp [hc, this, foundAt]
  exact ⟨h3, by rw [h3, ← h2]⟩

section Built
variable {iv : Nat} {es : List Entry} {b : Block}

theorem table_idx_lt (hb : BlockOf iv es b) {i j : Nat} (hij : i < j) (hj : j < b.offsets.length) :
    i * iv < j * iv ∧ j * iv < es.length := by
  have h1 := hb.offs_idx hj
  have h2 : i * iv < j * iv := Nat.mul_lt_mul_of_lt_of_le hij (Nat.le_refl _) hb.iv_pos
  omega

/-- The offset table of a writer-built block ascends strictly. -/
theorem offsets_pairwise_of_blockOf (hb : BlockOf iv es b) : b.offsets.Pairwise (· < ·) := by
  rw [List.pairwise_iff_getElem]
  intro i j hi hj hij
  obtain ⟨h1, h2⟩ := table_idx_lt hb hij hj
  rw [hb.offs_get hi, hb.offs_get hj]
  exact offAt_strictMono es h1 (by omega)

/-- The keys designated by the offset table of a writer-built block ascend strictly. -/
theorem tableKeysAsc_of_blockOf (hb : BlockOf iv es b) : TableKeysAsc b := by
  unfold TableKeysAsc
  rw [List.pairwise_iff_getElem]
  intro i j hi hj hij
  obtain ⟨h1, h2⟩ := table_idx_lt hb hij hj
  rw [hb.offs_get hi, hb.offs_get hj]
  unfold keyAt
  rw [entryAt_offAt hb.payload hb.lens h2, entryAt_offAt hb.payload hb.lens (by omega : i * iv < es.length)]
  exact asc_get hb.asc h1 h2

end Built

/-! ### The cursor operations with the searches spelled out

`prevBS bs` / `leBS bs` are `BlockCursor.prev` / `BlockCursor.le` (`move_on_prev`,
`move_on_key_lower_than_or_equal_to`) with the search performed by the loop `bs`
(`binSearchBy` or `binSearchBy'`) instead of the `takeWhile` specification. -/

def prevBS (bs : (Nat → Ordering) → List Nat → Except Nat Nat) (c : BlockCursor) :
    BlockCursor × Option Entry :=
  match c.off with
  | some cur =>
    let offs := c.block.offsets
    -- offsets.binary_search(&(current_offset as u64)).unwrap_or_else(|x| x)
    let j := okOrErr (bs (fun o => compare o cur) offs)
    if j = 0 then (c, none) else
    match c.block.entryAt cur with
    | none => (c, none)
    | some (curKey, _, _) =>
      let start := offs.getD (j - 1) 0
      let c' := match BlockCursor.scanPrev c.block curKey (c.block.payload.length + 1) start none with
        | some o => { c with off := some o }
        | none => c
      (c', c'.current)
  | none => c.last

def leBS (bs : (Nat → Ordering) → List Nat → Except Nat Nat) (c : BlockCursor) (key : Bytes) :
    BlockCursor × Option Entry :=
  let offs := c.block.offsets
  -- offsets.binary_search_by_key(&Some(key), |off| entry_at(off).map(|(key, _, _)| key))
  let (found, i) := foundAt (bs (cmpKey c.block key) offs)
  let c' :=
    if found then { c with off := some (offs.getD i 0) }
    else if i = 0 then { c with off := none }
    else match offs[i - 1]? with
      | some off => { c with off := BlockCursor.scanLe c.block key (c.block.payload.length + 1) off none }
      | none => { c with off := none }
  (c', c'.current)

theorem prev_eq_prevBS (c : BlockCursor) (h : c.block.offsets.Pairwise (· < ·)) :
    c.prev = prevBS binSearchBy c ∧ c.prev = prevBS binSearchBy' c := by
  unfold BlockCursor.prev prevBS
  cases c.off with
  | none => exact ⟨rfl, rfl⟩
  | some cur =>
    obtain ⟨h1, h2⟩ := searchOffsets_is_binSearch c.block.offsets cur h
    simp only [← h1, ← h2]
    exact ⟨rfl, rfl⟩

theorem le_eq_leBS (c : BlockCursor) (key : Bytes) (h : TableKeysAsc c.block) :
    c.le key = leBS binSearchBy c key ∧ c.le key = leBS binSearchBy' c key := by
  obtain ⟨h1, h2⟩ := searchKey_is_binSearch c.block key h
  unfold BlockCursor.le leBS
  simp only [← h1, ← h2]
  exact ⟨rfl, rfl⟩

end Grenad.BinSearch
