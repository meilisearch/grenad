/-
  T-writer: byte-level facts.
  * `Meta.parse (out ++ Meta.encode m) = .ok m` for version-2 trailers.
  * block writers: `BW.Made` (writers obtained from `BW.new` by successful inserts) is `BW.Reach`.
  * `Lay cd log out`: the log offsets are the prefix sums of the block sizes and `out` is the
    concatenation of the blocks; reading a block back with `loadBlock`.
-/
import Grenad.Proofs.TCursor2
import Grenad.Proofs.WriterInvBW
import Grenad.Proofs.MetaProofs

namespace Grenad

namespace WT

theorem meta_encode_v2_length (m : Meta.Meta) (h : m.version = 2) : (Meta.encode m).length = 22 := by
  simp [Meta.encode, h]

theorem meta_parse_encode_v2 (out : Bytes) (m : Meta.Meta) (hv : m.version = 2)
    (hroot : m.root < 2 ^ 64) (hcodec : m.codec ≤ 5) (hcount : m.count < 2 ^ 64)
    (hlevels : m.levels ≤ 255) :
    Meta.parse (out ++ Meta.encode m) = .ok m :=
  Meta.parse_encode out m (.inr hv) hroot hcodec hcount (by omega)

theorem lastKey_append {a b : List Entry} (h : b ≠ []) : lastKey (a ++ b) = lastKey b := by
  obtain ⟨ys, y, rfl⟩ := TCursor.exists_snoc h
  rw [← List.append_assoc, TCursor.lastKey_append_singleton, TCursor.lastKey_append_singleton]

end WT

open WT

namespace BW

/-- Writers obtained from `BW.new iv` by successful inserts. -/
inductive Made (iv : Nat) : BW → Prop
  | new : Made iv (BW.new iv)
  | insert {w w' : BW} {k v : Bytes} : Made iv w → w.insert k v = .ok w' → Made iv w'

/-- `Made` is `Reach`: what holds of reachable block writers (`WriterInvBW`) holds of these. -/
theorem Made.reach {iv : Nat} {w : BW} (h : Made iv w) : Reach iv w := by
  induction h with
  | new => exact .new
  | insert _ hi ih => exact .step ih hi

theorem Made.lastKey_some {iv : Nat} {w : BW} {lk : Bytes} (h : Made iv w)
    (hs : w.lastKey = some lk) : w.items ≠ [] ∧ lk = Grenad.lastKey w.items := by
  obtain ⟨ini, x, hit⟩ := h.reach.lastKey_mem hs
  rw [hit]
  exact ⟨by simp, (TCursor.lastKey_append_singleton ini (lk, x)).symm⟩

end BW

/-- `out` is the concatenation of the framed blocks of `log`, each recorded at its offset. -/
inductive Lay (cd : Codec) : List Emitted → Bytes → Prop
  | nil : Lay cd [] []
  | snoc {log : List Emitted} {out : Bytes} (e : Emitted) :
      Lay cd log out → e.offset = out.length → Lay cd (log ++ [e]) (out ++ W.blockBytes cd e.raw)

theorem blockBytes_length (cd : Codec) (raw : Bytes) :
    (W.blockBytes cd raw).length = 8 + (cd.compress raw).length := by
  simp [W.blockBytes]

theorem Lay.out_eq {cd : Codec} {log : List Emitted} {out : Bytes} (h : Lay cd log out) :
    out = log.flatMap (fun e => W.blockBytes cd e.raw) := by
  induction h with
  | nil => rfl
  | snoc e _ _ ih => simp [← ih]

theorem Lay.split {cd : Codec} {log : List Emitted} {out : Bytes} (h : Lay cd log out) :
    ∀ e ∈ log, ∃ pre post, out = pre ++ W.blockBytes cd e.raw ++ post ∧ pre.length = e.offset := by
  induction h with
  | nil => intro e he; cases he
  | @snoc log out e' _ ho ih =>
    intro e he
    rcases List.mem_append.mp he with he | he
    · obtain ⟨pre, post, h1, h2⟩ := ih e he
      exact ⟨pre, post ++ W.blockBytes cd e'.raw, by rw [h1]; simp [List.append_assoc], h2⟩
    · simp only [List.mem_singleton] at he; subst he
      exact ⟨out, [], by simp, ho.symm⟩

theorem Lay.offset_lt {cd : Codec} {log : List Emitted} {out : Bytes} (h : Lay cd log out) :
    ∀ e ∈ log, e.offset + 8 + (cd.compress e.raw).length ≤ out.length := by
  intro e he
  obtain ⟨pre, post, h1, h2⟩ := h.split e he
  rw [h1]; simp [blockBytes_length]; omega

theorem Lay.pairwise {cd : Codec} {log : List Emitted} {out : Bytes} (h : Lay cd log out) :
    log.Pairwise (fun a b => a.offset < b.offset) := by
  induction h with
  | nil => exact List.Pairwise.nil
  | @snoc log out e' hl ho ih =>
    rw [List.pairwise_append]
    refine ⟨ih, by simp, ?_⟩
    intro a ha b hb
    simp only [List.mem_singleton] at hb; subst hb
    have := hl.offset_lt a ha
    omega

theorem Lay.prefix_sum {cd : Codec} {log : List Emitted} {out : Bytes} (h : Lay cd log out) :
    ∀ l1 e l2, log = l1 ++ e :: l2 →
      e.offset = (l1.flatMap (fun e => W.blockBytes cd e.raw)).length := by
  induction h with
  | nil => intro l1 e l2 h; simp at h
  | @snoc log out e' hl ho ih =>
    intro l1 e l2 heq
    rcases List.eq_nil_or_concat l2 with rfl | ⟨l2', x, rfl⟩
    · have : l1 ++ [e] = log ++ [e'] := heq.symm
      obtain ⟨h1, h2⟩ := List.append_inj' this rfl
      cases h2; subst h1
      rw [ho, hl.out_eq]
    · have : log ++ [e'] = (l1 ++ e :: l2') ++ [x] := by rw [heq]; simp
      obtain ⟨h1, -⟩ := List.append_inj' this rfl
      exact ih l1 e l2' h1

theorem loadBlock_of_split (cd : Codec) (hcd : cd.Lawful) (pre post raw : Bytes)
    (hlen : (pre ++ W.blockBytes cd raw ++ post).length < 2 ^ 64) :
    loadBlock cd (pre ++ W.blockBytes cd raw ++ post) pre.length = Block.parse raw := by
  have hb : (cd.compress raw).length < 2 ^ 64 := by
    simp [blockBytes_length] at hlen; omega
  have h1 : slice? (pre ++ W.blockBytes cd raw ++ post) pre.length 8
      = some (be64 (cd.compress raw).length) := by
    have : pre ++ W.blockBytes cd raw ++ post
        = pre ++ be64 (cd.compress raw).length ++ (cd.compress raw ++ post) := by
      simp [W.blockBytes, List.append_assoc]
    rw [this]
    unfold slice?
    simp [List.append_assoc]
  have h2 : ((pre ++ W.blockBytes cd raw ++ post).drop (pre.length + 8)).take (cd.compress raw).length
      = cd.compress raw := by
    have : pre ++ W.blockBytes cd raw ++ post
        = (pre ++ be64 (cd.compress raw).length) ++ (cd.compress raw ++ post) := by
      simp [W.blockBytes, List.append_assoc]
    rw [this]
    have hl : pre.length + 8 = (pre ++ be64 (cd.compress raw).length).length := by simp
    rw [hl, List.drop_left, List.take_left]
  unfold loadBlock loadBlockLen
  simp only [h1, beVal_be64 hb, h2, hcd raw]
  cases Block.parse raw <;> rfl

theorem Lay.loadBlock {cd : Codec} {log : List Emitted} {out : Bytes} (h : Lay cd log out)
    (hcd : cd.Lawful) (trailer : Bytes) (hlen : (out ++ trailer).length < 2 ^ 64) :
    ∀ e ∈ log, loadBlock cd (out ++ trailer) e.offset = Block.parse e.raw := by
  intro e he
  obtain ⟨pre, post, h1, h2⟩ := h.split e he
  have : out ++ trailer = pre ++ W.blockBytes cd e.raw ++ (post ++ trailer) := by
    rw [h1]; simp [List.append_assoc]
  rw [this, ← h2]
  apply loadBlock_of_split cd hcd
  rw [← this]; exact hlen

end Grenad
