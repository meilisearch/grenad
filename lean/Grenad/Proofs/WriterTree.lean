/-
  T-writer: the writer invariant `WInv` through `W.insert`, `W.run`, `W.finish`, and the
  resulting description `WriterOut` of the finished file.
-/
import Grenad.Proofs.WriterTreeInv
import Grenad.Proofs.WriterTreeFlat

namespace Grenad

open WT

def SInv (cd : Codec) (iv n : Nat) (content : List Entry) (s : WSt) : Prop :=
  TInv cd iv n content s ∧ FInv n content s

theorem TInv.reach {cd : Codec} {iv n : Nat} {content : List Entry} {s : WSt}
    (h : TInv cd iv n content s) {j : Nat} {w : BW} (hw : s.1[j]? = some w) : BW.Made iv w := by
  obtain ⟨K, -, -, htree⟩ := h.tree
  exact (htree j w hw).1

theorem SInv.cut {cd : Codec} {iv n : Nat} {content : List Entry} (hasc : StrictAsc content)
    (hkeys : ∀ e ∈ content, e.1.length < 2 ^ 32)
    {i : Nat} {idx : List BW} {out : Bytes} {log : List Emitted} {cur parent : BW} {lk : Bytes}
    (h : SInv cd iv n content (idx, out, log))
    (hc : idx[i + 1]? = some cur) (hp : idx[i]? = some parent) (hlk : cur.lastKey = some lk) :
    ∃ p', parent.insert lk (be64 out.length) = .ok p' ∧
      SInv cd iv n content (cutAt cd i cur p' (idx, out, log)) := by
  obtain ⟨p', hp', hT⟩ := h.1.cut hasc hkeys hc hp hlk
  refine ⟨p', hp', hT, ?_⟩
  have rcur : BW.Made iv cur := h.1.reach hc
  exact h.2.cut h.1.len hc hp (rcur.lastKey_some hlk).2 (BW.insert_items hp')

theorem SInv.dataStep {cd : Codec} {iv n : Nat} {content : List Entry} {bw : BW}
    (hasc : StrictAsc (content ++ bw.items))
    (hkeys : ∀ e ∈ content ++ bw.items, e.1.length < 2 ^ 32)
    {idx : List BW} {out : Bytes} {log : List Emitted} {parent : BW} {lk : Bytes}
    (h : SInv cd iv n content (idx, out, log)) (rbw : BW.Made iv bw)
    (hp : idx[n - 1]? = some parent) (hlk : bw.lastKey = some lk) :
    ∃ p', parent.insert lk (be64 out.length) = .ok p' ∧
      SInv cd iv n (content ++ bw.items) (dataAt cd (n - 1) bw p' (idx, out, log)) := by
  obtain ⟨p', hp', hT⟩ := h.1.data hasc hkeys rbw hp hlk
  refine ⟨p', hp', hT, ?_⟩
  exact h.2.dataStep h.1.len hp (rbw.lastKey_some hlk).2 (BW.insert_items hp')

theorem SInv.cutLevels {cd : Codec} {iv n : Nat} {content : List Entry} (hasc : StrictAsc content)
    (hkeys : ∀ e ∈ content, e.1.length < 2 ^ 32) (bs i : Nat) {s : WSt}
    (h : SInv cd iv n content s) :
    ∃ r, W.cutLevels cd bs i s.1 s.2.1 s.2.2 = .ok r ∧ SInv cd iv n content r := by
  have := W.cutLevels_rule cd bs (fun _ s => SInv cd iv n content s) (fun _ => False)
    (fun _ _ _ hP _ _ => hP)
    (fun _ _ _ _ _ hP hc hp _ hlk => by
      obtain ⟨p', hp', hS⟩ := SInv.cut hasc hkeys hP hc hp hlk
      rw [hp']; exact hS)
    i s h
  cases hr : W.cutLevels cd bs i s.1 s.2.1 s.2.2 with
  | error t => rw [hr] at this; exact this.elim
  | ok r =>
    rw [hr] at this
    obtain ⟨_, _, hS⟩ := this
    exact ⟨r, rfl, hS⟩

def SFinal (cd : Codec) (iv n : Nat) (content : List Entry) (s : WSt) (r : Nat) : Prop :=
  TFinal cd iv n content s r ∧ FFinal n content s r

theorem SInv.flushLevels {cd : Codec} {iv n : Nat} {content : List Entry}
    (hasc : StrictAsc content) (hkeys : ∀ e ∈ content, e.1.length < 2 ^ 32) {s : WSt} (r0 : Nat)
    (h : SInv cd iv n content s) (hn : 0 < n) :
    ∃ r, W.flushLevels cd n s.1 s.2.1 s.2.2 r0 = .ok r ∧
      SFinal cd iv n content (r.1, r.2.1, r.2.2.1) r.2.2.2 := by
  obtain ⟨m, rfl⟩ : ∃ m, n = m + 1 := ⟨n - 1, by omega⟩
  -- while `i` writers remain, those from `i` on are empty
  have := W.flushLevels_rule cd
    (fun i s => i ≤ m + 1 ∧ SInv cd iv (m + 1) content s ∧
      ∀ j w, i ≤ j → s.1[j]? = some w → w.items = [])
    (SFinal cd iv (m + 1) content) (fun _ => False) ?_ ?_ ?_ ?_ m s r0 ⟨Nat.le_refl _, h, ?_⟩
  · cases hr : W.flushLevels cd (m + 1) s.1 s.2.1 s.2.2 r0 with
    | error t => rw [hr] at this; exact this.elim
    | ok r => rw [hr] at this; exact ⟨r, rfl, this⟩
  · intro i s hP
    have := hP.2.1.1.len
    omega
  · intro i s cur parent lk hP hc hp hlk
    obtain ⟨p', hp', hS⟩ := SInv.cut hasc hkeys hP.2.1 hc hp hlk
    rw [hp']
    refine ⟨by omega, hS, ?_⟩
    intro j w hj hw
    simp only [cutAt] at hw
    rcases getElem?_set_set hw with ⟨_, rfl⟩ | ⟨hj0, _⟩ | ⟨_, _, hw⟩
    · rfl
    · omega
    · exact hP.2.2 j w (by omega) hw
  · intro i s cur hP hc hlk
    refine ⟨by omega, hP.2.1, ?_⟩
    intro j w hj hw
    by_cases hj1 : j = i + 1
    · subst hj1
      rw [hc] at hw; cases hw
      exact (hP.2.1.1.reach hc).reach.items_nil_of_lastKey_none hlk
    · exact hP.2.2 j w (by omega) hw
  · intro s cur hP hc
    exact ⟨hP.2.1.1.root hP.2.2 hc, hP.2.1.2.root hP.2.1.1.len hP.2.2 hc⟩
  · intro j w hj hw
    have := (List.getElem?_eq_some_iff.mp hw).1
    have := h.1.len
    omega

structure WInv (cd : Codec) (cfg : WCfg) (pre : List Entry) (w : W) : Prop where
  cfg_eq : w.cfg = cfg
  count : w.count = pre.length
  bw : BW.Made cfg.interval w.bw
  inv : ∃ content, pre = content ++ w.bw.items ∧
    SInv cd cfg.interval (cfg.levels + 1) content (w.idx, w.out, w.log)

theorem WInv.new (cd : Codec) (cfg : WCfg) : WInv cd cfg [] (W.new cfg) :=
  ⟨rfl, rfl, BW.Made.new, [], rfl, TInv.init cd cfg.interval _, FInv.init cfg.interval _⟩

theorem StrictAsc.prefix {a b : List Entry} (h : StrictAsc (a ++ b)) : StrictAsc a :=
  TCursor.StrictAsc.left h

theorem WInv.insert {cd : Codec} {cfg : WCfg} {pre : List Entry} {w : W} {k v : Bytes}
    (h : WInv cd cfg pre w) (hasc : StrictAsc (pre ++ [(k, v)]))
    (hkeys : ∀ e ∈ pre ++ [(k, v)], e.1.length < 2 ^ 32) (hv : v.length < 2 ^ 32) :
    ∃ w', W.insert cd w k v = .ok w' ∧ WInv cd cfg (pre ++ [(k, v)]) w' := by
  obtain ⟨hcfg, hcount, rbw, content, hpre, hS⟩ := h
  have hlen : w.idx.length = cfg.levels + 1 := hS.1.len
  have hord : ∀ lk, w.bw.lastKey = some lk → lk < k := by
    intro lk hlk
    obtain ⟨hne, hlkeq⟩ := rbw.lastKey_some hlk
    obtain ⟨a, ha, hak⟩ := TCursor.lastKey_mem hne
    have hap : a ∈ pre := by rw [hpre]; exact List.mem_append_right _ ha
    have := hasc.lt_of_append hap (List.mem_singleton.mpr rfl)
    rw [hlkeq, ← hak]; exact this
  obtain ⟨bw', hbw'⟩ := BW.insert_total w.bw (u32Max_of_lt (hkeys (k, v) (by simp))) (u32Max_of_lt hv) hord
  have s1 := BW.insert_items hbw'
  have s2 : bw'.lastKey = some k := BW.insert_lastKey hbw'
  have rbw' : BW.Made cfg.interval bw' := BW.Made.insert rbw hbw'
  have hpre' : pre ++ [(k, v)] = content ++ bw'.items := by rw [s1, hpre, List.append_assoc]
  -- the state in which nothing is flushed
  have hkeep : WInv cd cfg (pre ++ [(k, v)]) { w with bw := bw', count := w.count + 1 } :=
    ⟨hcfg, by simp [hcount], rbw', content, hpre', hS⟩
  unfold W.insert
  rw [hbw']
  simp only
  split
  · rw [s2]
    simp only [hlen]
    split
    · rename_i lastIdx hli
      obtain ⟨p', hp', hS'⟩ := SInv.dataStep (hpre' ▸ hasc) (hpre' ▸ hkeys) hS rbw' hli s2
      rw [hp']
      simp only
      rw [← hpre'] at hS'
      obtain ⟨r, hr, hSr⟩ := SInv.cutLevels hasc hkeys w.cfg.clamped (cfg.levels + 1 - 1) hS'
      simp only [dataAt] at hr
      rw [hr]
      simp only
      refine ⟨_, rfl, hcfg, by simp [hcount], ?_, pre ++ [(k, v)], ?_, hSr⟩
      · simp only; rw [rbw'.reach.reset_eq]; exact BW.Made.new
      · simp only; rw [rbw'.reach.reset_eq]; simp [BW.new]
    · exact ⟨_, rfl, hkeep⟩
  · exact ⟨_, rfl, hkeep⟩

theorem WInv.go {cd : Codec} {cfg : WCfg} (rest : List Entry) :
    ∀ {pre : List Entry} {w : W}, WInv cd cfg pre w → StrictAsc (pre ++ rest) →
    (∀ e ∈ pre ++ rest, e.1.length < 2 ^ 32 ∧ e.2.length < 2 ^ 32) →
    ∃ w', W.run.go cd w rest = .ok w' ∧ WInv cd cfg (pre ++ rest) w' := by
  induction rest with
  | nil => intro pre w h _ _; exact ⟨w, rfl, by simpa using h⟩
  | cons e rest ih =>
    intro pre w h hasc hlen
    obtain ⟨k, v⟩ := e
    have e1 : pre ++ (k, v) :: rest = (pre ++ [(k, v)]) ++ rest := by simp
    rw [e1] at hasc hlen ⊢
    obtain ⟨w', hw', hI⟩ := h.insert hasc.prefix
      (fun e he => (hlen e (List.mem_append_left _ he)).1) (hlen (k, v) (by simp)).2
    obtain ⟨w'', hw'', hI'⟩ := ih hI hasc hlen
    refine ⟨w'', ?_, hI'⟩
    unfold W.run.go
    rw [hw']
    exact hw''

def WriterOut (cd : Codec) (cfg : WCfg) (es : List Entry) (file : Bytes) (log : List Emitted) :
    Prop :=
  ∃ (idx : List BW) (out : Bytes) (root : Nat),
    file = out ++ Meta.encode ⟨2, root, cd.id, es.length, cfg.levels⟩ ∧
    SFinal cd cfg.interval (cfg.levels + 1) es (idx, out, log) root

theorem WInv.finish {cd : Codec} {cfg : WCfg} {es : List Entry} {w : W}
    (h : WInv cd cfg es w) (hasc : StrictAsc es) (hkeys : ∀ e ∈ es, e.1.length < 2 ^ 32)
    (hlv : cfg.levels ≤ 255) :
    ∃ file log, W.finish cd w = .ok (file, log) ∧ WriterOut cd cfg es file log := by
  obtain ⟨hcfg, hcount, rbw, content, hpre, hS⟩ := h
  have hlen : w.idx.length = cfg.levels + 1 := hS.1.len
  rw [W.finish_eq]
  -- the index levels and the trailer, from the state the data block leaves behind
  have flush : ∀ s : WSt, SInv cd cfg.interval (cfg.levels + 1) es s →
      ∃ file log, W.finishWrap cd w.count
          (W.flushLevels cd s.1.length s.1 s.2.1 s.2.2 s.2.1.length) = .ok (file, log) ∧
        WriterOut cd cfg es file log := by
    intro s hs
    obtain ⟨⟨idx2, out2, log2, root⟩, hr2, hF⟩ :=
      SInv.flushLevels hasc hkeys s.2.1.length hs (Nat.succ_pos _)
    rw [hs.1.len, hr2]
    refine ⟨_, _, rfl, idx2, out2, root, ?_, hF⟩
    have : idx2.length = cfg.levels + 1 := hF.1.len
    rw [this, hcount]
    congr 3
    simp; omega
  unfold W.finishData
  cases hlk : w.bw.lastKey with
  | none =>
    rw [rbw.reach.items_nil_of_lastKey_none hlk, List.append_nil] at hpre
    subst hpre
    exact flush _ hS
  | some lk =>
    obtain ⟨last, hli⟩ : ∃ last, w.idx[w.idx.length - 1]? = some last :=
      ⟨_, List.getElem?_eq_getElem (by omega)⟩
    have hli' : w.idx[cfg.levels + 1 - 1]? = some last := by rw [← hlen]; exact hli
    obtain ⟨p', hp', hS'⟩ := SInv.dataStep (hpre ▸ hasc) (hpre ▸ hkeys) hS rbw hli' hlk
    simp only [hli, hp']
    rw [← hpre] at hS'
    rw [hlen]
    exact flush _ hS'

theorem W.run_ok {cd : Codec} {cfg : WCfg} {es : List Entry} (hasc : StrictAsc es)
    (hlen : ∀ e ∈ es, e.1.length < 2 ^ 32 ∧ e.2.length < 2 ^ 32) (hlv : cfg.levels ≤ 255) :
    ∃ file log, W.run cd cfg es = .ok (file, log) ∧ WriterOut cd cfg es file log := by
  obtain ⟨w, hw, hI⟩ := WInv.go (cd := cd) (cfg := cfg) es (WInv.new cd cfg)
    (by simpa using hasc) (by simpa using hlen)
  simp only [List.nil_append] at hI
  obtain ⟨file, log, hf, hO⟩ := hI.finish hasc (fun e he => (hlen e he).1) hlv
  refine ⟨file, log, ?_, hO⟩
  unfold W.run
  rw [hw]
  exact hf

structure WriterHyps (cd : Codec) (cfg : WCfg) (es : List Entry) : Prop where
  levels : cfg.levels ≤ 255
  lawful : cd.Lawful
  asc : StrictAsc es
  lens : ∀ e ∈ es, e.1.length < 2 ^ 32 ∧ e.2.length < 2 ^ 32

/-- No trap on sorted input. -/
theorem T_writer_ok {cd : Codec} {cfg : WCfg} {es : List Entry} (H : WriterHyps cd cfg es) :
    ∃ file log, W.run cd cfg es = .ok (file, log) := by
  obtain ⟨file, log, h, -⟩ := W.run_ok (cd := cd) H.asc H.lens H.levels
  exact ⟨file, log, h⟩

theorem W.run_out {cd : Codec} {cfg : WCfg} {es : List Entry} (H : WriterHyps cd cfg es)
    {file : Bytes} {log : List Emitted} (hrun : W.run cd cfg es = .ok (file, log)) :
    WriterOut cd cfg es file log := by
  obtain ⟨file', log', h, hO⟩ := W.run_ok (cd := cd) H.asc H.lens H.levels
  rw [hrun] at h
  cases h
  exact hO

theorem TFinal.parse {cd : Codec} {iv n : Nat} {es : List Entry} {idx : List BW} {out : Bytes}
    {log : List Emitted} {root levels : Nat} (hF : TFinal cd iv n es (idx, out, log) root)
    (hfile : (out ++ Meta.encode ⟨2, root, cd.id, es.length, levels⟩).length < 2 ^ 64)
    (hcount : es.length < 2 ^ 64) (hid : cd.id ≤ 5) (hlv : levels ≤ 255) :
    Meta.parse (out ++ Meta.encode ⟨2, root, cd.id, es.length, levels⟩)
      = .ok ⟨2, root, cd.id, es.length, levels⟩ := by
  apply WT.meta_parse_encode_v2 _ _ rfl _ hid hcount hlv
  have := hF.root
  simp only [List.length_append] at hfile this ⊢
  omega

theorem TFinal.fileOK {cd : Codec} {iv levels : Nat} {es : List Entry} {idx : List BW} {out : Bytes}
    {log : List Emitted} {root : Nat} (hF : TFinal cd iv (levels + 1) es (idx, out, log) root)
    (hasc : StrictAsc es) (hout : out.length < 2 ^ 64) : FileOK (storeOf log) root levels es := by
  refine ⟨hasc, ?_, ?_⟩
  · rcases hF.tree with h | h
    · exact Or.inl h
    · exact Or.inr ⟨lvlOf log, h⟩
  · intro off es' hs
    obtain ⟨e, he, rfl, rfl⟩ := storeOf_some hs
    obtain ⟨w, rw', -, hi⟩ := hF.logok e he
    refine ⟨hi ▸ rw'.reach.keysAsc, ?_⟩
    have := hF.lay.offset_lt e he
    simp only at this
    omega

/-- The emitted log is a well-formed index tree over the inserted entries, and the trailer
    parses to the expected metadata. -/
theorem T_writer_tree {cd : Codec} {cfg : WCfg} {es : List Entry} (H : WriterHyps cd cfg es)
    {file : Bytes} {log : List Emitted} (hrun : W.run cd cfg es = .ok (file, log))
    (hfile : file.length < 2 ^ 64) (hcount : es.length < 2 ^ 64) (hid : cd.id ≤ 5) :
    ∃ root, FileOK (storeOf log) root cfg.levels es ∧
      Meta.parse file = .ok { version := 2, root := root, codec := cd.id, count := es.length,
                              levels := cfg.levels } := by
  obtain ⟨idx, out, root, rfl, hF, -⟩ := W.run_out H hrun
  have hol : out.length < 2 ^ 64 := by simp only [List.length_append] at hfile; omega
  exact ⟨root, hF.fileOK H.asc hol, hF.parse hfile hcount hid H.levels⟩

/-- Every emitted block can be read back from the file at its recorded offset; the offsets are
    strictly increasing and are the prefix sums of the framed block sizes; every block is the
    `BW.finish` image of a reachable block writer holding the recorded items. -/
theorem T_writer_bytes {cd : Codec} {cfg : WCfg} {es : List Entry} (H : WriterHyps cd cfg es)
    {file : Bytes} {log : List Emitted} (hrun : W.run cd cfg es = .ok (file, log))
    (hfile : file.length < 2 ^ 64) :
    (∀ e ∈ log, loadBlock cd file e.offset = Block.parse e.raw) ∧
    log.Pairwise (fun a b => a.offset < b.offset) ∧
    (∀ l1 e l2, log = l1 ++ e :: l2 →
      e.offset = (l1.flatMap (fun e => W.blockBytes cd e.raw)).length) ∧
    (∀ e ∈ log, ∃ w, BW.Made cfg.interval w ∧ e.raw = w.finish ∧ e.items = w.items) ∧
    (∃ root, file = log.flatMap (fun e => W.blockBytes cd e.raw) ++
      Meta.encode ⟨2, root, cd.id, es.length, cfg.levels⟩) := by
  obtain ⟨idx, out, root, hf, hF, hFF⟩ := W.run_out H hrun
  refine ⟨?_, hF.lay.pairwise, hF.lay.prefix_sum, hF.logok, root, ?_⟩
  · rw [hf] at hfile ⊢
    exact hF.lay.loadBlock H.lawful _ hfile
  · rw [hf, ← hF.lay.out_eq]

end Grenad
