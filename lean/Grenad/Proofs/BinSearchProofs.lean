/-
  Grenad.Proofs.BinSearchProofs — the loops of `Grenad.Model.BinSearch` meet the contract of
  `slice::binary_search_by` on a list sorted with respect to the comparison.
-/
import Grenad.Model.BinSearch
import Grenad.Proofs.Bytes

namespace Grenad.BinSearch

/-- `l` is sorted with respect to `cmp`: `Less` on `[0, k)`, `Equal` on `[k, m)`, `Greater` on
    `[m, len)` — the precondition of `slice::binary_search_by`. -/
structure SortedBy {α : Type} (cmp : α → Ordering) (l : List α) (k m : Nat) : Prop where
  km : k ≤ m
  ml : m ≤ l.length
  lt : ∀ i (h : i < l.length), i < k → cmp l[i] = .lt
  eq : ∀ i (h : i < l.length), k ≤ i → i < m → cmp l[i] = .eq
  gt : ∀ i (h : i < l.length), m ≤ i → cmp l[i] = .gt

section
variable {α : Type} {cmp : α → Ordering} {l : List α} {k m : Nat}

theorem SortedBy.lt_iff (h : SortedBy cmp l k m) {i : Nat} (hi : i < l.length) :
    cmp l[i] = .lt ↔ i < k := by
  constructor
  · intro hc
    rcases Nat.lt_or_ge i k with h1 | h1
    · exact h1
    · rcases Nat.lt_or_ge i m with h2 | h2
      · rw [h.eq i hi h1 h2] at hc; cases hc
      · rw [h.gt i hi h2] at hc; cases hc
  · exact h.lt i hi

theorem SortedBy.gt_iff (h : SortedBy cmp l k m) {i : Nat} (hi : i < l.length) :
    cmp l[i] = .gt ↔ m ≤ i := by
  constructor
  · intro hc
    rcases Nat.lt_or_ge i m with h2 | h2
    · rcases Nat.lt_or_ge i k with h1 | h1
      · rw [h.lt i hi h1] at hc; cases hc
      · rw [h.eq i hi h1 h2] at hc; cases hc
    · exact h2
  · exact h.gt i hi

theorem SortedBy.eq_iff (h : SortedBy cmp l k m) {i : Nat} (hi : i < l.length) :
    cmp l[i] = .eq ↔ k ≤ i ∧ i < m := by
  constructor
  · intro hc
    rcases Nat.lt_or_ge i k with h1 | h1
    · rw [h.lt i hi h1] at hc; cases hc
    · rcases Nat.lt_or_ge i m with h2 | h2
      · exact ⟨h1, h2⟩
      · rw [h.gt i hi h2] at hc; cases hc
  · exact fun ⟨a, b⟩ => h.eq i hi a b

theorem binSearchLoop_spec (h : SortedBy cmp l k m) :
    ∀ (fuel left right : Nat), left ≤ k → m ≤ right → right ≤ l.length → right - left < fuel →
      (k = m → binSearchLoop cmp l fuel left right = .error k) ∧
      (k < m → ∃ i, binSearchLoop cmp l fuel left right = .ok i ∧ k ≤ i ∧ i < m) := by
  intro fuel
  induction fuel with
  | zero => intro left right _ _ _ hf; omega
  | succ fuel ih =>
    intro left right hl hr hrl hf
    have hkm := h.km
    unfold binSearchLoop
    by_cases hlr : left < right
    · simp only [hlr, if_true]
      have hmr : left + (right - left) / 2 < right := by omega
      have hml : left ≤ left + (right - left) / 2 := Nat.le_add_right _ _
      -- all that is used of `mid`
      generalize left + (right - left) / 2 = mid at hmr hml ⊢
      have hmid : mid < l.length := Nat.lt_of_lt_of_le hmr hrl
      rw [List.getElem?_eq_getElem hmid]
      simp only
      cases hc : cmp l[mid] with
      | lt =>
        have := (h.lt_iff hmid).mp hc
        exact ih _ _ this hr hrl (by omega)
      | gt =>
        have := (h.gt_iff hmid).mp hc
        exact ih _ _ hl this (Nat.le_of_lt hmid) (by omega)
      | eq =>
        have := (h.eq_iff hmid).mp hc
        exact ⟨fun e => by omega, fun _ => ⟨_, rfl, this.1, this.2⟩⟩
    · simp only [hlr, if_false]
      exact ⟨fun e => by congr 1; omega, fun e => by omega⟩

/-- **Contract of `binary_search_by`, classic loop.**  On a list sorted w.r.t. `cmp` with `Less`
    region `[0, k)` and `Equal` region `[k, m)`: if no element compares `Equal` the result is
    `Err(k)`, the insertion point; otherwise it is `Ok(i)` for some `i` in the `Equal` region. -/
theorem binSearchBy_spec (h : SortedBy cmp l k m) :
    (k = m → binSearchBy cmp l = .error k) ∧
    (k < m → ∃ i, binSearchBy cmp l = .ok i ∧ k ≤ i ∧ i < m) :=
  binSearchLoop_spec h _ 0 l.length (Nat.zero_le _) h.ml (Nat.le_refl _) (by omega)

theorem binSearchBase_spec (h : SortedBy cmp l k m) :
    ∀ (fuel base size : Nat), (base = 0 ∨ base < m) → m ≤ base + size → base + size ≤ l.length →
      1 ≤ size → size < fuel + 1 →
      (binSearchBase cmp l fuel base size = 0 ∨ binSearchBase cmp l fuel base size < m) ∧
      m ≤ binSearchBase cmp l fuel base size + 1 ∧
      binSearchBase cmp l fuel base size < l.length := by
  intro fuel
  induction fuel with
  | zero =>
    intro base size hb hm hl h1 hf
    have : size = 1 := by omega
    subst this
    unfold binSearchBase
    exact ⟨hb, hm, by omega⟩
  | succ fuel ih =>
    intro base size hb hm hl h1 hf
    unfold binSearchBase
    by_cases hs : size > 1
    · simp only [hs, if_true]
      have hhalf : 1 ≤ size / 2 := by omega
      have hhalf2 : size / 2 ≤ size - size / 2 := by omega
      -- all that is used of `half = size / 2`
      generalize size / 2 = half at hhalf hhalf2 ⊢
      have hmid : base + half < l.length := by omega
      -- the new size, and the two possible new ends of the window
      have hsz : 1 ≤ size - half ∧ size - half < fuel + 1 := by omega
      have hend : base + (size - half) ≤ l.length ∧ base + half + (size - half) ≤ l.length ∧
          m ≤ base + half + (size - half) := by omega
      rw [List.getElem?_eq_getElem hmid]
      simp only
      cases hc : cmp l[base + half] with
      | gt =>
        have := (h.gt_iff hmid).mp hc
        dsimp only
        exact ih _ _ hb (by omega) hend.1 hsz.1 hsz.2
      | lt =>
        have := (h.lt_iff hmid).mp hc
        dsimp only
        exact ih _ _ (.inr (Nat.lt_of_lt_of_le this h.km)) hend.2.2 hend.2.1 hsz.1 hsz.2
      | eq =>
        have := (h.eq_iff hmid).mp hc
        dsimp only
        exact ih _ _ (.inr this.2) hend.2.2 hend.2.1 hsz.1 hsz.2
    · simp only [hs, if_false]
      exact ⟨hb, by omega, by omega⟩

/-- **Contract of `binary_search_by`, branch-free loop.** -/
theorem binSearchBy'_spec (h : SortedBy cmp l k m) :
    (k = m → binSearchBy' cmp l = .error k) ∧
    (k < m → ∃ i, binSearchBy' cmp l = .ok i ∧ k ≤ i ∧ i < m) := by
  unfold binSearchBy'
  have hkm := h.km
  have hml := h.ml
  by_cases h0 : l.length = 0
  · simp only [h0, if_true]
    exact ⟨fun e => by congr 1; omega, fun e => by omega⟩
  · simp only [h0, if_false]
    obtain ⟨hb, hm, hlen⟩ := binSearchBase_spec h (l.length + 1) 0 l.length (.inl rfl) (by omega)
      (by omega) (by omega) (by omega)
    generalize binSearchBase cmp l (l.length + 1) 0 l.length = base at hb hm hlen
    rw [List.getElem?_eq_getElem hlen]
    simp only
    cases hc : cmp l[base] with
    | eq =>
      have := (h.eq_iff hlen).mp hc
      dsimp only
      exact ⟨fun e => by omega, fun _ => ⟨_, rfl, this.1, this.2⟩⟩
    | lt =>
      have := (h.lt_iff hlen).mp hc
      dsimp only
      exact ⟨fun e => by congr 1; omega, fun e => by omega⟩
    | gt =>
      have := (h.gt_iff hlen).mp hc
      dsimp only
      exact ⟨fun e => by congr 1; omega, fun e => by omega⟩

end

/-! ### Strictly ascending tables: at most one `Equal` element -/

theorem takeWhile_congr' {α : Type} {p q : α → Bool} {l : List α} (h : ∀ a ∈ l, p a = q a) :
    l.takeWhile p = l.takeWhile q := by
  induction l with
  | nil => rfl
  | cons a l ih =>
    simp only [List.takeWhile_cons, h a (by simp)]
    rw [ih (fun b hb => h b (by simp [hb]))]

/-- A table whose consecutive elements are related by `R`, for a comparison that is monotone
    along `R` (once an element is not `Less`, every later one is `Greater`) is sorted, with the
    `Less` region counted by `takeWhile` and at most one `Equal` element. -/
theorem sortedBy_of_pairwise {α : Type} {cmp : α → Ordering} {R : α → α → Prop} {l : List α}
    (hR : l.Pairwise R) (hmono : ∀ a b, R a b → cmp a ≠ .lt → cmp b = .gt) :
    ∃ m, SortedBy cmp l (l.takeWhile (fun x => cmp x == .lt)).length m ∧
      m ≤ (l.takeWhile (fun x => cmp x == .lt)).length + 1 ∧
      ((l.takeWhile (fun x => cmp x == .lt)).length < m ↔
        ∃ h : (l.takeWhile (fun x => cmp x == .lt)).length < l.length,
          cmp l[(l.takeWhile (fun x => cmp x == .lt)).length] = .eq) := by
  obtain ⟨s0, s1, s2⟩ := takeWhile_spec (fun x => cmp x == .lt) l
  generalize (l.takeWhile (fun x => cmp x == .lt)).length = k at s0 s1 s2
  have hgt : ∀ i (h : i < l.length), k < i → cmp l[i] = .gt := by
    intro i hi hki
    have hk : k < l.length := by omega
    have hr := List.pairwise_iff_getElem.mp hR k i hk hi hki
    refine hmono _ _ hr ?_
    have := s2 hk
    simpa using this
  have hlt : ∀ i (h : i < l.length), i < k → cmp l[i] = .lt := by
    intro i hi hik
    simpa using s1 i hik hi
  by_cases he : ∃ h : k < l.length, cmp l[k] = .eq
  · obtain ⟨hk, hek⟩ := he
    refine ⟨k + 1, ⟨by omega, by omega, hlt, ?_, ?_⟩, Nat.le_refl _, ?_⟩
    · intro i hi h1 h2
      have : i = k := by omega
      subst this; exact hek
    · intro i hi h1; exact hgt i hi (by omega)
    · exact ⟨fun _ => ⟨hk, hek⟩, fun _ => by omega⟩
  · refine ⟨k, ⟨Nat.le_refl _, s0, hlt, ?_, ?_⟩, by omega, ?_⟩
    · intro i hi h1 h2; omega
    · intro i hi h1
      rcases Nat.lt_or_ge k i with h2 | h2
      · exact hgt i hi h2
      · have : i = k := by omega
        subst this
        have h3 := s2 hi
        have h4 : cmp l[i] ≠ .lt := by simpa using h3
        cases hc : cmp l[i] with
        | lt => exact absurd hc h4
        | eq => exact absurd ⟨hi, hc⟩ he
        | gt => rfl
    · exact ⟨fun h => by omega, fun h => absurd h he⟩

/-- **Binary search on a strictly ascending table** (either loop): the result is determined by
    the specification the model uses — with `k` the number of leading `Less` elements
    (`takeWhile`), `Ok(k)` if the element at `k` compares `Equal`, `Err(k)` otherwise. -/
theorem binSearchBy_strict {α : Type} {cmp : α → Ordering} {R : α → α → Prop} {l : List α}
    (hR : l.Pairwise R) (hmono : ∀ a b, R a b → cmp a ≠ .lt → cmp b = .gt) :
    binSearchBy cmp l =
      (match l[(l.takeWhile (fun x => cmp x == .lt)).length]? with
       | some x => if cmp x = .eq then .ok (l.takeWhile (fun x => cmp x == .lt)).length
                   else .error (l.takeWhile (fun x => cmp x == .lt)).length
       | none => .error (l.takeWhile (fun x => cmp x == .lt)).length) ∧
    binSearchBy' cmp l = binSearchBy cmp l := by
  obtain ⟨m, hs, hm, hiff⟩ := sortedBy_of_pairwise hR hmono
  generalize (l.takeWhile (fun x => cmp x == .lt)).length = k at hs hm hiff
  obtain ⟨a1, a2⟩ := binSearchBy_spec hs
  obtain ⟨b1, b2⟩ := binSearchBy'_spec hs
  have hkm := hs.km
  rcases Nat.lt_or_ge k m with hlt | hge
  · obtain ⟨hk, hek⟩ := hiff.mp hlt
    obtain ⟨i, hi, h1, h2⟩ := a2 hlt
    obtain ⟨j, hj, h3, h4⟩ := b2 hlt
    have : i = k := by omega
    have : j = k := by omega
    subst_vars
    refine ⟨?_, by rw [hi, hj]⟩
    rw [hi, List.getElem?_eq_getElem hk]
    simp [hek]
  · have hkm' : k = m := by omega
    refine ⟨?_, by rw [a1 hkm', b1 hkm']⟩
    rw [a1 hkm']
    have hne : ¬ ∃ h : k < l.length, cmp l[k] = .eq := fun h => by have := hiff.mpr h; omega
    rcases Nat.lt_or_ge k l.length with hk | hk
    · rw [List.getElem?_eq_getElem hk]
      have : cmp l[k] ≠ .eq := fun h => hne ⟨hk, h⟩
      simp [this]
    · rw [List.getElem?_eq_none hk]

end Grenad.BinSearch
