/-
  Grenad.Proofs.BinHeapProofs — the array-based binary heap of Grenad.Model.BinHeap implements the
  list specification of Grenad.Model.Merger (`heapMin` / `heapPop`), and the merger running on it
  (`MergerH`) is simulated by the list merger (`Merger`).

  `ple a b` ("`a` pops no later than `b`", `¬ b.before a`) is a total preorder whatever the entries.
  The sift loops are followed with the usual "ordered except at the hole" invariants `Except` / `Up`,
  stated over the child through the parent index `par`.  `push` / `pop` / `peek` keep `HeapOrdered`
  and the multiset, the root is a least element, and with pairwise distinct `(key, idx)` pairs
  `peek = heapMin` and `pop` is `heapPop` up to a permutation of the remainder
  (`binheap_pop_spec`); the simulation of `Merger` by `MergerH` follows step by step.
-/
import Grenad.Model.BinHeap
import Grenad.Proofs.MergeProofs

set_option autoImplicit false

namespace Grenad.BinHeapP
open Grenad Grenad.Wave3

/-- `a` pops no later than `b` (Rust: `b <= a` for `Entry::cmp`): the negation of `b.before a`.
    A total preorder on all heap entries (no distinctness needed). -/
def ple (a b : MSrc) : Prop := b.before a = false

theorem ple_of_not_before {a b : MSrc} (h : ¬ a.before b = true) : ple b a := by
  unfold ple; simpa using h

theorem ple_of_before {a b : MSrc} (h : a.before b = true) : ple a b :=
  ple_of_not_before (before_asymm h)

theorem ple_refl (a : MSrc) : ple a a := ple_of_not_before (fun h => before_asymm h h)

theorem ple_trans {a b c : MSrc} (h1 : ple a b) (h2 : ple b c) : ple a c := by
  unfold ple at *
  rw [Bool.eq_false_iff, ne_eq, before_iff] at *
  have := @blt_tri
  have := @blt_trans
  have := blt_irrefl
  grind

/-- On entries with distinct `(key, idx)` pairs `MSrc.before` is a strict total order:
    irreflexive, transitive, and any two different-pair entries are comparable. -/
theorem before_strict_total :
    (∀ a : MSrc, ¬ a.before a = true) ∧
    (∀ a b c : MSrc, a.before b = true → b.before c = true → a.before c = true) ∧
    (∀ a b : MSrc, (a.key, a.idx) ≠ (b.key, b.idx) → a.before b = true ∨ b.before a = true) := by
  refine ⟨fun a h => before_asymm h h, fun a b c => before_trans, fun a b hne => ?_⟩
  by_cases h : a.before b = true
  · exact Or.inl h
  · exact Or.inr (before_total_of_ne (fun e1 e2 => hne (by rw [e1, e2])) h)

/-- `j` is a child of `i` in the implicit binary tree. -/
def Child (i j : Nat) : Prop := j = 2 * i + 1 ∨ j = 2 * i + 2

/-- The heap order on the backing array: every parent pops no later than its children. -/
def ArrOrdered (a : Array MSrc) : Prop :=
  ∀ i j (hi : i < a.size) (hj : j < a.size), Child i j → ple a[i] a[j]

/-- The parent of `j`.  Every non-root index has exactly one parent, so the heap order and the
    invariants of the sift loops are stated over the child alone. -/
def par (j : Nat) : Nat := (j - 1) / 2

theorem child_iff {i j : Nat} : Child i j ↔ 0 < j ∧ i = par j := by
  unfold Child par; omega

theorem par_lt {j : Nat} (h : 0 < j) : par j < j := by unfold par; omega

theorem arrOrdered_iff (a : Array MSrc) :
    ArrOrdered a ↔
      ∀ j (h0 : 0 < j) (hj : j < a.size), ple (a[par j]'(Nat.lt_trans (par_lt h0) hj)) a[j] := by
  constructor
  · intro h j h0 hj
    exact h _ j _ hj (child_iff.mpr ⟨h0, rfl⟩)
  · intro h i j hi hj hc
    obtain ⟨h0, rfl⟩ := child_iff.mp hc
    exact h j h0 hj

/-- Ordered except around position `p` (the hole): every `j` other than `p` and its children is in
    order with its parent, and the parent of `p` pops no later than the children of `p`. -/
def Except (a : Array MSrc) (p : Nat) : Prop :=
  (∀ j (h0 : 0 < j) (hj : j < a.size), j ≠ p → par j ≠ p →
    ple (a[par j]'(Nat.lt_trans (par_lt h0) hj)) a[j]) ∧
  (∀ k (h0 : 0 < p) (hk : k < a.size) (hpk : p < k), par k = p →
    ple (a[par p]'(Nat.lt_trans (par_lt h0) (Nat.lt_trans hpk hk))) a[k])

/-- Ordered except between `p` and its parent (`sift_up`'s precondition). -/
def Up (a : Array MSrc) (p : Nat) : Prop :=
  (∀ j (h0 : 0 < j) (hj : j < a.size), j ≠ p → ple (a[par j]'(Nat.lt_trans (par_lt h0) hj)) a[j]) ∧
  (∀ k (h0 : 0 < p) (hk : k < a.size) (hpk : p < k), par k = p →
    ple (a[par p]'(Nat.lt_trans (par_lt h0) (Nat.lt_trans hpk hk))) a[k])

/-- One step of `sift_up`: after exchanging `p` with its parent (which pops later), the only
    possible disorder is between the parent's position and the grandparent. -/
theorem up_swap {a : Array MSrc} {p : Nat} (h0 : 0 < p) (hp : p < a.size) (hU : Up a p)
    (hb : a[p].before (a[par p]'(Nat.lt_trans (par_lt h0) hp)) = true) :
    Up (a.swap p (par p) hp (Nat.lt_trans (par_lt h0) hp)) (par p) := by
  obtain ⟨h1, h2⟩ := hU
  have hq := par_lt h0
  have hle := ple_of_before hb
  refine ⟨?_, ?_⟩
  · intro j hj0 hj hjq
    simp only [Array.size_swap] at hj
    by_cases hjp : j = p
    · -- `p` now holds the old parent, its parent position the old `a[p]`
      subst hjp
      simpa [Array.getElem_swap] using hle
    · have hpj := par_lt hj0
      rw [Array.getElem_swap_of_ne hjp hjq]
      by_cases e1 : par j = p
      · -- a child of `p`: its new parent is the old grandparent
        simp only [e1, Array.getElem_swap_left]
        exact h2 j h0 hj (by omega) e1
      · by_cases e2 : par j = par p
        · -- a sibling of `p`: its new parent `a[p]` pops before the old one
          simp only [e2, Array.getElem_swap_right]
          have := h1 j hj0 hj hjp
          simp only [e2] at this
          exact ple_trans hle this
        · rw [Array.getElem_swap_of_ne e1 e2]
          exact h1 j hj0 hj hjp
  · intro k hq0 hk hqk hkq
    simp only [Array.size_swap] at hk
    have hqq := par_lt hq0
    rw [Array.getElem_swap_of_ne (by omega) (by omega)]
    have hgq := h1 (par p) hq0 (by omega) (by omega)
    by_cases hkp : k = p
    · subst hkp
      simpa [Array.getElem_swap] using hgq
    · rw [Array.getElem_swap_of_ne hkp (by omega)]
      have := h1 k (by omega) hk hkp
      simp only [hkq] at this
      exact ple_trans hgq this

open BinHeap

theorem siftUpLoop_size (fuel : Nat) (a : Array MSrc) (p : Nat) :
    (siftUpLoop fuel a p).size = a.size := by
  fun_induction siftUpLoop fuel a p with
  | case1 => rfl
  | case2 fuel a p h parent hb ih => rw [ih, Array.size_swap]
  | case3 => rfl
  | case4 => rfl

theorem siftUpLoop_perm (fuel : Nat) (a : Array MSrc) (p : Nat) :
    (siftUpLoop fuel a p).Perm a := by
  fun_induction siftUpLoop fuel a p with
  | case1 => exact Array.Perm.refl _
  | case2 fuel a p h parent hb ih => exact ih.trans (Array.swap_perm _ _)
  | case3 => exact Array.Perm.refl _
  | case4 => exact Array.Perm.refl _

theorem siftUp_perm (a : Array MSrc) (p : Nat) : (siftUp a p).Perm a := siftUpLoop_perm _ _ _

/-- `sift_up` stops: `p` is in order with its parent (or has none), so nothing is out of order. -/
theorem ordered_of_up {a : Array MSrc} {p : Nat} (hU : Up a p)
    (hle : ∀ (h0 : 0 < p) (hp : p < a.size), ple (a[par p]'(Nat.lt_trans (par_lt h0) hp)) a[p]) :
    ArrOrdered a := by
  rw [arrOrdered_iff]
  intro j h0 hj
  by_cases hjp : j = p
  · subst hjp; exact hle h0 hj
  · exact hU.1 j h0 hj hjp

theorem siftUpLoop_ordered (fuel : Nat) (a : Array MSrc) (p : Nat) (hf : p ≤ fuel)
    (hU : Up a p) : ArrOrdered (siftUpLoop fuel a p) := by
  fun_induction siftUpLoop fuel a p with
  | case1 a p => exact ordered_of_up hU (fun h0 _ => by omega)
  | case2 fuel a p h parent hb ih =>
    exact ih (by have := par_lt h.1; simp only [parent, par] at *; omega) (up_swap h.1 h.2 hU hb)
  | case3 fuel a p h parent hb => exact ordered_of_up hU (fun _ _ => ple_of_not_before hb)
  | case4 fuel a p h => exact ordered_of_up hU (fun h0 hp => absurd ⟨h0, hp⟩ h)

theorem siftUp_ordered (a : Array MSrc) (p : Nat) (hU : Up a p) : ArrOrdered (siftUp a p) :=
  siftUpLoop_ordered _ _ _ (Nat.le_refl _) hU

/-- One step of `sift_down_to_bottom`: the hole moves from `p` to its child `c`, the child that
    pops no later than its sibling. -/
theorem except_swap_down {a : Array MSrc} {p c : Nat} (hpc : par c = p) (h0 : 0 < c)
    (hp : p < a.size) (hc : c < a.size) (hE : Except a p)
    (hmin : ∀ k (hk : k < a.size), 0 < k → par k = p → ple a[c] a[k]) :
    Except (a.swap p c hp hc) c := by
  subst hpc
  obtain ⟨h1, h2⟩ := hE
  have hpc := par_lt h0
  refine ⟨?_, ?_⟩
  · intro j hj0 hj hjc hpjc
    simp only [Array.size_swap] at hj
    have hpj := par_lt hj0
    by_cases hjp : j = par c
    · -- the old hole now holds `a[c]`; its parent is untouched
      subst hjp
      rw [Array.getElem_swap_left, Array.getElem_swap_of_ne (by omega) (by omega)]
      exact h2 c hj0 hc hpc rfl
    · rw [Array.getElem_swap_of_ne hjp hjc]
      by_cases e1 : par j = par c
      · -- the sibling of `c`: its parent is now `a[c]`
        simp only [e1, Array.getElem_swap_left]
        exact hmin j hj hj0 e1
      · rw [Array.getElem_swap_of_ne e1 hpjc]
        exact h1 j hj0 hj hjp e1
  · intro k _ hk hck hkc
    simp only [Array.size_swap] at hk
    simp only [Array.getElem_swap_left]
    rw [Array.getElem_swap_of_ne (by omega) (by omega)]
    have := h1 k (by omega) hk (by omega) (by omega)
    simpa only [hkc] using this

theorem up_of_except_leaf {a : Array MSrc} {p : Nat} (hE : Except a p)
    (hleaf : a.size ≤ 2 * p + 1) : Up a p := by
  refine ⟨fun j h0 hj hjp => hE.1 j h0 hj hjp ?_, hE.2⟩
  unfold par; omega

theorem siftDownLoop_size (fuel : Nat) (a : Array MSrc) (p : Nat) :
    (siftDownLoop fuel a p).size = a.size := by
  fun_induction siftDownLoop fuel a p <;> simp_all [siftUp, siftUpLoop_size]

theorem siftDown_size (a : Array MSrc) (p : Nat) : (siftDownToBottom a p).size = a.size :=
  siftDownLoop_size _ _ _

theorem siftDownLoop_perm (fuel : Nat) (a : Array MSrc) (p : Nat) :
    (siftDownLoop fuel a p).Perm a := by
  fun_induction siftDownLoop fuel a p with
  | case1 => exact Array.Perm.refl _
  | case2 fuel a p h child h2 c ih => exact ih.trans (Array.swap_perm _ _)
  | case3 fuel a p h child h2 h1 => exact (siftUp_perm _ _).trans (Array.swap_perm _ _)
  | case4 => exact siftUp_perm _ _
  | case5 => exact Array.Perm.refl _

theorem siftDown_perm (a : Array MSrc) (p : Nat) : (siftDownToBottom a p).Perm a :=
  siftDownLoop_perm _ _ _

theorem ordered_of_except_out {a : Array MSrc} {p : Nat} (hp : a.size ≤ p) (hE : Except a p) :
    ArrOrdered a := by
  rw [arrOrdered_iff]
  intro j h0 hj
  have := par_lt h0
  exact hE.1 j h0 hj (by omega) (by omega)

theorem par_child (p : Nat) : par (2 * p + 1) = p ∧ par (2 * p + 2) = p := by unfold par; omega

theorem siftDownLoop_ordered (fuel : Nat) (a : Array MSrc) (p : Nat) (hf : a.size - p ≤ fuel)
    (hE : Except a p) : ArrOrdered (siftDownLoop fuel a p) := by
  fun_induction siftDownLoop fuel a p with
  | case1 a p => exact ordered_of_except_out (by omega) hE
  | case2 fuel a p h child h2 c ih =>
    by_cases hb : (a[child]'(by omega)).before a[child + 1] = true
    · have hcc : c = child := if_pos hb
      refine ih (by simp only [Array.size_swap, hcc, child]; omega)
        (except_swap_down (by rw [hcc]; exact (par_child p).1) (by omega) h _ hE ?_)
      intro k hk hk0 hkp
      simp only [hcc]
      rcases child_iff.mpr ⟨hk0, hkp.symm⟩ with rfl | rfl
      · exact ple_refl _
      · exact ple_of_before hb
    · have hcc : c = child + 1 := if_neg hb
      refine ih (by simp only [Array.size_swap, hcc, child]; omega)
        (except_swap_down (by rw [hcc]; exact (par_child p).2) (by omega) h _ hE ?_)
      intro k hk hk0 hkp
      simp only [hcc]
      rcases child_iff.mpr ⟨hk0, hkp.symm⟩ with rfl | rfl
      · exact ple_of_not_before hb
      · exact ple_refl _
  | case3 fuel a p h child h2 h1 =>
    refine siftUp_ordered _ _ (up_of_except_leaf (except_swap_down (par_child p).1 (by omega) h _ hE ?_) ?_)
    · intro k hk hk0 hkp
      rcases child_iff.mpr ⟨hk0, hkp.symm⟩ with rfl | rfl
      · exact ple_refl _
      · omega
    · simp only [Array.size_swap]; omega
  | case4 fuel a p h child h2 h1 =>
    exact siftUp_ordered _ _ (up_of_except_leaf hE (by omega))
  | case5 fuel a p h => exact ordered_of_except_out (by omega) hE
theorem siftDown_ordered (a : Array MSrc) (p : Nat) (hE : Except a p) :
    ArrOrdered (siftDownToBottom a p) :=
  siftDownLoop_ordered _ _ _ (by omega) hE

def HeapOrdered (h : BinHeap) : Prop := ArrOrdered h.data

theorem empty_ordered : HeapOrdered BinHeap.empty := by
  intro i j hi hj _
  simp [BinHeap.empty] at hi

@[simp] theorem empty_toList : BinHeap.empty.toList = [] := rfl

theorem size_eq_length (h : BinHeap) : h.size = h.toList.length := by
  simp [BinHeap.size, BinHeap.toList]

/-- In an ordered heap the root pops no later than any element. -/
theorem root_le {a : Array MSrc} (ho : ArrOrdered a) : ∀ (j : Nat) (hj : j < a.size),
    ple (a[0]'(by omega)) a[j] := by
  intro j
  induction j using Nat.strongRecOn with
  | _ j ih =>
    intro hj
    by_cases h0 : j = 0
    · subst h0; exact ple_refl _
    · have hq : par j < j := par_lt (by omega)
      exact ple_trans (ih _ hq (by omega)) (ho _ j (by omega) hj (child_iff.mpr ⟨by omega, rfl⟩))

theorem push_perm (h : BinHeap) (x : MSrc) : (h.push x).toList.Perm (x :: h.toList) := by
  have := Array.perm_iff_toList_perm.mp (siftUp_perm (h.data.push x) h.data.size)
  refine this.trans ?_
  simp only [Array.toList_push, BinHeap.toList]
  exact List.perm_append_singleton _ _

theorem push_ordered {h : BinHeap} (ho : HeapOrdered h) (x : MSrc) : HeapOrdered (h.push x) := by
  refine siftUp_ordered _ _ ⟨?_, ?_⟩
  · -- below the new last position the array is the old, ordered one
    intro j h0 hj hjp
    simp only [Array.size_push] at hj
    have := par_lt h0
    rw [Array.getElem_push_lt (by omega), Array.getElem_push_lt (by omega)]
    exact (arrOrdered_iff _).mp ho j h0 (by omega)
  · intro k _ hk hpk _
    simp only [Array.size_push] at hk
    omega

theorem pop_eq_none {h : BinHeap} : h.pop = none ↔ h.toList = [] := by
  unfold BinHeap.pop BinHeap.toList
  cases hb : h.data.back? with
  | none =>
    rw [Array.back?_eq_none_iff] at hb
    simp [hb]
  | some item =>
    obtain ⟨ys, hys⟩ := Array.back?_eq_some_iff.mp hb
    simp only [hys]
    constructor
    · intro e; split at e <;> cases e
    · intro e; simp at e

/-- What `pop` returns on an ordered heap: the root, and an ordered heap holding the other
    elements. -/
theorem pop_some {h h' : BinHeap} {m : MSrc} (ho : HeapOrdered h) (hp : h.pop = some (m, h')) :
    h.data[0]? = some m ∧ h.toList.Perm (m :: h'.toList) ∧ HeapOrdered h' := by
  unfold BinHeap.pop at hp
  cases hb : h.data.back? with
  | none => rw [hb] at hp; cases hp
  | some item =>
    obtain ⟨ys, hys⟩ := Array.back?_eq_some_iff.mp hb
    rw [hb] at hp
    simp only [hys, Array.pop_push] at hp
    unfold HeapOrdered at ho
    simp only [BinHeap.toList, hys] at ho ⊢
    split at hp
    · rename_i hd
      simp only [Option.some.injEq, Prod.mk.injEq] at hp
      obtain ⟨rfl, rfl⟩ := hp
      refine ⟨?_, ?_, ?_⟩
      · rw [Array.getElem?_push]; simp [hd, Nat.ne_of_lt hd]
      · have hperm := Array.perm_iff_toList_perm.mp (siftDown_perm (ys.set 0 item hd) 0)
        refine List.Perm.trans ?_ (hperm.symm.cons _)
        obtain ⟨l⟩ := ys
        cases l with
        | nil => simp at hd
        | cons y t =>
          simp only [List.push_toArray, List.getElem_toArray, List.getElem_cons_zero,
            List.set_toArray, List.set_cons_zero, List.cons_append]
          exact (List.perm_append_singleton _ _).cons _
      · refine siftDown_ordered _ _ ⟨?_, fun k h0 => absurd h0 (Nat.lt_irrefl 0)⟩
        intro j h0 hj hj0 hpj
        simp only [Array.size_set] at hj
        have hpl := par_lt h0
        rw [Array.getElem_set_ne _ _ (Ne.symm hpj), Array.getElem_set_ne _ _ (Ne.symm hj0)]
        have := (arrOrdered_iff _).mp ho j h0 (by simp; omega)
        rw [Array.getElem_push_lt (by omega), Array.getElem_push_lt hj] at this
        exact this
    · rename_i hd
      simp only [Option.some.injEq, Prod.mk.injEq] at hp
      obtain ⟨rfl, rfl⟩ := hp
      have : ys = #[] := by
        apply Array.eq_empty_of_size_eq_zero; omega
      subst this
      refine ⟨by simp, by simp, ?_⟩
      intro i j hi _ _
      simp at hi


/-! #### peek, and the specification of pop -/

theorem peek_eq_none {h : BinHeap} : h.peek = none ↔ h.toList = [] := by
  unfold BinHeap.peek BinHeap.toList
  rw [Array.getElem?_eq_none_iff]
  constructor
  · intro hs; exact Array.toList_eq_nil_iff.mpr (Array.eq_empty_of_size_eq_zero (by omega))
  · intro hs; rw [Array.toList_eq_nil_iff] at hs; simp [hs]

/-- The root of an ordered heap is an element that pops no later than any other. -/
theorem peek_le {h : BinHeap} (ho : HeapOrdered h) {r : MSrc} (hp : h.peek = some r) :
    r ∈ h.toList ∧ ∀ x ∈ h.toList, ple r x := by
  unfold BinHeap.peek at hp
  obtain ⟨h0, rfl⟩ := Array.getElem?_eq_some_iff.mp hp
  refine ⟨by simp [BinHeap.toList], ?_⟩
  intro x hx
  simp only [BinHeap.toList, Array.mem_toList_iff] at hx
  obtain ⟨j, hj, rfl⟩ := Array.mem_iff_getElem.mp hx
  exact root_le ho j hj

/-- `peek` = `heapMin` (pairwise distinct `(key, idx)` pairs). -/
theorem peek_eq_heapMin {h : BinHeap} (ho : HeapOrdered h) (hne : KeyIdxNe h.toList) :
    h.peek = heapMin h.toList := by
  cases hm : heapMin h.toList with
  | none => exact peek_eq_none.mpr (heapMin_eq_none.mp hm)
  | some m =>
    cases hp : h.peek with
    | none =>
      rw [peek_eq_none.mp hp] at hm
      simp [heapMin] at hm
    | some r =>
      obtain ⟨hr, hle⟩ := peek_le ho hp
      obtain ⟨hmem, hall⟩ := heapMin_least hne hm
      rcases hall r hr with e | hb
      · rw [e]
      · have := hle m hmem
        unfold ple at this
        rw [this] at hb
        cases hb

/-- **The binary heap implements the specification.**  On an ordered heap with pairwise distinct
    `(key, idx)` pairs, `pop` returns `none` exactly when `heapPop` on the element list does;
    otherwise it returns the very element `heapPop` selects, and an ordered heap whose elements
    are a permutation of `heapPop`'s remainder. -/
theorem binheap_pop_spec {h : BinHeap} (ho : HeapOrdered h) (hne : KeyIdxNe h.toList) :
    (h.pop = none ∧ heapPop h.toList = none) ∨
    ∃ m h' r, h.pop = some (m, h') ∧ heapPop h.toList = some (m, r) ∧ h'.toList.Perm r ∧
      HeapOrdered h' ∧ h.peek = some m := by
  cases hp : h.pop with
  | none =>
    left
    exact ⟨rfl, heapPop_eq_none.mpr (pop_eq_none.mp hp)⟩
  | some p =>
    right
    obtain ⟨m, h'⟩ := p
    obtain ⟨hroot, hperm, ho'⟩ := pop_some ho hp
    have hpk : heapMin h.toList = some m := by
      rw [← peek_eq_heapMin ho hne]; exact hroot
    refine ⟨m, h', h.toList.erase m, rfl, by simp [heapPop, hpk], ?_, ho', hroot⟩
    have := hperm.erase m
    rw [List.erase_cons_head] at this
    exact this.symm

/-! ### Simulation of the list merger -/

/-- `pop` on the binary heap against `heapPop` on ANY list holding the same elements. -/
theorem pop_sim {h : BinHeap} {l : List MSrc} (ho : HeapOrdered h) (hne : KeyIdxNe l)
    (hp : h.toList.Perm l) :
    (h.pop = none ∧ h.peek = none ∧ heapPop l = none) ∨
    ∃ m h' r, h.pop = some (m, h') ∧ h.peek = some m ∧ heapPop l = some (m, r) ∧
      h'.toList.Perm r ∧ HeapOrdered h' ∧ KeyIdxNe r := by
  have hne' : KeyIdxNe h.toList := hne.perm hp.symm
  rcases binheap_pop_spec ho hne' with ⟨e1, e2⟩ | ⟨m, h', r, e1, e2, hr, ho', hpk⟩
  · left
    have hnil := heapPop_eq_none.mp e2
    refine ⟨e1, peek_eq_none.mpr hnil, heapPop_eq_none.mpr ?_⟩
    rw [hnil] at hp
    exact hp.nil_eq.symm
  · right
    rcases heapPop_perm hne' hp with ⟨e3, _⟩ | ⟨m2, r2, r2', e3, e4, hr2, hner2⟩
    · rw [e3] at e2; cases e2
    · rw [e3] at e2
      simp only [Option.some.injEq, Prod.mk.injEq] at e2
      obtain ⟨rfl, rfl⟩ := e2
      exact ⟨m2, h', r2', e1, hpk, e4, hr.trans hr2, ho', hner2.perm hr2⟩

/-- The `peek`/`pop` loop on the binary heap collects the same entries in the same order as
    `popSame` on any list holding the same elements. -/
theorem popSameH_sim (k : Bytes) : ∀ (fuel : Nat) (h : BinHeap) (l acc : List MSrc),
    HeapOrdered h → KeyIdxNe l → h.toList.Perm l →
    (popSameH k fuel h acc).1 = (popSame k fuel l acc).1 ∧
    (popSameH k fuel h acc).2.toList.Perm (popSame k fuel l acc).2 ∧
    HeapOrdered (popSameH k fuel h acc).2 := by
  intro fuel
  induction fuel with
  | zero => intro h l acc ho _ hp; exact ⟨rfl, hp, ho⟩
  | succ fuel ih =>
    intro h l acc ho hne hp
    simp only [popSameH, popSame]
    rcases pop_sim ho hne hp with ⟨e1, e2, e3⟩ | ⟨m, h', r, e1, e2, e3, hr, ho', hner⟩
    · rw [e2, e3]; exact ⟨rfl, hp, ho⟩
    · rw [e2, e3]
      simp only
      by_cases hk : m.key = k
      · simp only [hk, if_true, e1]
        exact ih h' r (m :: acc) ho' hner hr
      · simp only [hk, if_false]
        exact ⟨trivial, hp, ho⟩

theorem advanceH_sim {h : BinHeap} {l : List MSrc} (ho : HeapOrdered h) (hp : h.toList.Perm l)
    (s : MSrc) : HeapOrdered (advanceH h s) ∧ (advanceH h s).toList.Perm (advance l s) := by
  obtain ⟨i, rest⟩ := s
  match rest with
  | [] => exact ⟨ho, hp⟩
  | [_] => exact ⟨ho, hp⟩
  | _ :: e :: more => exact ⟨push_ordered ho _, (push_perm h _).trans (hp.cons _)⟩

theorem foldl_advanceH_sim (F : List MSrc) : ∀ (h : BinHeap) (l : List MSrc), HeapOrdered h →
    h.toList.Perm l →
    HeapOrdered (F.foldl advanceH h) ∧ (F.foldl advanceH h).toList.Perm (F.foldl advance l) := by
  induction F with
  | nil => intro h l ho hp; exact ⟨ho, hp⟩
  | cons s F ih =>
    intro h l ho hp
    simp only [List.foldl_cons]
    obtain ⟨h1, h2⟩ := advanceH_sim ho hp s
    exact ih _ _ h1 h2

theorem startH_go_sim (ss : List (List Entry)) : ∀ (i : Nat) (h : BinHeap), HeapOrdered h →
    HeapOrdered (MergerH.startH.go i ss h) ∧
    (MergerH.startH.go i ss h).toList.Perm (Merger.start.go i ss ++ h.toList) := by
  induction ss with
  | nil => intro i h ho; exact ⟨ho, by simp [MergerH.startH.go, Merger.start.go]⟩
  | cons s ss ih =>
    intro i h ho
    cases s with
    | nil => simpa only [MergerH.startH.go, Merger.start.go] using ih (i + 1) h ho
    | cons e es =>
      simp only [MergerH.startH.go, Merger.start.go]
      obtain ⟨h1, h2⟩ := ih (i + 1) _ (push_ordered ho ⟨i, e :: es⟩)
      refine ⟨h1, h2.trans ?_⟩
      refine ((push_perm h _).append_left _).trans ?_
      simp only [List.cons_append]
      exact List.perm_middle

/-- The initial binary heap is ordered and holds the entries of the initial list heap. -/
theorem startH_sim (sources : List (List Entry)) :
    HeapOrdered (MergerH.startH sources).heap ∧
    (MergerH.startH sources).heap.toList.Perm (Merger.start sources).heap ∧
    (MergerH.startH sources).calls = (Merger.start sources).calls := by
  obtain ⟨h1, h2⟩ := startH_go_sim sources 0 BinHeap.empty empty_ordered
  exact ⟨h1, by simpa [MergerH.startH, Merger.start] using h2, rfl⟩

/-- One `MergerIter::next` on the binary heap against one on a list heap holding the same
    entries: same result, same calls, and the new heaps again hold the same entries. -/
theorem nextH_sim (mf : MergeFn) (mh : MergerH) (m : Merger) (ho : HeapOrdered mh.heap)
    (hne : KeyIdxNe m.heap) (hp : mh.heap.toList.Perm m.heap) (hc : mh.calls = m.calls) :
    (MergerH.nextH mf mh).2 = (Merger.next mf m).2 ∧
    HeapOrdered (MergerH.nextH mf mh).1.heap ∧
    (MergerH.nextH mf mh).1.heap.toList.Perm (Merger.next mf m).1.heap ∧
    (MergerH.nextH mf mh).1.calls = (Merger.next mf m).1.calls := by
  rcases pop_sim ho hne hp with ⟨e1, _, e3⟩ | ⟨first, h', r, e1, _, e3, hr, ho', hner⟩
  · simp only [MergerH.nextH, Merger.next, e1, e3]
    exact ⟨trivial, ho, hp, hc⟩
  · have hlen : h'.size = r.length := by rw [size_eq_length, hr.length_eq]
    obtain ⟨hs1, hs2, hs3⟩ := popSameH_sim first.key (r.length + 1) h' r [] ho' hner hr
    cases hps : popSameH first.key (r.length + 1) h' [] with
    | mk S h2 =>
      cases hps' : popSame first.key (r.length + 1) r [] with
      | mk S' l2 =>
        rw [hps, hps'] at hs1 hs2
        rw [hps] at hs3
        simp only at hs1 hs2 hs3
        subst hs1
        simp only [MergerH.nextH, Merger.next, e1, e3, hlen, hps, hps', hc]
        cases mf first.key (first.val :: List.map MSrc.val S) with
        | none => exact ⟨rfl, hs3, hs2, rfl⟩
        | some v =>
          obtain ⟨g1, g2⟩ := foldl_advanceH_sim (first :: S) h2 l2 hs3 hs2
          exact ⟨rfl, g1, g2, rfl⟩

/-- Draining: the merger on the binary heap and the merger on a list heap holding the same
    entries give the same output and the same calls. -/
theorem collectH_sim (mf : MergeFn) : ∀ (fuel : Nat) (mh : MergerH) (m : Merger) (acc : List Entry),
    HeapOrdered mh.heap → IdxNe m.heap → mh.heap.toList.Perm m.heap → mh.calls = m.calls →
    (MergerH.collectH mf fuel mh acc).1 = (Merger.collect mf fuel m acc).1 ∧
    (MergerH.collectH mf fuel mh acc).2.calls = (Merger.collect mf fuel m acc).2.calls := by
  intro fuel
  induction fuel with
  | zero => intro mh m acc _ _ _ hc; exact ⟨rfl, hc⟩
  | succ fuel ih =>
    intro mh m acc ho hne hp hc
    obtain ⟨h1, h2, h3, h4⟩ := nextH_sim mf mh m ho (keyIdxNe_of_idxNe hne) hp hc
    have h5 := next_idxNe mf m hne
    simp only [MergerH.collectH, Merger.collect]
    cases hn : MergerH.nextH mf mh with
    | mk mh1 r1 =>
      cases hn' : Merger.next mf m with
      | mk m1 r1' =>
        rw [hn, hn'] at h1 h3 h4
        rw [hn] at h2
        rw [hn'] at h5
        simp only at h1 h2 h3 h4 h5
        subst h1
        match r1 with
        | .ok none => exact ⟨rfl, h4⟩
        | .ok (some e) => exact ih mh1 m1 (e :: acc) h2 h5 h3 h4
        | .mergeErr => exact ⟨rfl, h4⟩

/-- **Whole runs.**  The merger on the array-based binary heap produces the output and the merge
    calls of the merger on the specification heap — for all sources and merge functions. -/
theorem runH_eq_run (mf : MergeFn) (sources : List (List Entry)) :
    (MergerH.runH mf sources).1 = (Merger.run mf sources).1 ∧
    (MergerH.runH mf sources).2.calls = (Merger.run mf sources).2.calls := by
  obtain ⟨h1, h2, h3⟩ := startH_sim sources
  exact collectH_sim mf _ _ _ [] h1 (start_idxNe sources) h2 h3

end Grenad.BinHeapP
