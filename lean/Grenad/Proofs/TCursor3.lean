/-
  T-cursor, part 3: absolute moves (`first`, `last`, `ge`) walk from the root to the block that
  holds the target entry, from any cache-sound state.
-/
import Grenad.Proofs.TCursor2
import Grenad.Proofs.ReaderEq

namespace Grenad.TCursor

open Grenad Spec

/-- The standing assumptions about a non-empty file. -/
structure Ctx (s : Store) (lvl : Nat → Nat) (D root : Nat) (es : List Entry) : Prop where
  asc : StrictAsc es
  sub : Sub s lvl D root es
  lt  : ∀ off blk, s off = some blk → off < 2 ^ 64

section
variable {s : Store} {lvl : Nat → Nat} {D root : Nat} {es : List Entry}

theorem Ctx.off_lt (cx : Ctx s lvl D root es) {d off : Nat} {fl : List Entry}
    (h : Sub s lvl d off fl) : off < 2 ^ 64 := by
  obtain ⟨blk, hb⟩ := Sub.stored h
  exact cx.lt _ _ hb

/-- The block at `off` (depth `k`, content `fl`) lies on the way of the absolute move `mov` to its
    target: `acc` are the index cursors above it (nearest first), each on the child leading here,
    and the target of `mov` in `es` is its target in `fl`. -/
structure OnWay (s : Store) (lvl : Nat → Nat) (D root : Nat) (es : List Entry) (mov : Mov)
    (k off : Nat) (fl : List Entry) (acc : List (Nat × LC)) (pre post : List Entry) : Prop where
  sub : Sub s lvl k off fl
  up : UpPath s lvl D root es k off fl acc pre post
  lt : target mov fl < fl.length
  eq : target mov es = pre.length + target mov fl

/-- One level of descent of an absolute move. -/
theorem descend_step (cx : Ctx s lvl D root es) {mov : Mov} (hm : AbsMov mov)
    {k off : Nat} {fl : List Entry} {acc : List (Nat × LC)} {pre post : List Entry}
    (h : OnWay s lvl D root es mov (k + 1) off fl acc pre post) (c : LC) (hc : s off = some c.es) :
    ∃ c' e koff kfl pre2 post2, LC.ops.apply mov c = (c', some e) ∧ c'.es = c.es ∧ offOf e = koff ∧
      ∀ o, OnWay s lvl D root es mov k koff kfl ((o, c') :: acc) pre2 post2 := by
  obtain ⟨hsub, hup, ht, hT⟩ := h
  obtain ⟨kids, hkne, hblk, hkids, rfl⟩ := Sub.inv_node hsub
  have hce : c.es = idx kids := by rw [hblk] at hc; exact (Option.some.inj hc).symm
  have hne : ∀ k ∈ kids, k.2 ≠ [] := fun k hk => Sub.flat_ne (hkids k hk)
  obtain ⟨kpre, kid, kpost, rfl, h2, h3, h4⟩ := target_node hm hne
    (StrictAsc.right (StrictAsc.left (hup.split ▸ cx.asc))) ht
  obtain ⟨koff, kfl⟩ := kid
  have hcne : c.es ≠ [] := by rw [hce]; simp
  have hk : Sub s lvl k koff kfl := hkids (koff, kfl) (by simp)
  refine ⟨⟨c.es, some kpre.length⟩, (lastKey kfl, be64 koff), koff, kfl, pre ++ flat kpre,
    flat kpost ++ post, ?_, rfl, offOf_mk _ (cx.off_lt hk), fun o => ⟨hk, ?_, h4, ?_⟩⟩
  · rw [apply_abs hm c hcne, hce, h2, idx_zip_get]
  · exact ⟨off, kpre, kpost, pre, post, rfl, rfl, hkids, hce, rfl, hup⟩
  · rw [hT, h3]; simp only [List.length_append]; omega

/-- `iterLevels` for an absolute move whose target exists: ends on the leaf holding the target,
    whatever was cached before. `acc` is the (ghost) list of levels already walked. -/
theorem iterLevels_hit (cx : Ctx s lvl D root es) {mov : Mov} (hm : AbsMov mov) :
    ∀ (rest : List (Nat × LC)) (jump : Nat) (fl : List Entry) (acc : List (Nat × LC))
      (pre post : List Entry) (log : List Nat),
      OnWay s lvl D root es mov rest.length jump fl acc pre post →
      CSr s lvl 1 (rest.reverse ++ acc) →
      ∃ rest' log' off' fl' pre' post',
        RC.iterLevels LC.ops s.load mov jump rest log = some (rest', true, log') ∧
        rest'.length = rest.length ∧
        OnWay s lvl D root es mov 0 off' fl' (rest'.reverse ++ acc) pre' post' ∧
        CSr s lvl 1 (rest'.reverse ++ acc) := by
  intro rest
  induction rest with
  | nil =>
    intro jump fl acc pre post log h hcs
    exact ⟨[], log, jump, fl, pre, post, RC.iterLevels_nil _ _ _, rfl, h, hcs⟩
  | cons x r ih =>
    obtain ⟨o, c⟩ := x
    intro jump fl acc pre post log h hcs
    simp only [List.length_cons] at h
    have hlv : lvl jump = r.length + 1 := Sub.lvl_eq h.sub
    simp only [List.reverse_cons, List.append_assoc, List.singleton_append] at hcs
    rw [CSr_append] at hcs
    obtain ⟨hcs1, hcs2, hcs3⟩ := hcs
    simp only [List.length_reverse] at hcs2 hcs3
    -- the cursor used at this level, reloaded or reused
    have hre : ∃ c2 log2, s jump = some c2.es ∧
        RC.reload s.load jump (o, c) log = some (jump, c2, log2) := by
      by_cases hj : jump = o
      · subst hj
        exact ⟨c, log, hcs2 (by omega), RC.reload_same _ _ _⟩
      · obtain ⟨blk, hb⟩ := Sub.stored h.sub
        exact ⟨LC.ofList blk, jump :: log, hb, by rw [RC.reload_other hj, load_eq hb]; rfl⟩
    obtain ⟨c2, log2, hc2, hre⟩ := hre
    obtain ⟨c', e, koff, kfl, pre2, post2, ha, hes, hoff, hk⟩ := descend_step cx hm h c2 hc2
    have hcs' : CSr s lvl 1 (r.reverse ++ (jump, c') :: acc) := by
      rw [CSr_append]
      refine ⟨hcs1, ?_, ?_⟩
      · intro _; rw [hes]; exact hc2
      · simpa [Nat.add_comm] using hcs3
    obtain ⟨rest', log', off', fl', pre', post', hit, hlen, hF, hcsF⟩ :=
      ih koff kfl ((jump, c') :: acc) pre2 post2 log2 (hk jump) hcs'
    refine ⟨(jump, c') :: rest', log', off', fl', pre', post', ?_, by simp [hlen], ?_, ?_⟩
    · rw [RC.iterLevels_step hre ha, hoff, hit]; rfl
    · simpa [List.reverse_cons, List.append_assoc] using hF
    · simpa [List.reverse_cons, List.append_assoc] using hcsF

/-- `initialIndex` for an absolute move whose target exists. -/
theorem initialIndex_hit (cx : Ctx s lvl D root es) {mov : Mov} (hm : AbsMov mov) :
    ∀ (d : Nat) (jump : Nat) (fl : List Entry) (acc : List (Nat × LC))
      (pre post : List Entry) (log : List Nat),
      OnWay s lvl D root es mov d jump fl acc pre post → CSr s lvl (d + 1) acc →
      ∃ accF log' off' fl' pre' post',
        RC.initialIndex LC.ops s.load mov d jump acc log = some (some accF.reverse, log') ∧
        accF.length = acc.length + d ∧
        OnWay s lvl D root es mov 0 off' fl' accF pre' post' ∧ CSr s lvl 1 accF := by
  intro d
  induction d with
  | zero =>
    intro jump fl acc pre post log h hcs
    exact ⟨acc, log, jump, fl, pre, post, rfl, rfl, h, hcs⟩
  | succ d ih =>
    intro jump fl acc pre post log h hcs
    obtain ⟨blk, hb⟩ := Sub.stored h.sub
    obtain ⟨c', e, koff, kfl, pre2, post2, ha, hes, hoff, hk⟩ :=
      descend_step cx hm h (LC.ofList blk) hb
    have hcs' : CSr s lvl (d + 1) ((koff, c') :: acc) := by
      refine ⟨?_, hcs⟩
      intro h'; have := Sub.lvl_eq (hk koff).sub; omega
    obtain ⟨accF, log', off', fl', pre', post', hit, hlen, hF, hcsF⟩ :=
      ih koff kfl ((koff, c') :: acc) pre2 post2 (jump :: log) (hk koff) hcs'
    refine ⟨accF, log', off', fl', pre', post', ?_, by simp at hlen; omega, hF, hcsF⟩
    rw [RC.initialIndex_step (load_eq hb) ha, hoff, hit]

end

/-- Cache soundness of a cursor state (holds in every reachable state). -/
structure CScore (s : Store) (lvl : Nat → Nat) (root levels : Nat) (c : RC LC) : Prop where
  hbase : c.base = root
  hlevels : c.levels = levels
  cur_none : c.inner = none → c.cur = none
  inner : ∀ l, c.inner = some l → l.length = levels + 1 ∧ CSr s lvl 1 l.reverse

/-- The cursor is positioned on entry `i`. -/
def PosInv (s : Store) (lvl : Nat → Nat) (root levels : Nat) (es : List Entry) (c : RC LC)
    (i : Nat) : Prop :=
  ∃ l b off fl pre post i0, c.inner = some l ∧ c.cur = some b ∧
    UpPath s lvl (levels + 1) root es 0 off fl l.reverse pre post ∧
    b.es = fl ∧ b.pos = some i0 ∧ i0 < fl.length ∧ i = pre.length + i0

section
variable {s : Store} {lvl : Nat → Nat} {root levels : Nat} {es : List Entry}

/-- The last index level of a path to a data block points at that block. -/
theorem lastCurrent_path {l : List (Nat × LC)} {off : Nat} {fl pre post : List Entry}
    (hup : UpPath s lvl (levels + 1) root es 0 off fl l.reverse pre post) :
    RC.lastCurrent LC.ops l = some (lastKey fl, be64 off) := by
  unfold RC.lastCurrent
  rw [List.getLast?_eq_head?_reverse]
  cases hr : l.reverse with
  | nil => rw [hr] at hup; have := hup.1; omega
  | cons x ps =>
    obtain ⟨o, b⟩ := x
    rw [hr] at hup
    obtain ⟨_, kpre, kpost, _, _, _, _, _, h4, h5, _⟩ := hup
    show LC.current b = _
    unfold LC.current
    rw [h5, h4]
    exact idx_zip_get kpre (off, fl) kpost

/-- `iterIndex` for an absolute move whose target exists. -/
theorem iterIndex_hit (cx : Ctx s lvl (levels + 1) root es) {mov : Mov} (hm : AbsMov mov)
    {c : RC LC} (hc : CScore s lvl root levels c) (ht : target mov es < es.length) :
    ∃ c' e off fl pre post l,
      RC.iterIndex LC.ops s.load mov c = some (c', some e) ∧
      c'.base = c.base ∧ c'.levels = c.levels ∧ c'.inner = some l ∧
      l.length = levels + 1 ∧ CSr s lvl 1 l.reverse ∧
      OnWay s lvl (levels + 1) root es mov 0 off fl l.reverse pre post ∧ offOf e = off := by
  have htop : OnWay s lvl (levels + 1) root es mov (levels + 1) root es [] [] [] :=
    ⟨cx.sub, ⟨rfl, rfl, rfl, rfl, rfl⟩, ht, by simp⟩
  cases hin : c.inner with
  | some inner =>
    obtain ⟨hlen, hcs⟩ := hc.inner inner hin
    obtain ⟨rest', log', off', fl', pre', post', hit, hlen', hF, hcsF⟩ :=
      iterLevels_hit cx hm inner root es [] [] [] c.log (hlen ▸ htop) (by simpa using hcs)
    simp only [List.append_nil] at hF hcsF
    refine ⟨{ c with inner := some rest', log := log' }, (lastKey fl', be64 off'), off', fl', pre',
      post', rest', ?_, rfl, rfl, rfl, by omega, hcsF, hF, offOf_mk _ (cx.off_lt hF.sub)⟩
    rw [RC.iterIndex_some hin, hc.hbase, hit]
    exact congrArg (fun r => some (_, r)) (lastCurrent_path hF.up)
  | none =>
    obtain ⟨accF, log', off', fl', pre', post', hit, hlen', hF, hcsF⟩ :=
      initialIndex_hit cx hm (levels + 1) root es [] [] [] c.log htop trivial
    have hF' : OnWay s lvl (levels + 1) root es mov 0 off' fl' accF.reverse.reverse pre' post' := by
      rw [List.reverse_reverse]; exact hF
    refine ⟨{ c with inner := some accF.reverse, log := log' }, (lastKey fl', be64 off'), off', fl',
      pre', post', accF.reverse, ?_, rfl, rfl, rfl, by simp at hlen'; simp; omega,
      by simpa using hcsF, hF', offOf_mk _ (cx.off_lt hF.sub)⟩
    rw [RC.iterIndex_none hin, hc.hbase, hc.hlevels, hit]
    exact congrArg (fun r => some (_, r)) (lastCurrent_path hF'.up)

/-- An absolute move whose target exists answers the target entry and is positioned on it. -/
theorem abs_finish (cx : Ctx s lvl (levels + 1) root es) {mov : Mov} (hm : AbsMov mov)
    (keepCur : Bool) {c : RC LC} (hc : CScore s lvl root levels c)
    (ht : target mov es < es.length) :
    ∃ c', RC.seek LC.ops s.load mov keepCur c = (c', .ok es[target mov es]?) ∧
      CScore s lvl root levels c' ∧ PosInv s lvl root levels es c' (target mov es) := by
  obtain ⟨c', e, off, fl, pre, post, l, hit, hb, hl, hin, hlen, hcs, hF, hoff⟩ :=
    iterIndex_hit cx hm hc ht
  have hload : s.load (offOf e) = some (LC.ofList fl) := by
    rw [hoff]; exact load_eq (Sub.inv_leaf hF.sub)
  have hres : fl[target mov fl]? = es[target mov es]? := by
    rw [hF.eq, hF.up.split, getElem?_mid pre fl post _ hF.lt]
  rw [RC.seek_some hit, RC.enterWith_ok hload, apply_abs hm (LC.ofList fl) (Sub.flat_ne hF.sub),
    ← hres]
  exact ⟨_, rfl,
    ⟨hb.trans hc.hbase, hl.trans hc.hlevels, (by intro h; rw [RC.withCur, hin] at h; cases h),
      (by intro l' hl'; rw [RC.withCur, hin] at hl'; cases hl'; exact ⟨hlen, hcs⟩)⟩,
    ⟨l, _, off, fl, pre, post, target mov fl, hin, rfl, hF.up, rfl, rfl, hF.lt, hF.eq⟩⟩

end

end Grenad.TCursor
