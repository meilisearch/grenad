/-
  T-cursor, part 2: the abstract block cursor `LC`, targets of absolute moves, index blocks
  (`idx`) over their children's contents (`flat`), cache soundness `CSr`, and the root-to-block
  path predicate `UpPath`.
-/
import Grenad.Proofs.TCursor1
import Grenad.Proofs.Bytes

namespace Grenad.TCursor

open Grenad Spec

/-- The index block over a list of children `(offset, content)`. -/
abbrev idx (kids : List (Nat × List Entry)) : List Entry :=
  kids.map (fun k => (lastKey k.2, be64 k.1))

/-- The concatenated content of a list of children. -/
abbrev flat (kids : List (Nat × List Entry)) : List Entry := kids.flatMap (·.2)

theorem leN_length' (k v : Nat) : (leN k v).length = k := leN_length k v

theorem offOf_mk (k : Bytes) {n : Nat} (h : n < 2 ^ 64) : offOf (k, be64 n) = n := by
  simp [offOf, beVal_be64 h]

def AbsMov : Mov → Prop
  | .first | .last | .ge _ => True
  | _ => False

/-- Where an absolute move lands in a (non-empty) entry list. -/
def target : Mov → List Entry → Nat
  | .first, _ => 0
  | .last, es => es.length - 1
  | .ge q, es => lowerBound es q
  | _, _ => 0

theorem apply_es (mov : Mov) (c : LC) : (LC.ops.apply mov c).1.es = c.es := by
  cases mov <;> simp only [BlockOps.apply, LC.ops]
  · rfl
  · unfold LC.last; split <;> rfl
  · unfold LC.next; split
    · rfl
    · split <;> rfl
  · unfold LC.prev; split
    · unfold LC.last; split <;> rfl
    · split <;> rfl
  · rfl

theorem apply_abs {mov : Mov} (hm : AbsMov mov) (c : LC) (hne : c.es ≠ []) :
    LC.ops.apply mov c = (⟨c.es, some (target mov c.es)⟩, c.es[target mov c.es]?) := by
  cases mov with
  | first => rfl
  | last =>
    have : c.es.isEmpty = false := by simpa using hne
    simp [BlockOps.apply, LC.ops, LC.last, this, target, LC.current]
  | ge q => rfl
  | next => cases hm
  | prev => cases hm

theorem load_eq {s : Store} {off : Nat} {blk : List Entry} (h : s off = some blk) :
    s.load off = some (LC.ofList blk) := by
  simp [Store.load, h]

theorem load_some {s : Store} {off : Nat} {c : LC} (h : s.load off = some c) :
    s off = some c.es := by
  unfold Store.load at h
  cases hs : s off with
  | none => simp [hs] at h
  | some blk => simp [hs] at h; subst h; rfl

theorem getElem?_mid (pre fl post : List Entry) (j : Nat) (hj : j < fl.length) :
    (pre ++ fl ++ post)[pre.length + j]? = fl[j]? := by
  rw [List.append_assoc, List.getElem?_append_right (by omega)]
  simp only [Nat.add_sub_cancel_left]
  rw [List.getElem?_append_left hj]

theorem flat_cons (k : Nat × List Entry) (ks : List (Nat × List Entry)) :
    flat (k :: ks) = k.2 ++ flat ks := by
  simp [flat]

theorem flat_zip (a : List (Nat × List Entry)) (k : Nat × List Entry) (b : List (Nat × List Entry)) :
    flat (a ++ k :: b) = flat a ++ k.2 ++ flat b := by
  simp [flat]

theorem idx_zip_get (a : List (Nat × List Entry)) (k : Nat × List Entry) (b : List (Nat × List Entry)) :
    (idx (a ++ k :: b))[a.length]? = some (lastKey k.2, be64 k.1) := by
  simp [idx]

theorem flat_eq_nil {kids : List (Nat × List Entry)} (hne : ∀ k ∈ kids, k.2 ≠ [])
    (h : flat kids = []) : kids = [] := by
  cases kids with
  | nil => rfl
  | cons k ks =>
    rw [flat_cons] at h
    exact absurd (List.append_eq_nil_iff.1 h).1 (hne k (by simp))

theorem lowerBound_idx_cons (k : Nat × List Entry) (ks : List (Nat × List Entry)) (q : Bytes) :
    lowerBound (idx (k :: ks)) q = if lastKey k.2 < q then lowerBound (idx ks) q + 1 else 0 := by
  simp only [idx, List.map_cons, lowerBound_cons]

/-- How the lower bound of an index block relates to the lower bound of the content. -/
theorem lowerBound_node {kids : List (Nat × List Entry)} (hne : ∀ k ∈ kids, k.2 ≠ [])
    (hasc : StrictAsc (flat kids)) (q : Bytes) :
    (∃ kpre kid kpost, kids = kpre ++ kid :: kpost ∧ lowerBound (idx kids) q = kpre.length ∧
        lowerBound (flat kids) q = (flat kpre).length + lowerBound kid.2 q ∧
        lowerBound kid.2 q < kid.2.length)
    ∨ (lowerBound (idx kids) q = kids.length ∧ lowerBound (flat kids) q = (flat kids).length) := by
  induction kids with
  | nil => right; exact ⟨rfl, rfl⟩
  | cons k ks ih =>
    rw [flat_cons] at hasc
    by_cases hk : lastKey k.2 < q
    · have hall : ∀ e ∈ k.2, e.1 < q := fun e he =>
        blt_of_le_of_lt (StrictAsc.le_lastKey (StrictAsc.left hasc) he) hk
      have hlb := lowerBound_append_of_all_lt (flat ks) hall
      rcases ih (fun x hx => hne x (by simp [hx])) (StrictAsc.right hasc) with
        ⟨kpre, kid, kpost, h1, h2, h3, h4⟩ | ⟨h1, h2⟩
      · left
        refine ⟨k :: kpre, kid, kpost, by simp [h1], ?_, ?_, h4⟩
        · rw [lowerBound_idx_cons, if_pos hk, h2]; simp
        · rw [flat_cons k ks, hlb, h3, flat_cons, List.length_append]; omega
      · right
        refine ⟨?_, ?_⟩
        · rw [lowerBound_idx_cons, if_pos hk, h1]; simp
        · rw [flat_cons k ks, hlb, h2, List.length_append]
    · left
      obtain ⟨e, he, hek⟩ := lastKey_mem (hne k (by simp))
      have hex : ∃ e ∈ k.2, q ≤ e.1 := ⟨e, he, hek ▸ bnot_lt.1 hk⟩
      have := lowerBound_append_of_exists_ge (flat ks) hex
      refine ⟨[], k, ks, rfl, ?_, ?_, this.2⟩
      · rw [lowerBound_idx_cons, if_neg hk]; rfl
      · rw [flat_cons k ks, this.1]; simp [flat]

/-- An absolute move on an index block picks the child containing the target of the content. -/
theorem target_node {mov : Mov} (hm : AbsMov mov) {kids : List (Nat × List Entry)}
    (hne : ∀ k ∈ kids, k.2 ≠ []) (hasc : StrictAsc (flat kids))
    (ht : target mov (flat kids) < (flat kids).length) :
    ∃ kpre kid kpost, kids = kpre ++ kid :: kpost ∧ target mov (idx kids) = kpre.length ∧
      target mov (flat kids) = (flat kpre).length + target mov kid.2 ∧
      target mov kid.2 < kid.2.length := by
  have hkne : kids ≠ [] := by
    rintro rfl; simp at ht
  cases mov with
  | first =>
    cases kids with
    | nil => exact absurd rfl hkne
    | cons k ks =>
      refine ⟨[], k, ks, rfl, rfl, by simp [target, flat], ?_⟩
      have := hne k (by simp)
      simp only [target]; exact List.length_pos_iff.2 this
  | last =>
    obtain ⟨a, k, rfl⟩ := exists_snoc hkne
    have hk : 0 < k.2.length := List.length_pos_iff.2 (hne k (by simp))
    refine ⟨a, k, [], rfl, by simp [target], ?_, by simp only [target]; omega⟩
    simp only [target, flat_zip, List.length_append]
    simp [flat]; omega
  | ge q =>
    rcases lowerBound_node hne hasc q with h | ⟨_, h2⟩
    · exact h
    · simp only [target] at ht; omega
  | next => cases hm
  | prev => cases hm

/-- A `ge` that overshoots the content overshoots the index block. -/
theorem target_node_miss {kids : List (Nat × List Entry)} (hne : ∀ k ∈ kids, k.2 ≠ [])
    (hasc : StrictAsc (flat kids)) (q : Bytes)
    (ht : lowerBound (flat kids) q = (flat kids).length) :
    lowerBound (idx kids) q = (idx kids).length := by
  rcases lowerBound_node hne hasc q with ⟨kpre, kid, kpost, h1, _, h3, h4⟩ | ⟨h1, _⟩
  · subst h1
    rw [flat_zip] at ht h3
    simp only [List.length_append] at ht h3
    omega
  · rw [List.length_map]; exact h1

section
variable {s : Store} {lvl : Nat → Nat}

theorem Sub.flat_ne {d off : Nat} {fl : List Entry} (h : Sub s lvl d off fl) : fl ≠ [] := by
  induction h with
  | leaf off es _ hne _ => exact hne
  | node d off kids hk _ _ _ ih =>
    cases kids with
    | nil => exact absurd rfl hk
    | cons k ks =>
      intro h
      rw [show (k :: ks).flatMap (·.2) = k.2 ++ ks.flatMap (·.2) by simp] at h
      exact ih k (by simp) (List.append_eq_nil_iff.1 h).1

theorem Sub.lvl_eq {d off : Nat} {fl : List Entry} (h : Sub s lvl d off fl) : lvl off = d := by
  cases h <;> assumption

theorem Sub.inv_leaf {off : Nat} {fl : List Entry} (h : Sub s lvl 0 off fl) : s off = some fl := by
  cases h; assumption

theorem Sub.inv_node {d off : Nat} {fl : List Entry} (h : Sub s lvl (d + 1) off fl) :
    ∃ kids, kids ≠ [] ∧ s off = some (idx kids) ∧ (∀ k ∈ kids, Sub s lvl d k.1 k.2) ∧
      fl = flat kids := by
  cases h with
  | node _ _ kids h1 h2 h3 h4 => exact ⟨kids, h1, h2, h4, rfl⟩

theorem Sub.stored {d off : Nat} {fl : List Entry} (h : Sub s lvl d off fl) :
    ∃ blk, s off = some blk := by
  cases h with
  | leaf _ _ h1 => exact ⟨_, h1⟩
  | node _ _ _ _ h2 => exact ⟨_, h2⟩

/-! ### Cache soundness (bottom-first list; `k` = depth of the head) -/

/-- A recorded offset that is labelled with the block's own depth is the offset the held block
    was loaded from. -/
def CSr (s : Store) (lvl : Nat → Nat) : Nat → List (Nat × LC) → Prop
  | _, [] => True
  | k, (o, c) :: ps => (lvl o = k → s o = some c.es) ∧ CSr s lvl (k + 1) ps

theorem CSr_append {k : Nat} {a b : List (Nat × LC)} :
    CSr s lvl k (a ++ b) ↔ CSr s lvl k a ∧ CSr s lvl (k + a.length) b := by
  induction a generalizing k with
  | nil => simp [CSr]
  | cons x a ih =>
    obtain ⟨o, c⟩ := x
    simp only [List.cons_append, CSr, ih, List.length_cons, and_assoc]
    rw [show k + 1 + a.length = k + (a.length + 1) by omega]

/-! ### Paths (bottom-first list of index-level cursors above a block) -/

/-- `UpPath … k off fl parents pre post`: the subtree `(k, off, fl)` sits in the tree
    `(D, root, es)` with `es = pre ++ fl ++ post`, and `parents` (its ancestors' cursors, nearest
    first) hold the ancestors' blocks, each positioned on the child leading to it. -/
def UpPath (s : Store) (lvl : Nat → Nat) (D root : Nat) (es : List Entry) :
    Nat → Nat → List Entry → List (Nat × LC) → List Entry → List Entry → Prop
  | k, off, fl, [], pre, post => k = D ∧ off = root ∧ fl = es ∧ pre = [] ∧ post = []
  | k, off, fl, (_, c) :: parents, pre, post =>
    ∃ poff kpre kpost pre' post',
      pre = pre' ++ flat kpre ∧ post = flat kpost ++ post' ∧
      (∀ kk ∈ kpre ++ (off, fl) :: kpost, Sub s lvl k kk.1 kk.2) ∧
      c.es = idx (kpre ++ (off, fl) :: kpost) ∧ c.pos = some kpre.length ∧
      UpPath s lvl D root es (k + 1) poff (flat (kpre ++ (off, fl) :: kpost)) parents pre' post'

variable {D root : Nat} {es : List Entry}

theorem UpPath.split {k off : Nat} {fl : List Entry} {parents : List (Nat × LC)}
    {pre post : List Entry} (h : UpPath s lvl D root es k off fl parents pre post) :
    es = pre ++ fl ++ post := by
  induction parents generalizing k off fl pre post with
  | nil =>
    obtain ⟨_, _, h3, h4, h5⟩ := h
    simp [h3, h4, h5]
  | cons x ps ih =>
    obtain ⟨o, c⟩ := x
    obtain ⟨poff, kpre, kpost, pre', post', h1, h2, _, _, _, h6⟩ := h
    rw [ih h6, h1, h2, flat_zip]
    simp [List.append_assoc]

theorem UpPath.depth {k off : Nat} {fl : List Entry} {parents : List (Nat × LC)}
    {pre post : List Entry} (h : UpPath s lvl D root es k off fl parents pre post) :
    k + parents.length = D := by
  induction parents generalizing k off fl pre post with
  | nil => exact h.1
  | cons x ps ih =>
    obtain ⟨o, c⟩ := x
    obtain ⟨poff, kpre, kpost, pre', post', _, _, _, _, _, h6⟩ := h
    have := ih h6
    simp only [List.length_cons]; omega

end

end Grenad.TCursor
