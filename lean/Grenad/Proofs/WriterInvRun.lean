/-
  The invariant `W.Inv` of the file writer between two `insert`s, through `W.insert` and the insert
  loop `W.run.go`; a trap of either means the pending keys followed by the new ones do not ascend.
-/
import Grenad.Proofs.WriterInvCut

namespace Grenad

open BW

namespace W

/-- Invariant of the writer between two `insert`s. -/
structure Inv (w : W) : Prop where
  len  : w.idx.length = w.cfg.levels + 1
  bwR  : Reach w.cfg.interval w.bw
  bwP  : Pend w.cfg.clamped w.bw
  idxR : ∀ b ∈ w.idx, Reach w.cfg.interval b
  idxP : ∀ j b, w.idx[j]? = some b → 2 ≤ j → Pend w.cfg.clamped b
  /-- every block emitted so far was cut for its size -/
  logok : ∀ e ∈ w.log,
    EmOK w.cfg.interval w.cfg.clamped (w.cfg.levels + 1) e ∧ w.cfg.clamped ≤ e.raw.length

/-- All keys held by pending writers: index writers root first, then the data block. -/
def keys (w : W) : List Bytes := allKeys w.idx ++ bwKeys w.bw

theorem Inv.lv {w : W} (h : Inv w) :
    LvInv w.cfg.interval w.cfg.clamped (w.cfg.levels + 1) 0 w.idx :=
  ⟨h.len, h.idxR, fun j b hj h2 _ => h.idxP j b hj h2, fun _ _ h2 => absurd h2 (by omega)⟩

theorem inv_new (cfg : WCfg) : Inv (W.new cfg) where
  len := by simp [W.new]
  bwR := Reach.new
  bwP := .inl rfl
  idxR := by
    intro b hb
    simp only [W.new] at hb
    rw [List.eq_of_mem_replicate hb]
    exact Reach.new
  idxP := by
    intro j b hb _
    simp only [W.new] at hb
    rw [List.eq_of_mem_replicate (List.mem_of_getElem? hb)]
    exact .inl rfl
  logok := fun e he => by cases he

theorem keys_new (cfg : WCfg) : keys (W.new cfg) = [] := by
  have : ∀ n, allKeys (List.replicate n (BW.new cfg.interval)) = [] := by
    intro n
    induction n with
    | zero => rfl
    | succ n ih => simp [List.replicate_succ, ih, bwKeys_new]
  simp [keys, W.new, this, bwKeys_new]

/-- The trap point of a data insert: the key is not above the pending data block's last key. -/
theorem insert_keyOrder (cd : Codec) (w : W) {k v lk : Bytes}
    (hk : k.length ≤ u32Max) (hv : v.length ≤ u32Max)
    (hl : w.bw.lastKey = some lk) (hn : ¬ lk < k) : W.insert cd w k v = .error .keyOrder := by
  unfold W.insert
  rw [BW.insert_keyOrder w.bw hk hv hl hn]

theorem insert_spec (cd : Codec) (w : W) (k v : Bytes) (hI : Inv w) :
    match W.insert cd w k v with
    | .ok w' =>
      w'.cfg = w.cfg ∧ Inv w' ∧ w'.count = w.count + 1 ∧ (keys w').Sublist (keys w ++ [k]) ∧
        k.length ≤ u32Max ∧ v.length ≤ u32Max
    | .error t =>
      (t = .keyTooLong ∧ u32Max < k.length) ∨ (t = .valTooLong ∧ u32Max < v.length) ∨
        (t = .keyOrder ∧ k.length ≤ u32Max ∧ v.length ≤ u32Max ∧ ¬ Asc (keys w ++ [k])) := by
  have hc := insert_cases cd w k v (by have := hI.len; omega)
  cases hbi : w.bw.insert k v with
  | error t =>
    rw [hbi] at hc
    rw [hc]
    rcases insert_error hbi with h | h | ⟨ht, hk, hv, lk, hlk, hnlt⟩
    · exact .inl h
    · exact .inr (.inl h)
    · refine .inr (.inr ⟨ht, hk, hv, fun hasc => hnlt ?_⟩)
      have hmem : lk ∈ keys w := List.mem_append_right _ (hI.bwR.lastKey_mem_bwKeys hlk)
      exact (List.pairwise_append.mp hasc).2.2 lk hmem k (by simp)
  | ok bw =>
    rw [hbi] at hc
    dsimp only at hc
    obtain ⟨hk, hv, _, _, hbwl, _, _, _⟩ := insert_ok hbi
    have hbwR : Reach w.cfg.interval bw := Reach.step hI.bwR hbi
    have hbwkeys : bwKeys bw = bwKeys w.bw ++ [k] := bwKeys_insert hbi
    by_cases hlt : bw.sizeEstimate < w.cfg.clamped
    · -- the data block stays pending
      rw [if_pos hlt] at hc
      rw [hc]
      refine ⟨rfl, ⟨hI.len, hbwR, .inr hlt, hI.idxR, hI.idxP, hI.logok⟩, rfl, ?_, hk, hv⟩
      show (allKeys w.idx ++ bwKeys bw).Sublist (keys w ++ [k])
      rw [hbwkeys, keys, List.append_assoc]
      exact List.Sublist.refl _
    · -- the data block is emitted, then the level loop runs from the last index writer
      rw [if_neg hlt] at hc
      obtain ⟨last, el, hc⟩ := hc
      have hL : LInv w.cfg.interval w.cfg.clamped (w.cfg.levels + 1) (keys w ++ [k]) [] True 0
          (w.idx, w.out, w.log) :=
        ⟨hI.lv, (List.sublist_append_left _ _).trans (List.sublist_append_left _ _),
          List.nil_prefix, fun e he => ⟨(hI.logok e he).1, fun _ => (hI.logok e he).2⟩⟩
      have hsub0 : (allKeys w.idx ++ [k]).Sublist (keys w ++ [k]) := by
        simp only [keys, List.append_assoc]
        exact List.Sublist.append_left (List.sublist_append_right _ _) _
      have hd := hL.data cd (by omega) hbwR ⟨w.bw, k, v, hI.bwR, hbi, hI.bwP⟩ hbwl el hsub0
        (fun _ => by omega)
      cases hins : last.insert k (be64 w.out.length) with
      | error t =>
        rw [hins] at hc hd
        rw [hc]
        exact .inr (.inr ⟨hd.1, hk, hv, hd.2⟩)
      | ok p' =>
        rw [hins] at hc hd
        rw [hc]
        have hcut := cutLevels_spec cd hd (by have := hI.len; show w.idx.length - 1 < _; omega)
        cases hcl : cutLevels cd w.cfg.clamped (w.idx.length - 1)
            (dataAt cd (w.idx.length - 1) bw p' (w.idx, w.out, w.log)).1
            (dataAt cd (w.idx.length - 1) bw p' (w.idx, w.out, w.log)).2.1
            (dataAt cd (w.idx.length - 1) bw p' (w.idx, w.out, w.log)).2.2 with
        | error t =>
          rw [hcl] at hcut
          exact .inr (.inr ⟨hcut.1, hk, hv, hcut.2⟩)
        | ok r =>
          obtain ⟨idx2, out2, log2⟩ := r
          rw [hcl] at hcut
          have hnew : bw.reset = BW.new w.cfg.interval := hbwR.reset_eq
          refine ⟨rfl, ⟨hcut.lv.len, ?_, ?_, hcut.lv.reach,
            fun j b hj h2 => hcut.lv.pend j b hj h2 (by omega),
            fun e he => ⟨(hcut.logok e he).1, (hcut.logok e he).2 trivial⟩⟩, rfl, ?_, hk, hv⟩
          · show Reach w.cfg.interval bw.reset
            rw [hnew]; exact Reach.new
          · show Pend w.cfg.clamped bw.reset
            rw [hnew]; exact .inl rfl
          · show (allKeys idx2 ++ bwKeys bw.reset).Sublist (keys w ++ [k])
            rw [hnew, bwKeys_new, List.append_nil]
            exact hcut.keys

theorem go_spec (cd : Codec) : ∀ (kvs : List Entry) (w : W), Inv w →
    match W.run.go cd w kvs with
    | .ok w' =>
      w'.cfg = w.cfg ∧ Inv w' ∧ w'.count = w.count + kvs.length ∧
        (keys w').Sublist (keys w ++ kvs.map Prod.fst) ∧
        (∀ e ∈ kvs, e.1.length ≤ u32Max ∧ e.2.length ≤ u32Max)
    | .error t =>
      (t = .keyTooLong ∧ ∃ e ∈ kvs, u32Max < e.1.length) ∨
        (t = .valTooLong ∧ ∃ e ∈ kvs, u32Max < e.2.length) ∨
        (t = .keyOrder ∧ ¬ Asc (keys w ++ kvs.map Prod.fst)) := by
  intro kvs
  induction kvs with
  | nil =>
    intro w hI
    exact ⟨rfl, hI, rfl, by simp, by simp⟩
  | cons kv rest ih =>
    intro w hI
    obtain ⟨k, v⟩ := kv
    simp only [W.run.go]
    have hspec := insert_spec cd w k v hI
    cases hin : W.insert cd w k v with
    | error t =>
      rw [hin] at hspec
      rcases hspec with ⟨ht, hl⟩ | ⟨ht, hl⟩ | ⟨ht, _, _, hna⟩
      · exact .inl ⟨ht, (k, v), by simp, hl⟩
      · exact .inr (.inl ⟨ht, (k, v), by simp, hl⟩)
      · refine .inr (.inr ⟨ht, fun hasc => hna (hasc.sublist ?_)⟩)
        simp only [List.map_cons]
        exact List.Sublist.append_left (List.Sublist.cons_cons _ (List.nil_sublist _)) _
    | ok w1 =>
      rw [hin] at hspec
      obtain ⟨hcfg, hI1, hcnt, hsub1, hk, hv⟩ := hspec
      have hrec := ih w1 hI1
      have hsubrest : (keys w1 ++ rest.map Prod.fst).Sublist
          (keys w ++ ((k, v) :: rest).map Prod.fst) := by
        simp only [List.map_cons]
        have := List.Sublist.append_right hsub1 (rest.map Prod.fst)
        simpa [List.append_assoc] using this
      show match W.run.go cd w1 rest with
        | .ok w' => _
        | .error t => _
      cases hgo : W.run.go cd w1 rest with
      | error t =>
        rw [hgo] at hrec
        rcases hrec with ⟨ht, e, he, hl⟩ | ⟨ht, e, he, hl⟩ | ⟨ht, hna⟩
        · exact .inl ⟨ht, e, List.mem_cons_of_mem _ he, hl⟩
        · exact .inr (.inl ⟨ht, e, List.mem_cons_of_mem _ he, hl⟩)
        · exact .inr (.inr ⟨ht, fun hasc => hna (hasc.sublist hsubrest)⟩)
      | ok w' =>
        rw [hgo] at hrec
        obtain ⟨hcfg2, hI2, hcnt2, hsub2, hlen2⟩ := hrec
        refine ⟨hcfg2.trans hcfg, hI2, by rw [hcnt2, hcnt]; simp; omega, hsub2.trans hsubrest, ?_⟩
        intro e he
        rcases List.mem_cons.mp he with he | he
        · subst he; exact ⟨hk, hv⟩
        · exact hlen2 e he

end W
end Grenad
