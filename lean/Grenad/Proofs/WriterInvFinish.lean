/-
  `W.Inv` through `W.flushLevels` and `W.finish`; what a whole `W.run` returns or why it traps.
-/
import Grenad.Proofs.WriterInvRun

namespace Grenad

open BW

namespace W

/-- The level loop of `Writer::into_inner` over all `m + 1` index writers, the last of which may
    just have received its final entry: the log is extended by blocks satisfying `EmOK`. -/
theorem flushLevels_spec (cd : Codec) {iv B m : Nat} {K : List Bytes} {log0 : List Emitted}
    {s : WSt} (r0 : Nat) (h : LInv iv B (m + 1) K log0 False m s) :
    match flushLevels cd (m + 1) s.1 s.2.1 s.2.2 r0 with
    | .ok r => log0 <+: r.2.2.1 ∧ ∀ e ∈ r.2.2.1, EmOK iv B (m + 1) e
    | .error t => t = .keyOrder ∧ ¬ Asc K := by
  refine flushLevels_rule cd (fun j s => LInv iv B (m + 1) K log0 False (j - 1) s ∧ j ≤ m + 1)
    (fun s _ => log0 <+: s.2.2 ∧ ∀ e ∈ s.2.2, EmOK iv B (m + 1) e)
    (fun t => t = .keyOrder ∧ ¬ Asc K) ?_ ?_ ?_ ?_ m s r0 ⟨h, Nat.le_refl _⟩
  · intro i s h
    have := h.1.lv.len
    omega
  · intro i s cur parent lk h hc hp hlk
    have := h.1.cut cd hc hp hlk (fun hf => hf.elim)
    cases hins : parent.insert lk (be64 s.2.1.length) with
    | error t => rw [hins] at this; exact this
    | ok p' => rw [hins] at this; exact ⟨this, by omega⟩
  · intro i s cur h hc hlk
    exact ⟨h.1.skip hc (.inl ((h.1.lv.reach cur (List.mem_of_getElem? hc)).items_nil_of_lastKey_none hlk)),
      by omega⟩
  · -- the root block is on no level subject to cutting
    intro s cur h hc
    refine ⟨h.1.ext.trans (List.prefix_append _ _), fun e he => ?_⟩
    rcases List.mem_append.mp he with he | he
    · exact (h.1.logok e he).1
    · simp only [List.mem_singleton] at he
      subst he
      refine ⟨cur, h.1.lv.reach cur (List.mem_of_getElem? hc), rfl, rfl, fun hlv => ?_⟩
      have hlv' : s.1.length = 0 ∨ s.1.length + 2 ≤ m + 1 := hlv
      have := h.1.lv.len
      omega

theorem finish_spec (cd : Codec) (w : W) (hI : Inv w) :
    match W.finish cd w with
    | .ok (_, log) =>
      w.log <+: log ∧ ∀ e ∈ log, EmOK w.cfg.interval w.cfg.clamped (w.cfg.levels + 1) e
    | .error t => t = .keyOrder ∧ ¬ Asc (keys w) := by
  rw [finish_eq]
  -- the flush of the index levels, from the state the data block leaves behind
  have hlast : w.idx.length - 1 = w.cfg.levels := by have := hI.len; omega
  have flush : ∀ s : WSt,
      LInv w.cfg.interval w.cfg.clamped (w.cfg.levels + 1) (keys w) w.log False (w.idx.length - 1) s →
      match finishWrap cd w.count (flushLevels cd s.1.length s.1 s.2.1 s.2.2 s.2.1.length) with
      | .ok (_, log) =>
        w.log <+: log ∧ ∀ e ∈ log, EmOK w.cfg.interval w.cfg.clamped (w.cfg.levels + 1) e
      | .error t => t = .keyOrder ∧ ¬ Asc (keys w) := by
    intro s hs
    rw [hlast] at hs
    have hfl := flushLevels_spec cd s.2.1.length hs
    rw [hs.lv.len]
    cases hf : flushLevels cd (w.cfg.levels + 1) s.1 s.2.1 s.2.2 s.2.1.length with
    | error t => rw [hf] at hfl; exact hfl
    | ok r => rw [hf] at hfl; exact hfl
  have hL : LInv w.cfg.interval w.cfg.clamped (w.cfg.levels + 1) (keys w) w.log False 0
      (w.idx, w.out, w.log) :=
    ⟨hI.lv, List.sublist_append_left _ _, List.prefix_refl _,
      fun e he => ⟨(hI.logok e he).1, fun hf => hf.elim⟩⟩
  have hlt : w.idx.length - 1 < w.idx.length := by have := hI.len; omega
  unfold finishData
  cases hlk : w.bw.lastKey with
  | none => exact flush _ ⟨hL.lv.of_lt_two (by omega), hL.keys, hL.ext, hL.logok⟩
  | some lk =>
    have el : w.idx[w.idx.length - 1]? = some w.idx[w.idx.length - 1] :=
      List.getElem?_eq_getElem hlt
    have hd := hL.data cd (by omega) hI.bwR
      ((Pend.toPendG hI.bwR hI.bwP).resolve_left (hI.bwR.items_ne_nil_of_lastKey hlk)) hlk el
      (K' := keys w)
      (List.Sublist.append_left (List.singleton_sublist.mpr (hI.bwR.lastKey_mem_bwKeys hlk)) _)
      (fun hf => hf.elim)
    simp only [el]
    cases hins : w.idx[w.idx.length - 1].insert lk (be64 w.out.length) with
    | error t => rw [hins] at hd; exact hd
    | ok p' =>
      rw [hins] at hd
      exact flush _ hd

theorem run_spec (cd : Codec) (cfg : WCfg) (kvs : List Entry) :
    match W.run cd cfg kvs with
    | .ok (file, log) =>
      ∃ w tl, W.run.go cd (W.new cfg) kvs = .ok w ∧ W.finish cd w = .ok (file, log) ∧
        w.cfg = cfg ∧ Inv w ∧ log = w.log ++ tl ∧
        (∀ e ∈ log, EmOK cfg.interval cfg.clamped (cfg.levels + 1) e) ∧
        (∀ e ∈ kvs, e.1.length ≤ u32Max ∧ e.2.length ≤ u32Max)
    | .error t =>
      (t = .keyTooLong ∧ ∃ e ∈ kvs, u32Max < e.1.length) ∨
      (t = .valTooLong ∧ ∃ e ∈ kvs, u32Max < e.2.length) ∨
      (t = .keyOrder ∧ ¬ Asc (kvs.map Prod.fst)) := by
  unfold W.run
  have hgo := go_spec cd kvs (W.new cfg) (inv_new cfg)
  rw [keys_new, List.nil_append] at hgo
  cases hg : W.run.go cd (W.new cfg) kvs with
  | error t => rw [hg] at hgo; exact hgo
  | ok w =>
    rw [hg] at hgo
    obtain ⟨hcfg, hI, _, hsub, hlens⟩ := hgo
    have hcfg' : w.cfg = cfg := hcfg
    have hfin := finish_spec cd w hI
    dsimp only
    cases hf : W.finish cd w with
    | error t =>
      rw [hf] at hfin
      exact .inr (.inr ⟨hfin.1, fun hasc => hfin.2 (hasc.sublist hsub)⟩)
    | ok r =>
      obtain ⟨file, log⟩ := r
      rw [hf] at hfin
      obtain ⟨⟨tl, htl⟩, hok⟩ := hfin
      rw [hcfg'] at hok
      exact ⟨w, tl, rfl, hf, hcfg', hI, htl.symm, hok, hlens⟩

end W
end Grenad
