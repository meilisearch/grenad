/-
  T-cursor, part 7: the invariant `Inv`, one step of the cursor against one step of the
  specification cursor, and histories.
-/
import Grenad.Proofs.TCursor6

namespace Grenad.TCursor

open Grenad Spec

/-- The invariant over a non-empty file whose blocks are labelled by `lvl`. -/
def InvL (s : Store) (lvl : Nat → Nat) (root levels : Nat) (es : List Entry) (c : RC LC) :
    Pos → Prop
  | .fresh => CScore s lvl root levels c ∧ c.inner = none ∧ c.cur = none
  | .at i => CScore s lvl root levels c ∧ PosInv s lvl root levels es c i
  | .lost => CScore s lvl root levels c

section
variable {s : Store} {lvl : Nat → Nat} {root levels : Nat} {es : List Entry}

/-- Landing: an operation that answers `es[n]?` and is positioned on `n` when `n` is in range
    does what `Spec.land` asks for. -/
theorem land_ok {x : RC LC × Res} {c' : RC LC} {n : Nat} (hx : x = (c', .ok es[n]?))
    (hc : CScore s lvl root levels c') (hp : n < es.length → PosInv s lvl root levels es c' n) :
    Agree x.2 (land es n).2 ∧ InvL s lvl root levels es x.1 (land es n).1 := by
  subst hx
  by_cases h : n < es.length
  · rw [land_of_lt h]
    exact ⟨congrArg Res.ok (List.getElem?_eq_getElem h), hc, hp h⟩
  · rw [land_of_length_le (Nat.le_of_not_lt h)]
    exact ⟨congrArg Res.ok (List.getElem?_eq_none (Nat.le_of_not_lt h)), hc⟩

/-- `le q` answers the entry before the upper bound of `q` and is positioned on it. -/
theorem le_spec (cx : Ctx s lvl (levels + 1) root es) {c : RC LC}
    (hc : CScore s lvl root levels c) (q : Bytes) :
    ∃ c', RC.le LC.ops s.load true q c =
        (c', .ok (if upperBound es q = 0 then none else es[upperBound es q - 1]?)) ∧
      CScore s lvl root levels c' ∧
      (0 < upperBound es q → PosInv s lvl root levels es c' (upperBound es q - 1)) := by
  obtain ⟨c1, h1, h2, h3⟩ := ge_spec cx hc q
  have hpos := cx.es_pos
  unfold RC.le
  rw [h1, upperBound_eq cx.asc]
  cases h : es[lowerBound es q]? with
  | none =>
    -- every key is smaller: `last`, which passes the filter
    have hlb : lowerBound es q = es.length :=
      Nat.le_antisymm (lowerBound_le es q) (List.getElem?_eq_none_iff.1 h)
    obtain ⟨c2, g1, g2, g3⟩ :=
      abs_finish cx (mov := .last) trivial false h2 (Nat.sub_lt hpos Nat.one_pos)
    rw [← RC.last_eq] at g1; simp only [target] at g1 g3
    have hlast : es[es.length - 1]? = some es[es.length - 1] := List.getElem?_eq_getElem (by omega)
    have hle : es[es.length - 1].1 ≤ q :=
      ble_of_lt (lowerBound_eq_length_iff.1 hlb _ (List.getElem_mem _))
    have hn : ¬ es.length = 0 := by omega
    simp only [g1, hlb, hn, if_false, hlast, Option.filter, hle, decide_true, if_true]
    exact ⟨c2, rfl, g2, fun _ => g3⟩
  | some e =>
    obtain ⟨hlt, -⟩ := List.getElem?_eq_some_iff.1 h
    obtain ⟨k, v⟩ := e
    dsimp only
    by_cases he : k = q
    · have hn : ¬ lowerBound es q + 1 = 0 := by omega
      simp only [he, if_true, hn, if_false, Nat.add_sub_cancel]
      exact ⟨c1, by rw [h, he], h2, fun _ => h3 hlt⟩
    · simp only [he, if_false]
      exact prev_at cx h2 (h3 hlt)

theorem stepL (cx : Ctx s lvl (levels + 1) root es) {c : RC LC} {p : Pos}
    (hinv : InvL s lvl root levels es c p) (op : Op) :
    Agree (RC.stepA s true c op).2 (Spec.step es p op).2 ∧
      InvL s lvl root levels es (RC.stepA s true c op).1 (Spec.step es p op).1 := by
  have hc : CScore s lvl root levels c := by
    cases p with
    | lost => exact hinv
    | _ => exact hinv.1
  have hne : ¬ es.isEmpty = true := by simpa using Sub.flat_ne cx.sub
  obtain ⟨cf, f1, f2, f3⟩ := abs_finish cx (mov := .first) trivial false hc cx.es_pos
  obtain ⟨cl, l1, l2, l3⟩ :=
    abs_finish cx (mov := .last) trivial false hc (Nat.sub_lt cx.es_pos Nat.one_pos)
  cases op with
  | first => rw [step_first]; exact land_ok f1 f2 (fun _ => f3)
  | last => rw [step_last, if_neg hne]; exact land_ok l1 l2 (fun _ => l3)
  | ge q =>
    obtain ⟨c', h1, h2, h3⟩ := ge_spec cx hc q
    rw [step_ge]; exact land_ok h1 h2 h3
  | reset =>
    rw [Spec.step]
    exact ⟨rfl, ⟨hc.hbase, hc.hlevels, fun _ => rfl, (by intro l hl; cases hl)⟩, rfl, rfl⟩
  | next =>
    cases p with
    | fresh =>
      show Agree (RC.next LC.ops s.load true c).2 _ ∧ InvL _ _ _ _ _ (RC.next LC.ops s.load true c).1 _
      rw [RC.next_none hinv.2.2]; exact land_ok f1 f2 (fun _ => f3)
    | «at» i =>
      obtain ⟨c', h1, h2, h3⟩ := next_at cx hc hinv.2
      exact land_ok h1 h2 h3
    | lost =>
      refine ⟨trivial, show CScore _ _ _ _ (RC.next LC.ops s.load true c).1 from ?_⟩
      rw [RC.next_eq]; exact rel_pres cx hc (mov := .next) trivial cx.es_pos
  | prev =>
    cases p with
    | fresh =>
      rw [step_prev_fresh, if_neg hne]
      show Agree (RC.prev LC.ops s.load true c).2 _ ∧ InvL _ _ _ _ _ (RC.prev LC.ops s.load true c).1 _
      rw [RC.prev_none hinv.2.2]; exact land_ok l1 l2 (fun _ => l3)
    | «at» i =>
      obtain ⟨c', h1, h2, h3⟩ := prev_at cx hc hinv.2
      rw [step_prev_at]
      show Agree (RC.prev LC.ops s.load true c).2 _ ∧ InvL _ _ _ _ _ (RC.prev LC.ops s.load true c).1 _
      rw [h1]
      by_cases hi : i = 0
      · rw [if_pos hi, if_pos hi]; exact ⟨rfl, h2⟩
      · rw [if_neg hi, if_neg hi]; exact land_ok rfl h2 (fun _ => h3 (by omega))
    | lost =>
      refine ⟨trivial, show CScore _ _ _ _ (RC.prev LC.ops s.load true c).1 from ?_⟩
      rw [RC.prev_eq]; exact rel_pres cx hc (mov := .prev) trivial (Nat.sub_lt cx.es_pos Nat.one_pos)
  | current =>
    cases p with
    | fresh =>
      refine ⟨?_, hinv⟩
      simp [RC.stepA, RC.step, RC.current, hinv.2.2, Spec.step, Agree]
    | «at» i =>
      refine ⟨?_, hinv⟩
      obtain ⟨l, b, off, fl, pre, post, i0, hin, hcur, hup, hbe, hbp, hi0, hi⟩ := hinv.2
      have : es[i]? = fl[i0]? := by rw [hup.split, hi, getElem?_mid pre fl post i0 hi0]
      simp [RC.stepA, RC.step, RC.current, hcur, Spec.step, Agree, LC.ops, LC.current, hbp, hbe, this]
    | lost => exact ⟨trivial, hinv⟩
  | eq q =>
    obtain ⟨c', h1, h2, h3⟩ := ge_spec cx hc q
    rw [Spec.step, Spec.find, findIdx?_eq es cx.asc]
    show Agree (RC.eq LC.ops s.load q c).2 _ ∧ InvL _ _ _ _ _ (RC.eq LC.ops s.load q c).1 _
    unfold RC.eq; rw [h1]
    cases h : es[lowerBound es q]? with
    | none => exact ⟨rfl, h2⟩
    | some e =>
      by_cases he : e.1 = q
      · simp only [he, if_true, Option.filter, decide_true]
        rw [← h]
        exact land_ok rfl h2 h3
      · simp only [he, if_false, Option.filter, decide_false]
        exact ⟨rfl, h2⟩
  | le q =>
    obtain ⟨c', h1, h2, h3⟩ := le_spec cx hc q
    rw [step_le]
    show Agree (RC.le LC.ops s.load true q c).2 _ ∧ InvL _ _ _ _ _ (RC.le LC.ops s.load true q c).1 _
    rw [h1]
    by_cases h0 : upperBound es q = 0
    · rw [if_pos h0, if_pos h0]; exact ⟨rfl, h2⟩
    · rw [if_neg h0, if_neg h0]; exact land_ok rfl h2 (fun _ => h3 (by omega))

end

/-- The invariant over the empty file. -/
def InvE (root levels : Nat) (c : RC LC) (p : Pos) : Prop :=
  c.base = root ∧ c.levels = levels ∧ c.inner = none ∧ c.cur = none ∧ (p = .fresh ∨ p = .lost)

section
variable {s : Store} {root levels : Nat}

/-- On the empty file, with nothing held, an absolute move answers `None` and holds nothing. -/
theorem seek_empty (hs : s root = some []) {c : RC LC} (hb : c.base = root)
    (hin : c.inner = none) (hcur : c.cur = none) (mov : Mov) (keepCur : Bool) :
    ∃ c', RC.seek LC.ops s.load mov keepCur c = (c', .ok none) ∧ c'.base = root ∧
      c'.levels = c.levels ∧ c'.inner = none ∧ c'.cur = none := by
  have hi : RC.iterIndex LC.ops s.load mov c =
      some ({ c with inner := none, log := root :: c.log }, none) := by
    rw [RC.iterIndex_none hin, hb,
      RC.initialIndex_stop (load_eq hs) (Prod.ext rfl (by cases mov <;> rfl))]; rfl
  rw [RC.seek_none hi]
  cases keepCur with
  | true => exact ⟨_, rfl, hb, rfl, rfl, hcur⟩
  | false => exact ⟨_, rfl, hb, rfl, rfl, rfl⟩

/-- On the empty file, with nothing held, every operation answers `None` and holds nothing. -/
theorem stepA_empty (hs : s root = some []) {c : RC LC} (hb : c.base = root)
    (hin : c.inner = none) (hcur : c.cur = none) (op : Op) :
    ∃ c', RC.stepA s true c op = (c', .ok none) ∧ c'.base = root ∧ c'.levels = c.levels ∧
      c'.inner = none ∧ c'.cur = none := by
  cases op with
  | first => exact seek_empty hs hb hin hcur .first false
  | last => exact seek_empty hs hb hin hcur .last false
  | next =>
    show ∃ c', c.next LC.ops s.load true = _ ∧ _
    rw [RC.next_none hcur]; exact seek_empty hs hb hin hcur .first false
  | prev =>
    show ∃ c', c.prev LC.ops s.load true = _ ∧ _
    rw [RC.prev_none hcur]; exact seek_empty hs hb hin hcur .last false
  | ge q => exact seek_empty hs hb hin hcur (.ge q) true
  | eq q =>
    obtain ⟨c1, h1, g⟩ := seek_empty hs hb hin hcur (.ge q) true
    show ∃ c', c.eq LC.ops s.load q = _ ∧ _
    rw [RC.eq_eq, h1]; exact ⟨c1, rfl, g⟩
  | le q =>
    obtain ⟨c1, h1, b1, l1, i1, u1⟩ := seek_empty hs hb hin hcur (.ge q) true
    obtain ⟨c2, h2, b2, l2, g⟩ := seek_empty hs b1 i1 u1 .last false
    show ∃ c', c.le LC.ops s.load true q = _ ∧ _
    rw [RC.le_eq, h1]; dsimp only; rw [h2]; exact ⟨c2, rfl, b2, l2.trans l1, g⟩
  | reset => exact ⟨c.reset, rfl, hb, rfl, rfl, rfl⟩
  | current =>
    refine ⟨c, ?_, hb, rfl, hin, hcur⟩
    show (c, Res.ok (RC.current LC.ops c)) = _
    unfold RC.current; rw [hcur]

/-- On the empty list the specification cursor answers `None` or leaves the answer open, and is
    never at a position. -/
theorem step_nil {p : Pos} (hp : p = .fresh ∨ p = .lost) (op : Op) :
    Agree (.ok none) (Spec.step [] p op).2 ∧
      ((Spec.step [] p op).1 = .fresh ∨ (Spec.step [] p op).1 = .lost) := by
  rcases hp with rfl | rfl
  · cases op with
    | reset | current => exact ⟨rfl, Or.inl rfl⟩
    | _ => exact ⟨rfl, Or.inr rfl⟩
  · cases op with
    | reset => exact ⟨rfl, Or.inl rfl⟩
    | next | prev | current => exact ⟨trivial, Or.inr rfl⟩
    | _ => exact ⟨rfl, Or.inr rfl⟩

end

/-- The state invariant relating a concrete cursor state `c` to a logical position `p`:
    either the file is empty and nothing is held, or the file is a labelled tree, the held blocks
    are cache-sound, and (at position `i`) the held blocks are the root-to-leaf path of entry `i`. -/
def Inv (s : Store) (root levels : Nat) (es : List Entry) (c : RC LC) (p : Pos) : Prop :=
  (es = [] ∧ s root = some [] ∧ InvE root levels c p) ∨
  (∃ lvl, Sub s lvl (levels + 1) root es ∧ InvL s lvl root levels es c p)

def c0 (root levels : Nat) : RC LC := { base := root, levels := levels, inner := none, cur := none }

section
variable {s : Store} {root levels : Nat} {es : List Entry}

theorem Inv_c0 (h : FileOK s root levels es) : Inv s root levels es (c0 root levels) .fresh := by
  rcases h.tree with ⟨he, hs⟩ | ⟨lvl, hsub⟩
  · exact Or.inl ⟨he, hs, rfl, rfl, rfl, rfl, Or.inl rfl⟩
  · exact Or.inr ⟨lvl, hsub, ⟨rfl, rfl, fun _ => rfl, (by intro l hl; cases hl)⟩, rfl, rfl⟩

/-- One step: the result agrees with the specification and the invariant is kept. -/
theorem step_inv (h : FileOK s root levels es) {c : RC LC} {p : Pos}
    (hinv : Inv s root levels es c p) (op : Op) :
    Agree (RC.stepA s true c op).2 (Spec.step es p op).2 ∧
      Inv s root levels es (RC.stepA s true c op).1 (Spec.step es p op).1 := by
  rcases hinv with ⟨he, hs, hE⟩ | ⟨lvl, hsub, hL⟩
  · subst he
    obtain ⟨hb, hl, hin, hcur, hp⟩ := hE
    obtain ⟨c', h, hb', hl', hin', hcur'⟩ := stepA_empty hs hb hin hcur op
    obtain ⟨ha, hp'⟩ := step_nil hp op
    rw [h]
    exact ⟨ha, Or.inl ⟨rfl, hs, hb', hl'.trans hl, hin', hcur', hp'⟩⟩
  · have cx : Ctx s lvl (levels + 1) root es := ⟨h.asc, hsub, fun off blk hb => (h.blocks off blk hb).2⟩
    obtain ⟨h1, h2⟩ := stepL cx hL op
    exact ⟨h1, Or.inr ⟨lvl, hsub, h2⟩⟩

/-- Run a history on the cursor and on the specification cursor, collecting the result pairs. -/
def runBoth (s : Store) (es : List Entry) : RC LC → Pos → List Op → List (Res × SRes)
  | _, _, [] => []
  | c, p, op :: ops =>
    ((RC.stepA s true c op).2, (Spec.step es p op).2) ::
      runBoth s es (RC.stepA s true c op).1 (Spec.step es p op).1 ops

/-- The states reached after a history. -/
def runState (s : Store) (es : List Entry) : RC LC → Pos → List Op → RC LC × Pos
  | c, p, [] => (c, p)
  | c, p, op :: ops => runState s es (RC.stepA s true c op).1 (Spec.step es p op).1 ops

theorem runState_inv (h : FileOK s root levels es) {c : RC LC} {p : Pos}
    (hinv : Inv s root levels es c p) (ops : List Op) :
    Inv s root levels es (runState s es c p ops).1 (runState s es c p ops).2 := by
  induction ops generalizing c p with
  | nil => exact hinv
  | cons op ops ih => exact ih (step_inv h hinv op).2

theorem runBoth_agree (h : FileOK s root levels es) {c : RC LC} {p : Pos}
    (hinv : Inv s root levels es c p) (ops : List Op) :
    ∀ x ∈ runBoth s es c p ops, Agree x.1 x.2 := by
  induction ops generalizing c p with
  | nil => intro x hx; cases hx
  | cons op ops ih =>
    intro x hx
    obtain ⟨h1, h2⟩ := step_inv h hinv op
    rcases List.mem_cons.1 hx with rfl | hx
    · exact h1
    · exact ih h2 x hx

end

end Grenad.TCursor
