/-
  `le` lands on the last entry with key `≤ q` (`le_spec`); `ge` is `le` and a step (`ge_sim`); all moves
  together: `byteOps_sim`.
-/
import Grenad.Proofs.TBlock4
import Grenad.Model.Reader

set_option linter.unusedSimpArgs false

namespace Grenad

/-- The comparison `entry_at(off).key < Some(key)` used by the binary search of `searchKey`. -/
def keyLt (b : Block) (q : Bytes) (off : Nat) : Bool :=
  match (b.entryAt off).map (fun (k, _, _) => k) with
  | none => true
  | some k => decide (k < q)

theorem searchKey_eq (b : Block) (q : Bytes) :
    BlockCursor.searchKey b q =
      match b.offsets[(b.offsets.takeWhile (keyLt b q)).length]? with
      | some off => (decide ((b.entryAt off).map (fun (k, _, _) => k) = some q),
                      (b.offsets.takeWhile (keyLt b q)).length)
      | none => (false, (b.offsets.takeWhile (keyLt b q)).length) := rfl

section Le

variable {iv : Nat} {es : List Entry} {b : Block}

theorem keyLt_offAt (hb : BlockOf iv es b) (q : Bytes) {m : Nat} (hm : m < es.length) :
    keyLt b q (offAt es m) = decide (es[m].1 < q) := by
  simp [keyLt, entryAt_offAt hb.payload hb.lens hm]

/-- Target offset of `le`: the last entry with key `≤ q`, if any. -/
def leOff (es : List Entry) (q : Bytes) : Option Nat :=
  if Spec.upperBound es q = 0 then none else some (offAt es (Spec.upperBound es q - 1))

theorem scanLe_branch (hb : BlockOf iv es b) (q : Bytes) {s : Nat} (hs : s ≤ es.length - 1)
    (hlt : keyLt b q (offAt es s) = true) :
    BlockCursor.scanLe b q (b.payload.length + 1) (offAt es s) none = leOff es q := by
  obtain ⟨u0, u1, u2⟩ := upperBound_spec es q
  have hfuel := hb.fuel
  -- the scan stops at `upperBound es q`, the first entry with key `> q`
  have hscan := scanGen_spec hb.payload hb.lens (fun k => decide (q < k)) u0
    (fun m hm hm' => decide_eq_false (u1 m hm hm')) (fun h => decide_eq_true (u2 h))
    (b.payload.length + 1) s none
  unfold leOff
  rcases Nat.eq_zero_or_pos es.length with h0 | h0
  · have hs0 : s = 0 := by omega
    have hu : Spec.upperBound es q = 0 := by omega
    rw [scanLe_eq, hscan (by omega) (by omega)]
    simp [hu, hs0]
  · have hsn : s < es.length := by omega
    rw [keyLt_offAt hb q hsn] at hlt
    have hlt' : es[s].1 < q := by simpa using hlt
    have hsu : s < Spec.upperBound es q := by
      rcases Nat.lt_or_ge s (Spec.upperBound es q) with h | h
      · exact h
      · have h1 : Spec.upperBound es q < es.length := by omega
        have h2 := u2 h1
        have h3 := asc_get_le hb.asc h hsn
        exact absurd (Std.lt_of_lt_of_le h2 (Std.le_trans h3 (Std.le_of_lt hlt'))) (Std.lt_irrefl)
    rw [scanLe_eq, hscan (by omega) (by omega)]
    have : ¬ Spec.upperBound es q = 0 := by omega
    simp [hsu, this]

theorem searchKey_cases (hb : BlockOf iv es b) (q : Bytes) :
    ∃ (found : Bool) (i : Nat), BlockCursor.searchKey b q = (found, i) ∧ i ≤ b.offsets.length ∧
      (0 < i → keyLt b q (offAt es ((i - 1) * iv)) = true) ∧
      (found = true → i < b.offsets.length ∧ ∃ h : i * iv < es.length, es[i * iv].1 = q) ∧
      (found = false → i < b.offsets.length → ∃ h : i * iv < es.length, q < es[i * iv].1) := by
  obtain ⟨s0, s1, s2⟩ := takeWhile_spec (keyLt b q) b.offsets
  rw [searchKey_eq]
  generalize (List.takeWhile (keyLt b q) b.offsets).length = i at s0 s1 s2
  have hprev : 0 < i → keyLt b q (offAt es ((i - 1) * iv)) = true := by
    intro hi
    have hlt1 : i - 1 < b.offsets.length := by omega
    have hk := s1 (i - 1) (by omega) hlt1
    rw [hb.offs_get hlt1] at hk
    exact hk
  rcases Nat.lt_or_ge i b.offsets.length with hik | hik
  · have hidx := hb.offs_idx hik
    have hnl := s2 hik
    rw [hb.offs_get hik] at hnl
    have hn : i * iv < es.length := by
      rcases Nat.lt_or_ge (i * iv) es.length with h | h
      · exact h
      · have : i * iv = es.length := by omega
        simp [this, keyLt, entryAt_offAt_end hb.payload] at hnl
    rw [keyLt_offAt hb q hn] at hnl
    have hnl' : ¬ es[i * iv].1 < q := by simpa using hnl
    simp only [hb.offs_get? hik, entryAt_offAt hb.payload hb.lens hn, Option.map_some]
    refine ⟨_, _, rfl, s0, hprev, ?_, ?_⟩
    · intro hf
      exact ⟨hik, hn, by simpa using hf⟩
    · intro hf _
      have hne : ¬ es[i * iv].1 = q := by simpa using hf
      exact ⟨hn, Std.lt_of_le_of_ne (List.not_lt.mp hnl') (fun h => hne h.symm)⟩
  · have hnone : b.offsets[i]? = none := by simp [hik]
    simp only [hnone]
    refine ⟨_, _, rfl, s0, hprev, ?_, ?_⟩
    · intro hf; cases hf
    · intro _ h; omega

theorem le_eq (hb : BlockOf iv es b) (o : Option Nat) (q : Bytes) :
    (BlockCursor.mk b o).le q = (⟨b, leOff es q⟩, (BlockCursor.mk b (leOff es q)).current) := by
  -- the returned entry is `current` of the returned cursor, so the cursor decides
  suffices h1 : ((BlockCursor.mk b o).le q).1 = ⟨b, leOff es q⟩ from Prod.ext h1 (by rw [← h1]; rfl)
  obtain ⟨found, i, hsk, hik, hprev, hT, hF⟩ := searchKey_cases hb q
  simp only [BlockCursor.le, hsk]
  cases found with
  | true =>
    obtain ⟨hlt, hn, hfound⟩ := hT rfl
    have hub : Spec.upperBound es q = i * iv + 1 := by
      apply upperBound_eq (by omega)
      · intro m hm hm'
        rw [← hfound]; exact asc_get_le hb.asc (by omega) hn
      · intro h
        rw [← hfound]; exact asc_get hb.asc (by omega) h
    simp [leOff, hub, List.getD_eq_getElem?_getD, hb.offs_get? hlt]
  | false =>
    simp only [Bool.false_eq_true, if_false]
    by_cases hi0 : i = 0
    · subst hi0
      obtain ⟨hn, hgt⟩ := hF rfl hb.offs_pos
      have hub : Spec.upperBound es q = 0 := by
        apply upperBound_eq (by omega)
        · intro m hm; omega
        · intro h; simpa using hgt
      simp [leOff, hub]
    · have hlt1 : i - 1 < b.offsets.length := by omega
      simp only [hi0, if_false, hb.offs_get? hlt1]
      rw [scanLe_branch hb q (hb.offs_idx hlt1) (hprev (by omega))]

/-- `le` lands on the last entry with key `≤ q` (bonus: `LC` has no `le`). -/
theorem le_spec (hb : BlockOf iv es b) (o : Option Nat) (q : Bytes) :
    BRepr es b ((BlockCursor.mk b o).le q).1
      ⟨es, if Spec.upperBound es q = 0 then none else some (Spec.upperBound es q - 1)⟩ ∧
    ((BlockCursor.mk b o).le q).2 =
      (if Spec.upperBound es q = 0 then none else es[Spec.upperBound es q - 1]?) := by
  obtain ⟨u0, _, _⟩ := upperBound_spec es q
  rw [le_eq hb o q]
  by_cases hu : Spec.upperBound es q = 0
  · simp only [leOff, hu, if_true]
    exact ⟨BRepr.mk' none (by simp), rfl⟩
  · simp only [leOff, hu, if_false]
    have h2 : BRepr es b ⟨b, some (offAt es (Spec.upperBound es q - 1))⟩
        ⟨es, some (Spec.upperBound es q - 1)⟩ := BRepr.mk' (some _) (by simp; omega)
    exact ⟨h2, current_sim hb h2⟩

theorem ge_sim (hb : BlockOf iv es b) {c : BlockCursor} {l : LC} (h : BRepr es b c l) (q : Bytes) :
    BRepr es b (c.ge q).1 (l.ge q).1 ∧ (c.ge q).2 = (l.ge q).2 := by
  obtain ⟨pos, rfl, rfl, hpos⟩ := h.cases
  obtain ⟨u0, u1, u2⟩ := upperBound_spec es q
  simp only [BlockCursor.ge, le_eq hb, LC.ge]
  by_cases hu : Spec.upperBound es q = 0
  · have hlb : Spec.lowerBound es q = 0 := by
      apply lowerBound_eq (by omega)
      · intro m hm; omega
      · intro h
        have := u2 (by omega)
        simp only [hu] at this
        exact fun h' => Std.lt_irrefl (Std.lt_trans this h')
    have hcur : (BlockCursor.mk b none).current = none := rfl
    simp only [leOff, hu, if_true, hcur, hlb]
    exact first_sim hb (BRepr.mk' (b := b) (es := es) none (by simp))
  · have hlt : Spec.upperBound es q - 1 < es.length := by omega
    have h2 : BRepr es b ⟨b, some (offAt es (Spec.upperBound es q - 1))⟩
        ⟨es, some (Spec.upperBound es q - 1)⟩ := BRepr.mk' (some _) (by simp; omega)
    have hcur := current_sim hb h2
    have hcur' : (LC.mk es (some (Spec.upperBound es q - 1))).current
        = some (es[Spec.upperBound es q - 1].1, es[Spec.upperBound es q - 1].2) := by
      simp [LC.current, hlt]
    rw [hcur'] at hcur
    have hle : es[Spec.upperBound es q - 1].1 ≤ q := u1 _ (by omega) hlt
    simp only [leOff, hu, if_false, hcur]
    by_cases hk : es[Spec.upperBound es q - 1].1 = q
    · have hlb : Spec.lowerBound es q = Spec.upperBound es q - 1 := by
        apply lowerBound_eq (by omega)
        · intro m hm hm'
          rw [← hk]; exact asc_get hb.asc hm hlt
        · intro _
          rw [hk]; exact Std.lt_irrefl
      simp only [hk, if_true, hlb]
      refine ⟨h2, ?_⟩
      rw [hcur']; simp [hk]
    · have hlb : Spec.lowerBound es q = Spec.upperBound es q := by
        apply lowerBound_eq u0
        · intro m hm hm'
          have h3 : es[m].1 ≤ es[Spec.upperBound es q - 1].1 := asc_get_le hb.asc (by omega) hlt
          exact Std.lt_of_le_of_lt h3 (Std.lt_of_le_of_ne hle hk)
        · intro h
          exact fun h' => Std.lt_irrefl (Std.lt_trans (u2 h) h')
      have hn := next_sim hb h2
      have hln : (LC.mk es (some (Spec.upperBound es q - 1))).next
          = (⟨es, some (Spec.upperBound es q)⟩, (LC.mk es (some (Spec.upperBound es q))).current) := by
        have : Spec.upperBound es q - 1 + 1 = Spec.upperBound es q := by omega
        simp [LC.next, hlt, this]
      rw [hln] at hn
      simp only [hk, if_false, hlb]
      exact hn

end Le

/-- **T-block.**  The byte-level block cursor simulates the list cursor, move by move. -/
theorem byteOps_sim {iv : Nat} {es : List Entry} {b : Block} (hb : BlockOf iv es b)
    {c : BlockCursor} {l : LC} (h : BRepr es b c l) (m : Mov) :
    let r := byteOps.apply m c
    let r' := LC.ops.apply m l
    BRepr es b r.1 r'.1 ∧ r.2 = r'.2 := by
  cases m with
  | first => exact first_sim hb h
  | last => exact last_sim hb h
  | next => exact next_sim hb h
  | prev => exact prev_sim hb h
  | ge q => exact ge_sim hb h q

theorem byteOps_current {iv : Nat} {es : List Entry} {b : Block} (hb : BlockOf iv es b)
    {c : BlockCursor} {l : LC} (h : BRepr es b c l) :
    byteOps.current c = LC.ops.current l :=
  current_sim hb h

theorem byteOps_init (es : List Entry) (b : Block) :
    BRepr es b (BlockCursor.ofBlock b) (LC.ofList es) := BRepr.ofBlock es b

end Grenad
