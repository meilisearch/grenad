/-
  Grenad.Proofs.SorterRun — the sorter's public calls as steps over the `Entries` lemmas:
  shape of every successful `Sorter.insert` (fit/grow, spill, spill+merge), the invariant `Core`
  carried by every reachable state, and the absence of traps.
-/
import Grenad.Proofs.SorterEvents
import Grenad.Proofs.NoFault

namespace Grenad
namespace Sorter

open Entries

/-- Capacity of the first allocation requested by `Sorter.new`. -/
def cap0 (cfg : SCfg) : Nat := if cfg.allowRealloc then cfg.initialSize else cfg.budget

/-! ### The three shapes of a successful insert -/

/-- fit / grow branch: `j` doublings, then the store. -/
def plainStep (s : Sorter) (k v : Bytes) (j : Nat) : Sorter :=
  { s with entries := push (scale s.entries j) k v,
           events := s.events ++ reallocEvents s.entries.bufLen j }

/-- spill branch before the chunk-count test. -/
def spillStep (s : Sorter) (chunk : List Entry) (calls : List (Bytes × List Bytes))
    (k v : Bytes) (j : Nat) : Sorter :=
  { s with chunks := s.chunks ++ [chunk], entries := push (scale s.entries.clear j) k v,
           events := s.events ++ [.create] ++ reallocEvents s.entries.bufLen j,
           calls := s.calls ++ calls }

/-- After `merge_chunks`: the merged chunk is created while the drained ones are still alive. -/
def mergeStep (s : Sorter) (merged : List Entry) (calls : List (Bytes × List Bytes)) : Sorter :=
  { s with chunks := [merged],
           events := s.events ++ [.create] ++ s.chunks.map (fun _ => SEvent.dropChunk),
           calls := s.calls ++ calls }

/-- Does `insert k v` in state `s` take the spill branch (call `write_chunk`)? -/
def spills (s : Sorter) (k v : Bytes) : Bool :=
  !(decide (s.entries.used + entrySize k v ≤ s.entries.bufLen) ||
    (!decide (s.entries.bufLen ≥ s.cfg.budget) && s.cfg.allowRealloc))

/-- Does it also call `merge_chunks`? -/
def merges (s : Sorter) (k v : Bytes) : Bool :=
  spills s k v && decide (s.chunks.length + 1 ≥ s.cfg.maxNb)

theorem writeChunk_ok {mf : MergeFn} {s s1 : Sorter} (h : writeChunk mf s = .ok s1) :
    ∃ chunk calls, s1 = { s with chunks := s.chunks ++ [chunk], entries := s.entries.clear,
                                 events := s.events ++ [.create], calls := s.calls ++ calls } := by
  unfold writeChunk writeChunkWith at h
  split at h
  · cases h
  · rename_i chunk calls _
    simp only [Except.ok.injEq] at h
    exact ⟨chunk, calls, h.symm⟩

/-- `write_chunk` fails only with `.merge`, and only because a merge call failed. -/
theorem writeChunk_eq_error {mf : MergeFn} {s : Sorter} {e : SErr}
    (h : writeChunk mf s = .error e) :
    e = .merge ∧ mergeGroups mf (sortStable s.entries.items) none [] [] = none := by
  unfold writeChunk writeChunkWith at h
  split at h
  · rename_i hm
    cases h
    exact ⟨rfl, hm⟩
  · cases h

theorem mergeChunks_ok {mf : MergeFn} {s s' : Sorter} (h : mergeChunks mf s = .ok s') :
    ∃ merged calls, s' = mergeStep s merged calls := by
  unfold mergeChunks at h
  split at h
  · cases h
  · rename_i merged m _
    simp only [Except.ok.injEq] at h
    exact ⟨merged, m.calls.reverse, h.symm⟩

/-- `merge_chunks` fails only with `.merge`, and only because the merger did. -/
theorem mergeChunks_eq_error {mf : MergeFn} {s : Sorter} {e : SErr}
    (h : mergeChunks mf s = .error e) : e = .merge ∧ (Merger.run mf s.chunks).1 = none := by
  unfold mergeChunks at h
  split at h
  · rename_i hr
    cases h
    exact ⟨rfl, by rw [hr]⟩
  · cases h

/-- Every error of `Sorter.insert` is accounted for: a trap is the trap of one of the `Entries`
    operations of this very call, passed on unchanged; `.merge` is a failed merge call of this
    call's spill or chunk merge. -/
theorem insert_err {mf : MergeFn} {s : Sorter} {k v : Bytes} {e : SErr}
    (h : Sorter.insert mf s k v = .error e) :
    (∃ t, e = .trap t ∧
      (s.entries.fits k v = .error t ∨ s.entries.insert k v 64 = .error t ∨
       ∃ s', writeChunk mf s = .ok s' ∧ s'.entries.insert k v 64 = .error t)) ∨
    (e = .merge ∧
      (mergeGroups mf (sortStable s.entries.items) none [] [] = none ∨
       ∃ s', writeChunk mf s = .ok s' ∧ (Merger.run mf s'.chunks).1 = none)) := by
  unfold Sorter.insert at h
  cases hf : s.entries.fits k v with
  | error t => rw [hf] at h; cases h; exact .inl ⟨t, rfl, .inl rfl⟩
  | ok fit =>
    rw [hf] at h
    dsimp only at h
    split at h
    · cases hi : s.entries.insert k v 64 with
      | error t => rw [hi] at h; cases h; exact .inl ⟨t, rfl, .inr (.inl rfl)⟩
      | ok x => rw [hi] at h; cases h
    · cases hw : writeChunk mf s with
      | error e' =>
        rw [hw] at h; cases h
        obtain ⟨e1, e2⟩ := writeChunk_eq_error hw
        exact .inr ⟨e1, .inl e2⟩
      | ok s' =>
        rw [hw] at h
        dsimp only at h
        cases hi : s'.entries.insert k v 64 with
        | error t => rw [hi] at h; cases h; exact .inl ⟨t, rfl, .inr (.inr ⟨s', rfl, hi⟩)⟩
        | ok x =>
          rw [hi] at h
          dsimp only at h
          split at h
          · obtain ⟨e1, e2⟩ := mergeChunks_eq_error h
            exact .inr ⟨e1, .inr ⟨s', rfl, e2⟩⟩
          · cases h

theorem insert_cases {mf : MergeFn} {s s' : Sorter} {k v : Bytes} (hinv : Inv s.entries)
    (h : Sorter.insert mf s k v = .ok s') :
    (spills s k v = false ∧ ∃ j, Grow s.entries k v j ∧ s' = plainStep s k v j) ∨
    (spills s k v = true ∧ ∃ chunk calls j, Grow s.entries.clear k v j ∧
      ((merges s k v = false ∧ s' = spillStep s chunk calls k v j) ∨
       (merges s k v = true ∧ ∃ merged calls',
          s' = mergeStep (spillStep s chunk calls k v j) merged calls'))) := by
  unfold Sorter.insert at h
  rw [fits_eq hinv] at h
  simp only at h
  by_cases hc : (decide (s.entries.used + entrySize k v ≤ s.entries.bufLen) ||
      (!decide (s.entries.bufLen ≥ s.cfg.budget) && s.cfg.allowRealloc)) = true
  · left
    rw [if_pos hc] at h
    refine ⟨by simp [spills, hc], ?_⟩
    cases hi : s.entries.insert k v 64 with
    | error t => simp [hi] at h
    | ok r =>
      obtain ⟨e, ev⟩ := r
      simp only [hi, Except.ok.injEq] at h
      obtain ⟨j, g, rfl, rfl⟩ := insert_ok hinv hi
      exact ⟨j, g, h.symm⟩
  · right
    rw [if_neg hc] at h
    have hsp : spills s k v = true := by simp [spills, hc]
    refine ⟨hsp, ?_⟩
    cases hw : writeChunk mf s with
    | error e => simp [hw] at h
    | ok s1 =>
      simp only [hw] at h
      obtain ⟨chunk, calls, rfl⟩ := writeChunk_ok hw
      simp only at h
      cases hi : s.entries.clear.insert k v 64 with
      | error t => simp [hi] at h
      | ok r =>
        obtain ⟨e, ev⟩ := r
        simp only [hi] at h
        obtain ⟨j, g, rfl, rfl⟩ := insert_ok hinv.clear hi
        refine ⟨chunk, calls, j, g, ?_⟩
        by_cases hm : (s.chunks ++ [chunk]).length ≥ s.cfg.maxNb
        · right
          rw [if_pos hm] at h
          refine ⟨by simpa [merges, hsp] using hm, ?_⟩
          obtain ⟨merged, calls', hs'⟩ := mergeChunks_ok h
          exact ⟨merged, calls', by rw [hs']; simp [spillStep, List.append_assoc, Entries.clear]⟩
        · left
          rw [if_neg hm] at h
          refine ⟨by simpa [merges, hsp] using hm, ?_⟩
          simp only [Except.ok.injEq] at h
          rw [← h]; simp [spillStep, List.append_assoc, Entries.clear]

/-! ### The invariant of reachable states -/

/-- Carried by every state between (and inside) public calls while the buffer is alive. -/
structure Core (cfg : SCfg) (s : Sorter) : Prop where
  cfg_eq : s.cfg = cfg
  inv    : Inv s.entries
  alloc  : allocRun .none s.events = some (.one s.entries.bufLen)
  chunk  : chunkRun (cfg.maxNb + 2) 0 s.events = some s.chunks.length

theorem new_ok {cfg : SCfg} {s : Sorter} (h : Sorter.new cfg = .ok s) :
    roundUp (cap0 cfg) ≠ 0 ∧ roundUp (cap0 cfg) < 2 ^ 63 ∧
    s = { cfg := cfg, chunks := [], calls := [], events := [.alloc (roundUp (cap0 cfg))],
          entries := { bufLen := roundUp (cap0 cfg), entriesLen := 0, boundsCount := 0,
                       items := [] } } := by
  unfold Sorter.new Entries.withCapacity at h
  simp only at h
  rw [show (if cfg.allowRealloc = true then cfg.initialSize else cfg.budget) = cap0 cfg from rfl,
    alloc_eq] at h
  by_cases h0 : roundUp (cap0 cfg) = 0
  · simp [h0] at h
  by_cases h1 : roundUp (cap0 cfg) ≥ 2 ^ 63
  · simp [h0, h1] at h
  simp only [h0, h1, if_false, Except.ok.injEq] at h
  exact ⟨h0, by omega, h.symm⟩

theorem new_no_trap {cfg : SCfg} (h0 : 0 < cap0 cfg) (h1 : cap0 cfg + 15 < 2 ^ 63) :
    ∃ s, Sorter.new cfg = .ok s := by
  have a := le_roundUp (cap0 cfg)
  have b := roundUp_lt (cap0 cfg)
  have c := roundUp_mod (cap0 cfg)
  unfold Sorter.new Entries.withCapacity
  simp only
  rw [show (if cfg.allowRealloc = true then cfg.initialSize else cfg.budget) = cap0 cfg from rfl,
    alloc_eq]
  have h0' : ¬ roundUp (cap0 cfg) = 0 := by omega
  have h1' : ¬ roundUp (cap0 cfg) ≥ 2 ^ 63 := by omega
  simp only [h0', h1', if_false]
  exact ⟨_, rfl⟩

theorem core_new {cfg : SCfg} {s : Sorter} (h : Sorter.new cfg = .ok s) : Core cfg s := by
  obtain ⟨h0, _, rfl⟩ := new_ok h
  have c := roundUp_mod (cap0 cfg)
  refine ⟨rfl, ⟨c, ?_, ?_, rfl, rfl, rfl⟩, ?_, ?_⟩
  · show 16 ≤ roundUp (cap0 cfg); omega
  · show 0 + 16 * 0 ≤ roundUp (cap0 cfg); omega
  · simp [allocRun, allocStep]
  · simp [chunkRun]

theorem core_plain {cfg : SCfg} {s : Sorter} {k v : Bytes} {j : Nat} (c : Core cfg s)
    (g : Grow s.entries k v j) : Core cfg (plainStep s k v j) := by
  refine ⟨c.cfg_eq, g.inv c.inv, ?_, ?_⟩
  · show allocRun .none (s.events ++ reallocEvents s.entries.bufLen j) = _
    rw [allocRun_append_of c.alloc, allocRun_realloc]; rfl
  · show chunkRun _ 0 (s.events ++ reallocEvents s.entries.bufLen j) = _
    rw [chunkRun_append_of c.chunk, chunkRun_realloc]; rfl

theorem core_spill {cfg : SCfg} {s : Sorter} {k v : Bytes} {j : Nat} (c : Core cfg s)
    (chunk : List Entry) (calls : List (Bytes × List Bytes))
    (hl : s.chunks.length ≤ cfg.maxNb + 1)
    (g : Grow s.entries.clear k v j) : Core cfg (spillStep s chunk calls k v j) := by
  refine ⟨c.cfg_eq, g.inv c.inv.clear, ?_, ?_⟩
  · show allocRun .none (s.events ++ [.create] ++ reallocEvents s.entries.bufLen j) = _
    rw [List.append_assoc, allocRun_append_of c.alloc]
    show allocRun (.one s.entries.bufLen) (reallocEvents s.entries.bufLen j) = _
    rw [allocRun_realloc]; rfl
  · show chunkRun _ 0 (s.events ++ [.create] ++ reallocEvents s.entries.bufLen j) = _
    rw [List.append_assoc, chunkRun_append_of c.chunk]
    have : s.chunks.length + 1 ≤ cfg.maxNb + 2 := by omega
    simp only [List.cons_append, List.nil_append, chunkRun, this, if_true, chunkRun_realloc]
    simp [spillStep]

theorem core_merge {cfg : SCfg} {s : Sorter} (c : Core cfg s)
    (merged : List Entry) (calls : List (Bytes × List Bytes))
    (hl : s.chunks.length ≤ cfg.maxNb + 1) : Core cfg (mergeStep s merged calls) := by
  refine ⟨c.cfg_eq, c.inv, ?_, ?_⟩
  · show allocRun .none (s.events ++ [.create] ++ s.chunks.map (fun _ => SEvent.dropChunk)) = _
    rw [List.append_assoc, allocRun_append_of c.alloc]
    show allocRun (.one s.entries.bufLen) (s.chunks.map (fun _ => SEvent.dropChunk)) = _
    generalize s.chunks = l
    induction l with
    | nil => rfl
    | cons x r ih => simpa [allocRun, allocStep] using ih
  · show chunkRun _ 0 (s.events ++ [.create] ++ s.chunks.map (fun _ => SEvent.dropChunk)) = _
    rw [List.append_assoc, chunkRun_append_of c.chunk]
    have : s.chunks.length + 1 ≤ cfg.maxNb + 2 := by omega
    simp only [List.cons_append, List.nil_append, chunkRun, this, if_true]
    rw [Nat.add_comm s.chunks.length 1, chunkRun_drops]; rfl

/-- `Sorter.insert` preserves `Core` and keeps the number of chunks between calls below
    `max (maxNb - 1) 1`. -/
theorem core_insert {mf : MergeFn} {cfg : SCfg} {s s' : Sorter} {k v : Bytes} (c : Core cfg s)
    (hl : s.chunks.length ≤ max (cfg.maxNb - 1) 1) (h : Sorter.insert mf s k v = .ok s') :
    Core cfg s' ∧ s'.chunks.length ≤ max (cfg.maxNb - 1) 1 := by
  have hmax : 1 ≤ cfg.maxNb := by unfold SCfg.maxNb; omega
  rcases insert_cases c.inv h with ⟨_, j, g, rfl⟩ | ⟨hsp, chunk, calls, j, g, hm⟩
  · exact ⟨core_plain c g, hl⟩
  · have c1 := core_spill c chunk calls (by omega) g
    rcases hm with ⟨hm, rfl⟩ | ⟨_, merged, calls', rfl⟩
    · refine ⟨c1, ?_⟩
      simp only [merges, hsp, Bool.true_and, decide_eq_false_iff_not, c.cfg_eq] at hm
      simp only [spillStep, List.length_append, List.length_singleton]
      omega
    · refine ⟨core_merge c1 merged calls' ?_, ?_⟩
      · simp only [spillStep, List.length_append, List.length_singleton]; omega
      · simp only [mergeStep, List.length_singleton]; omega

/-! ### Counting creates, bounding the buffer -/

theorem creates_append (a b : List SEvent) : creates (a ++ b) = creates a + creates b := by
  simp [creates]

theorem creates_realloc (b j : Nat) : creates (reallocEvents b j) = 0 := by
  induction j generalizing b with
  | zero => rfl
  | succ j ih => simp [reallocEvents, creates] at ih ⊢; exact ih _

theorem creates_one : creates [SEvent.create] = 1 := by decide

theorem creates_drops {α : Type} (l : List α) :
    creates (l.map (fun _ => SEvent.dropChunk)) = 0 := by
  induction l with
  | nil => rfl
  | cons x r ih => simp [creates] at ih ⊢; exact ih

theorem allocSizes_append (a b : List SEvent) :
    allocSizes (a ++ b) = allocSizes a ++ allocSizes b := by
  induction a with
  | nil => rfl
  | cons x r ih => cases x <;> simp [allocSizes, ih]

theorem allocSizes_drops {α : Type} (l : List α) :
    allocSizes (l.map (fun _ => SEvent.dropChunk)) = [] := by
  induction l with
  | nil => rfl
  | cons x r ih => simp [allocSizes] at ih ⊢; exact ih

/-- Every `.create` is the spill or the merge of some insert. -/
theorem insert_creates {mf : MergeFn} {s s' : Sorter} {k v : Bytes} (hinv : Inv s.entries)
    (h : Sorter.insert mf s k v = .ok s') :
    creates s'.events = creates s.events + (spills s k v).toNat + (merges s k v).toNat := by
  rcases insert_cases hinv h with ⟨hsp, j, _, rfl⟩ | ⟨hsp, chunk, calls, j, _, hm⟩
  · simp [plainStep, creates_append, creates_realloc, hsp, merges]
  · rcases hm with ⟨hm, rfl⟩ | ⟨hm, merged, calls', rfl⟩
    · show creates (s.events ++ [.create] ++ reallocEvents s.entries.bufLen j) = _
      rw [creates_append, creates_append, creates_realloc, creates_one, hsp, hm]; rfl
    · show creates (s.events ++ [.create] ++ reallocEvents s.entries.bufLen j ++ [.create] ++
        (s.chunks ++ [chunk]).map (fun _ => SEvent.dropChunk)) = _
      rw [creates_append, creates_append, creates_append, creates_append, creates_realloc,
        creates_one, creates_drops, hsp, hm]; rfl

/-- The buffer size never exceeds any `X` above the first allocation, `2·budget` and four
    entry sizes. -/
theorem insert_buf {mf : MergeFn} {s s' : Sorter} {k v : Bytes} {X : Nat} (hinv : Inv s.entries)
    (h : Sorter.insert mf s k v = .ok s') (hT : 2 * s.cfg.budget ≤ X)
    (hM : 4 * entrySize k v ≤ X) (hb : s.entries.bufLen ≤ X) : s'.entries.bufLen ≤ X := by
  rcases insert_cases hinv h with ⟨hsp, j, g, rfl⟩ | ⟨hsp, chunk, calls, j, g, hm⟩
  · show s.entries.bufLen * 2 ^ j ≤ X
    rcases g.bound hinv with e | e | e
    · omega
    · by_cases hf : s.entries.used + entrySize k v ≤ s.entries.bufLen
      · have := g.eq_zero_of_fit hf; subst this; simpa using hb
      · simp only [spills, hf, decide_false, Bool.false_or, Bool.not_eq_false',
          Bool.and_eq_true, Bool.not_eq_true', decide_eq_false_iff_not] at hsp
        omega
    · omega
  · have key : s.entries.bufLen * 2 ^ j ≤ X := by
      have hu : s.entries.clear.used = 0 := rfl
      have hl : s.entries.clear.bufLen = s.entries.bufLen := rfl
      rcases g.least with rfl | this
      · simpa using hb
      · rw [hu, hl] at this
        omega
    rcases hm with ⟨_, rfl⟩ | ⟨_, merged, calls', rfl⟩
    · exact key
    · exact key

/-- With reallocation disabled and entries no larger than the buffer, the buffer is never
    reallocated. -/
theorem insert_noRealloc {mf : MergeFn} {s s' : Sorter} {k v : Bytes} (hinv : Inv s.entries)
    (h : Sorter.insert mf s k v = .ok s') (hr : s.cfg.allowRealloc = false)
    (hM : entrySize k v ≤ s.entries.bufLen) :
    s'.entries.bufLen = s.entries.bufLen ∧ allocSizes s'.events = allocSizes s.events := by
  rcases insert_cases hinv h with ⟨hsp, j, g, rfl⟩ | ⟨hsp, chunk, calls, j, g, hm⟩
  · have hf : s.entries.used + entrySize k v ≤ s.entries.bufLen := by
      simpa [spills, hr] using hsp
    have := g.eq_zero_of_fit hf; subst this
    simp [plainStep, reallocEvents, push]
  · have hf : s.entries.clear.used + entrySize k v ≤ s.entries.clear.bufLen := by
      show 0 + 16 * 0 + entrySize k v ≤ s.entries.bufLen
      omega
    have := g.eq_zero_of_fit hf; subst this
    rcases hm with ⟨_, rfl⟩ | ⟨_, merged, calls', rfl⟩
    · simp [spillStep, reallocEvents, allocSizes_append, allocSizes, Entries.clear, push]
    · simp [mergeStep, spillStep, reallocEvents, allocSizes_append, allocSizes, Entries.clear,
        allocSizes_drops, push]

theorem insert_no_trap {mf : MergeFn} {s : Sorter} {k v : Bytes} (hinv : Inv s.entries)
    (hk : k.length ≤ u32Max) (hv : v.length ≤ u32Max)
    (hT : s.cfg.allowRealloc = true → s.cfg.budget + entrySize k v ≤ 2 ^ 62 + 1) (t : Trap) :
    Sorter.insert mf s k v ≠ .error (.trap t) := by
  intro h
  have hes : entrySize k v ≤ 2 ^ 62 := by
    unfold entrySize boundSize; unfold u32Max at hk hv; omega
  unfold Sorter.insert at h
  rw [fits_eq hinv] at h
  simp only at h
  by_cases hc : (decide (s.entries.used + entrySize k v ≤ s.entries.bufLen) ||
      (!decide (s.entries.bufLen ≥ s.cfg.budget) && s.cfg.allowRealloc)) = true
  · rw [if_pos hc] at h
    have hsz : s.entries.used + entrySize k v ≤ s.entries.bufLen ∨
        s.entries.used + entrySize k v ≤ 2 ^ 62 := by
      by_cases hf : s.entries.used + entrySize k v ≤ s.entries.bufLen
      · exact .inl hf
      · right
        simp only [hf, decide_false, Bool.false_or, Bool.and_eq_true, Bool.not_eq_true',
          decide_eq_false_iff_not] at hc
        have := hT hc.2
        have : s.entries.used ≤ s.entries.bufLen := hinv.room
        omega
    obtain ⟨e', ev, hi⟩ := insert64_no_trap hinv k v hk hv hsz
    simp [hi] at h
  · rw [if_neg hc] at h
    cases hw : writeChunk mf s with
    | error e => simp [hw, (writeChunk_eq_error hw).1] at h
    | ok s1 =>
      simp only [hw] at h
      obtain ⟨chunk, calls, rfl⟩ := writeChunk_ok hw
      simp only at h
      have hsz : s.entries.clear.used + entrySize k v ≤ 2 ^ 62 := by
        show 0 + 16 * 0 + entrySize k v ≤ 2 ^ 62
        omega
      obtain ⟨e', ev, hi⟩ := insert64_no_trap hinv.clear k v hk hv (.inr hsz)
      simp only [hi] at h
      split at h
      · have := (mergeChunks_eq_error h).1; cases this
      · cases h

/-- With a live buffer `finishChunks` is the final spill followed by the release of the buffer. -/
theorem finishChunks_eq {mf : MergeFn} {s : Sorter} (hl : s.entries.live = true) :
    finishChunks mf s = match writeChunk mf s with
      | .error e => .error e
      | .ok s1 => .ok { s1 with entries := { s1.entries with live := false },
                                events := s1.events ++ [.dealloc s1.entries.bufLen] } := by
  unfold finishChunks
  cases hw : writeChunk mf s with
  | error e => rfl
  | ok s1 =>
    obtain ⟨chunk, calls, rfl⟩ := writeChunk_ok hw
    simp [Entries.drop, Entries.clear, hl]

theorem finishChunks_no_trap {mf : MergeFn} {s : Sorter} (hl : s.entries.live = true) (t : Trap) :
    finishChunks mf s ≠ .error (.trap t) := by
  intro h
  rw [finishChunks_eq hl] at h
  cases hw : writeChunk mf s with
  | error e =>
    rw [hw] at h
    cases h
    cases (writeChunk_eq_error hw).1
  | ok s1 => rw [hw] at h; cases h

/-- After the final spill the buffer is freed, every allocation has been released with its own
    size, and the live chunk handles are the ones returned. -/
theorem finishChunks_post {mf : MergeFn} {cfg : SCfg} {s s' : Sorter} (c : Core cfg s)
    (hl : s.chunks.length ≤ cfg.maxNb + 1) (h : finishChunks mf s = .ok s') :
    s'.entries.live = false ∧ allocRun .none s'.events = some .none ∧
    allocSizes s'.events = deallocSizes s'.events ∧
    chunkRun (cfg.maxNb + 2) 0 s'.events = some s'.chunks.length ∧
    s'.chunks.length = s.chunks.length + 1 ∧ creates s'.events = creates s.events + 1 := by
  rw [finishChunks_eq c.inv.live] at h
  cases hw : writeChunk mf s with
  | error e => rw [hw] at h; cases h
  | ok s1 =>
    rw [hw] at h
    obtain ⟨chunk, calls, rfl⟩ := writeChunk_ok hw
    cases h
    have ha : allocRun .none (s.events ++ [.create] ++ [.dealloc s.entries.bufLen]) =
        some .none := by
      rw [List.append_assoc, allocRun_append_of c.alloc]
      simp [allocRun, allocStep]
    refine ⟨rfl, ha, ?_, ?_, by simp, ?_⟩
    · have := allocRun_balanced ha
      simpa [AState.pending, Entries.clear] using this
    · show chunkRun _ 0 (s.events ++ [.create] ++ [.dealloc s.entries.bufLen]) = _
      rw [List.append_assoc, chunkRun_append_of c.chunk]
      have : s.chunks.length + 1 ≤ cfg.maxNb + 2 := by omega
      simp [chunkRun, this]
    · show creates (s.events ++ [.create] ++ [.dealloc s.entries.bufLen]) = _
      simp [creates]

/-! ### Progress with a total merge function -/

theorem writeChunk_total {mf : MergeFn} (hmf : ∀ k vs, (mf k vs).isSome) (s : Sorter) :
    ∃ s1, writeChunk mf s = .ok s1 := by
  unfold writeChunk writeChunkWith
  cases hg : mergeGroups mf (sortStable s.entries.items) none [] [] with
  | none => exact absurd hg (mergeGroups_ne_none mf hmf _ _ _ _)
  | some r => exact ⟨_, rfl⟩

/-- With a total merge function and a merger that terminates with a result (the subject of the
    merger properties), an insert that cannot trap succeeds. -/
theorem insert_total {mf : MergeFn} {s : Sorter} {k v : Bytes}
    (hmf : ∀ k vs, (mf k vs).isSome) (hrun : ∀ srcs, (Merger.run mf srcs).1.isSome)
    (hnt : ∀ t, Sorter.insert mf s k v ≠ .error (.trap t)) :
    ∃ s', Sorter.insert mf s k v = .ok s' := by
  cases h : Sorter.insert mf s k v with
  | ok s' => exact ⟨s', rfl⟩
  | error e =>
    exfalso
    rcases insert_err h with ⟨t, rfl, _⟩ | ⟨_, hg | ⟨s', _, hr⟩⟩
    · exact hnt t h
    · exact mergeGroups_ne_none mf hmf _ _ _ _ hg
    · have := hrun s'.chunks
      rw [hr] at this
      cases this

/-- States reachable by `Sorter.new cfg` followed by successful inserts of entries satisfying
    `P`; `sp` counts the inserts that spilled, `mg` those that also merged the chunks. -/
inductive Reach (mf : MergeFn) (cfg : SCfg) (P : Bytes → Bytes → Prop) :
    Sorter → Nat → Nat → Prop
  | new {s : Sorter} : Sorter.new cfg = .ok s → Reach mf cfg P s 0 0
  | insert {s s' : Sorter} {k v : Bytes} {sp mg : Nat} :
      Reach mf cfg P s sp mg → P k v → Sorter.insert mf s k v = .ok s' →
      Reach mf cfg P s' (sp + (spills s k v).toNat) (mg + (merges s k v).toNat)

theorem Reach.core {mf : MergeFn} {cfg : SCfg} {P : Bytes → Bytes → Prop} {s : Sorter}
    {sp mg : Nat} (r : Reach mf cfg P s sp mg) :
    Core cfg s ∧ s.chunks.length ≤ max (cfg.maxNb - 1) 1 ∧ creates s.events = sp + mg := by
  induction r with
  | new h =>
    refine ⟨core_new h, ?_, ?_⟩
    · obtain ⟨_, _, rfl⟩ := new_ok h; simp
    · obtain ⟨_, _, rfl⟩ := new_ok h; rfl
  | insert _ _ h ih =>
    obtain ⟨c, hl, hc⟩ := ih
    have ⟨c', hl'⟩ := core_insert c hl h
    exact ⟨c', hl', by rw [insert_creates c.inv h, hc]; omega⟩

theorem Reach.mono {mf : MergeFn} {cfg : SCfg} {P Q : Bytes → Bytes → Prop} {s : Sorter}
    {sp mg : Nat} (hPQ : ∀ k v, P k v → Q k v) (r : Reach mf cfg P s sp mg) :
    Reach mf cfg Q s sp mg := by
  induction r with
  | new h => exact .new h
  | insert _ hp h ih => exact .insert ih (hPQ _ _ hp) h

theorem Reach.buf {mf : MergeFn} {cfg : SCfg} {P : Bytes → Bytes → Prop} {s : Sorter}
    {sp mg : Nat} {X : Nat} (hcap : roundUp (cap0 cfg) ≤ X) (hT : 2 * cfg.budget ≤ X)
    (hP : ∀ k v, P k v → 4 * entrySize k v ≤ X) (r : Reach mf cfg P s sp mg) :
    s.entries.bufLen ≤ X := by
  induction r with
  | new h => obtain ⟨_, _, rfl⟩ := new_ok h; exact hcap
  | insert r0 hp h ih =>
    have c := r0.core.1
    exact insert_buf c.inv h (by rw [c.cfg_eq]; exact hT) (hP _ _ hp) ih

/-- With reallocation disabled the buffer keeps its first size and is never reallocated. -/
theorem Reach.noRealloc {mf : MergeFn} {cfg : SCfg} {P : Bytes → Bytes → Prop} {s : Sorter}
    {sp mg : Nat} (hr : cfg.allowRealloc = false)
    (hP : ∀ k v, P k v → entrySize k v ≤ roundUp cfg.budget) (r : Reach mf cfg P s sp mg) :
    s.entries.bufLen = roundUp cfg.budget ∧ allocSizes s.events = [roundUp cfg.budget] := by
  have hc : cap0 cfg = cfg.budget := by simp [cap0, hr]
  induction r with
  | new h => obtain ⟨_, _, rfl⟩ := new_ok h; simp [hc, allocSizes]
  | insert r0 hp h ih =>
    have c := r0.core.1
    have := insert_noRealloc c.inv h (by rw [c.cfg_eq]; exact hr) (by rw [ih.1]; exact hP _ _ hp)
    exact ⟨this.1.trans ih.1, this.2.trans ih.2⟩

/-- Insert a list of entries, stopping at the first error. -/
def insertAll (mf : MergeFn) : Sorter → List Entry → Except SErr Sorter
  | s, [] => .ok s
  | s, (k, v) :: r =>
    match Sorter.insert mf s k v with
    | .error e => .error e
    | .ok s' => insertAll mf s' r

/-- A complete use of the sorter: build it, insert `l`, optionally take the chunks out. -/
def program (mf : MergeFn) (cfg : SCfg) (l : List Entry) (fin : Bool) : Except SErr Sorter :=
  match Sorter.new cfg with
  | .error t => .error (.trap t)
  | .ok s =>
    match insertAll mf s l with
    | .error e => .error e
    | .ok s => if fin then finishChunks mf s else .ok s

/-- Induction over a list of inserts: `I` (indexed by what has been inserted so far) is kept by
    every successful insert, and an error satisfies `E`. -/
theorem insertAll_fold {mf : MergeFn} (I : List Entry → Sorter → Prop) (E : SErr → Prop) :
    ∀ (l pre : List Entry) (s : Sorter),
    (∀ pre' s' k v, (k, v) ∈ l → I pre' s' →
      match Sorter.insert mf s' k v with
      | .ok s'' => I (pre' ++ [(k, v)]) s''
      | .error e => E e) →
    I pre s →
    match Sorter.insertAll mf s l with
    | .ok s' => I (pre ++ l) s'
    | .error e => E e := by
  intro l
  induction l with
  | nil => intro pre s _ hs; simpa only [Sorter.insertAll, List.append_nil] using hs
  | cons kv l ih =>
    intro pre s step hs
    obtain ⟨k, v⟩ := kv
    have h1 := step pre s k v List.mem_cons_self hs
    simp only [Sorter.insertAll]
    cases hi : Sorter.insert mf s k v with
    | error e => rw [hi] at h1; exact h1
    | ok s1 =>
      rw [hi] at h1
      have := ih (pre ++ [(k, v)]) s1
        (fun pre' s' k' v' hm => step pre' s' k' v' (List.mem_cons_of_mem _ hm)) h1
      simpa only [List.append_assoc, List.singleton_append] using this

theorem Reach.insertAll {mf : MergeFn} {cfg : SCfg} {P : Bytes → Bytes → Prop} {s s' : Sorter}
    {sp mg : Nat} {l : List Entry} (r : Reach mf cfg P s sp mg) (hl : ∀ kv ∈ l, P kv.1 kv.2)
    (h : Sorter.insertAll mf s l = .ok s') : ∃ sp' mg', Reach mf cfg P s' sp' mg' := by
  have := insertAll_fold (fun _ s => ∃ sp mg, Reach mf cfg P s sp mg) (fun _ => True) l [] s
    (fun _ s1 k v hm ⟨_, _, r1⟩ => by
      cases hi : Sorter.insert mf s1 k v with
      | error e => trivial
      | ok s2 => exact ⟨_, _, r1.insert (hl (k, v) hm) hi⟩)
    ⟨sp, mg, r⟩
  rw [h] at this
  exact this

theorem program_reach {mf : MergeFn} {cfg : SCfg} {P : Bytes → Bytes → Prop} {s : Sorter}
    {l : List Entry} (hl : ∀ kv ∈ l, P kv.1 kv.2) (h : program mf cfg l false = .ok s) :
    ∃ sp mg, Reach mf cfg P s sp mg := by
  unfold program at h
  cases hn : Sorter.new cfg with
  | error t => simp [hn] at h
  | ok s0 =>
    simp only [hn] at h
    cases hi : Sorter.insertAll mf s0 l with
    | error e => simp [hi] at h
    | ok s1 =>
      simp only [hi, Bool.false_eq_true, if_false, Except.ok.injEq] at h
      subst h
      exact (Reach.new hn : Reach mf cfg P s0 0 0).insertAll hl hi

/-- Admissible lengths (the `assert!`s of `Entries::insert`). -/
def LenOk (k v : Bytes) : Prop := k.length ≤ u32Max ∧ v.length ≤ u32Max

/-- In a reachable state an insert with admissible lengths never traps; when reallocation is
    allowed the budget must leave room below `2^62`. -/
theorem Reach.insert_no_trap {mf : MergeFn} {cfg : SCfg} {P : Bytes → Bytes → Prop} {s : Sorter}
    {sp mg : Nat} (r : Reach mf cfg P s sp mg) {k v : Bytes} (hkv : LenOk k v)
    (hT : cfg.allowRealloc = true → cfg.budget ≤ 2 ^ 62 - 2 ^ 34) (t : Trap) :
    Sorter.insert mf s k v ≠ .error (.trap t) := by
  have c := r.core.1
  refine Sorter.insert_no_trap c.inv hkv.1 hkv.2 ?_ t
  rw [c.cfg_eq]
  intro ha
  have := hT ha
  have h1 := hkv.1; have h2 := hkv.2
  unfold entrySize boundSize; unfold u32Max at h1 h2; omega

theorem insertAll_no_trap {mf : MergeFn} {cfg : SCfg} {s : Sorter} {sp mg : Nat}
    (hT : cfg.allowRealloc = true → cfg.budget ≤ 2 ^ 62 - 2 ^ 34)
    (r : Reach mf cfg LenOk s sp mg) (l : List Entry) (hl : ∀ kv ∈ l, LenOk kv.1 kv.2) (t : Trap) :
    Sorter.insertAll mf s l ≠ .error (.trap t) := by
  have := insertAll_fold (fun _ s => ∃ sp mg, Reach mf cfg LenOk s sp mg) (fun e => e ≠ .trap t)
    l [] s
    (fun _ s1 k v hm ⟨_, _, r1⟩ => by
      cases hi : Sorter.insert mf s1 k v with
      | error e => exact fun he => r1.insert_no_trap (hl (k, v) hm) hT t (he ▸ hi)
      | ok s2 => exact ⟨_, _, r1.insert (hl (k, v) hm) hi⟩)
    ⟨sp, mg, r⟩
  intro h
  rw [h] at this
  exact this rfl

theorem program_no_trap (mf : MergeFn) (cfg : SCfg) (l : List Entry) (fin : Bool)
    (h0 : 0 < cap0 cfg) (h1 : cap0 cfg + 15 < 2 ^ 63)
    (hT : cfg.allowRealloc = true → cfg.budget ≤ 2 ^ 62 - 2 ^ 34)
    (hl : ∀ kv ∈ l, LenOk kv.1 kv.2) (t : Trap) :
    program mf cfg l fin ≠ .error (.trap t) := by
  obtain ⟨s0, hn⟩ := new_no_trap h0 h1
  have r0 : Reach mf cfg LenOk s0 0 0 := .new hn
  unfold program
  simp only [hn]
  cases hi : Sorter.insertAll mf s0 l with
  | error e =>
    simp only [ne_eq, Except.error.injEq]
    rintro rfl
    exact insertAll_no_trap hT r0 l hl t hi
  | ok s1 =>
    cases fin with
    | false => simp
    | true =>
      obtain ⟨sp, mg, r1⟩ := r0.insertAll hl hi
      simpa using finishChunks_no_trap r1.core.1.inv.live t

theorem insertAll_total {mf : MergeFn} {cfg : SCfg} {s : Sorter} {sp mg : Nat}
    (hmf : ∀ k vs, (mf k vs).isSome) (hrun : ∀ srcs, (Merger.run mf srcs).1.isSome)
    (hT : cfg.allowRealloc = true → cfg.budget ≤ 2 ^ 62 - 2 ^ 34)
    (r : Reach mf cfg LenOk s sp mg) (l : List Entry) (hl : ∀ kv ∈ l, LenOk kv.1 kv.2) :
    ∃ s', Sorter.insertAll mf s l = .ok s' := by
  have := insertAll_fold (fun _ s => ∃ sp mg, Reach mf cfg LenOk s sp mg) (fun _ => False) l [] s
    (fun _ s1 k v hm ⟨_, _, r1⟩ => by
      obtain ⟨s2, hi⟩ := insert_total hmf hrun (r1.insert_no_trap (hl (k, v) hm) hT)
      rw [hi]
      exact ⟨_, _, r1.insert (hl (k, v) hm) hi⟩)
    ⟨sp, mg, r⟩
  cases h : Sorter.insertAll mf s l with
  | ok s' => exact ⟨s', rfl⟩
  | error e => rw [h] at this; exact this.elim

/-- With a total merge function (and a merger that returns a result) a complete run succeeds. -/
theorem program_total (mf : MergeFn) (cfg : SCfg) (l : List Entry) (fin : Bool)
    (hmf : ∀ k vs, (mf k vs).isSome) (hrun : ∀ srcs, (Merger.run mf srcs).1.isSome)
    (h0 : 0 < cap0 cfg) (h1 : cap0 cfg + 15 < 2 ^ 63)
    (hT : cfg.allowRealloc = true → cfg.budget ≤ 2 ^ 62 - 2 ^ 34)
    (hl : ∀ kv ∈ l, LenOk kv.1 kv.2) : ∃ s, program mf cfg l fin = .ok s := by
  obtain ⟨s0, hn⟩ := new_no_trap h0 h1
  have r0 : Reach mf cfg LenOk s0 0 0 := .new hn
  obtain ⟨s1, hi⟩ := insertAll_total hmf hrun hT r0 l hl
  unfold program
  simp only [hn, hi]
  cases fin with
  | false => exact ⟨s1, by simp⟩
  | true =>
    obtain ⟨sp, mg, r1⟩ := r0.insertAll hl hi
    obtain ⟨s2, hw⟩ := writeChunk_total hmf s1
    exact ⟨_, by simp only [if_true]; rw [finishChunks_eq r1.core.1.inv.live, hw]⟩

end Sorter
end Grenad
