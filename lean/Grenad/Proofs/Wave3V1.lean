/-
  Grenad.Proofs.Wave3V1 — the byte-level reader over the blocks of a written file followed by
  *another* trailer (C10: the 21-byte version-1 record).

  The Assembly development (`Grenad.Proofs.Assembly`) reaches the file only through
  `ByteSim (storeOf log) load Rb`, i.e. through the loads at the offsets of the log.  Those blocks
  lie inside the block area `log.flatMap blockBytes`, so `Lay.loadBlock` reads them back whatever
  follows the block area (`byteSim_retrailer`).  Everything else is reuse:
  * `retrailer_main` — the re-trailered file simulates the specification cursor;
  * `Twin` — two byte-level readers over two such files, started from cursors with the same root
    and number of levels, stay related to the *same* abstract reader state, hence return the
    same result for every operation of every history (`twin_results`, `twin_scan`).
-/
import Grenad.Proofs.Assembly
import Grenad.Proofs.MetaProofs
import Grenad.Proofs.Wave3IO

namespace Grenad.Wave3

open Grenad Grenad.Assembly Grenad.TCursor Grenad.IterP

section
variable {cd : Codec} {cfg : WCfg} {es : List Entry} {file : Bytes} {log : List Emitted}

/-- The block area of a written file. -/
abbrev body (cd : Codec) (log : List Emitted) : Bytes :=
  log.flatMap (fun e => W.blockBytes cd e.raw)

/-- Layout of the written file, the parsed trailer, and the well-formedness of the tree. -/
theorem setting_layout (S : Setting cd cfg es file log) :
    ∃ root, root < (body cd log).length ∧
      file = body cd log ++ Meta.encode ⟨2, root, cd.id, es.length, cfg.levels⟩ ∧
      Lay cd log (body cd log) ∧
      Meta.parse file = .ok ⟨2, root, cd.id, es.length, cfg.levels⟩ ∧
      FileOK (storeOf log) root cfg.levels es := by
  obtain ⟨root, hok, hp⟩ := S.fileOK
  obtain ⟨-, hroot, hf⟩ := run_trailer S.H S.hrun S.hfile S.hcount S.hid hp
  obtain ⟨idx, out, r, -, hF, -⟩ := W.run_out S.H S.hrun
  have ho : out = body cd log := hF.lay.out_eq
  exact ⟨root, hroot, hf, ho ▸ hF.lay, hp, hok⟩

/-- The byte loader over the same blocks followed by *any* trailer `t` agrees with the abstract
    store of the log (same statement as `Setting.byteSim`, which is the case
    `t = Meta.encode ⟨2, …⟩`). -/
theorem byteSim_retrailer (S : Setting cd cfg es file log) (t : Bytes)
    (hlen : (body cd log ++ t).length < 2 ^ 64) :
    ByteSim (storeOf log) (loadCursor cd (body cd log ++ t)) (Rb cfg.interval log) := by
  obtain ⟨root, -, -, hlay, -, -⟩ := setting_layout S
  exact S.byteSim_of_loads _ (hlay.loadBlock S.H.lawful t hlen)

/-- Loads at the offsets of the log do not depend on the trailer. -/
theorem loadCursor_retrailer (S : Setting cd cfg es file log) (t : Bytes)
    (hlen : (body cd log ++ t).length < 2 ^ 64) {e : Emitted} (he : e ∈ log) :
    loadCursor cd (body cd log ++ t) e.offset = loadCursor cd file e.offset := by
  obtain ⟨root, -, hf, hlay, -, -⟩ := setting_layout S
  have h1 := hlay.loadBlock S.H.lawful t hlen e he
  have h2 := hlay.loadBlock S.H.lawful (Meta.encode ⟨2, root, cd.id, es.length, cfg.levels⟩)
    (by rw [← hf]; exact S.hfile) e he
  unfold loadCursor
  rw [h1, hf, h2]

/-- **The re-trailered file simulates the specification cursor** from any freshly opened cursor
    with the root offset and number of levels of the written file (same shape as
    `Setting.main`). -/
theorem retrailer_main (S : Setting cd cfg es file log) (t : Bytes)
    (hlen : (body cd log ++ t).length < 2 ^ 64) {m : Meta.Meta} (hm : Meta.parse file = .ok m)
    (m' : Meta.Meta) (hr : m'.root = m.root) (hl : m'.levels = cfg.levels) :
    ∃ (R : RC BlockCursor → Spec.Pos → Prop),
      Sim es (RC.step byteOps (loadCursor cd (body cd log ++ t)) true) R ∧ R (RC.new m') .fresh ∧
      (∀ c p, R c p → ∀ q c1,
        RC.step byteOps (loadCursor cd (body cd log ++ t)) true c (.le q) = (c1, .ok none) →
        ∃ c2 r, RC.step byteOps (loadCursor cd (body cd log ++ t)) true c1 .current = (c2, .ok r) ∧
          ∀ e, r = some e → e ∈ es) := by
  obtain ⟨root, -, -, -, hp, hok⟩ := setting_layout S
  rw [hm] at hp
  cases hp
  have B := byteSim_retrailer S t hlen
  refine ⟨RS (storeOf log) root cfg.levels es (Rb cfg.interval log), RS_sim hok B B.ops,
    RS_new hok _ _ hr hl, ?_⟩
  intro c p hR
  exact RS_lostCurrent hok B hR

end

/-! ### Two byte-level readers against one abstract reader -/

section
variable {s : Store} {load₁ load₂ : Nat → Option BlockCursor} {Rb : BlockCursor → LC → Prop}
  {root levels : Nat} {es : List Entry}

/-- Both byte-level states represent the same abstract state, which cannot fail. -/
def Twin (s : Store) (root levels : Nat) (es : List Entry) (Rb : BlockCursor → LC → Prop)
    (c₁ c₂ : RC BlockCursor) : Prop :=
  ∃ a, RCRel Rb c₁ a ∧ RCRel Rb c₂ a ∧ NE s root levels es a

theorem twin_step (h : FileOK s root levels es) (B₁ : ByteSim s load₁ Rb) (B₂ : ByteSim s load₂ Rb)
    {c₁ c₂ : RC BlockCursor} (hT : Twin s root levels es Rb c₁ c₂) (op : Op) :
    (RC.step byteOps load₁ true c₁ op).2 = (RC.step byteOps load₂ true c₂ op).2 ∧
    Twin s root levels es Rb (RC.step byteOps load₁ true c₁ op).1
      (RC.step byteOps load₂ true c₂ op).1 := by
  obtain ⟨a, r1, r2, hne⟩ := hT
  obtain ⟨n1, n2⟩ := NE_step h hne op
  obtain ⟨a1, a2⟩ := B₁.step B₁.ops r1 op n1
  obtain ⟨b1, b2⟩ := B₂.step B₂.ops r2 op n1
  exact ⟨by rw [a2, b2], _, a1, b1, n2⟩

theorem twin_new (h : FileOK s root levels es) (Rb : BlockCursor → LC → Prop)
    (m₁ m₂ : Meta.Meta) (hr₁ : m₁.root = root) (hl₁ : m₁.levels = levels)
    (hr₂ : m₂.root = root) (hl₂ : m₂.levels = levels) :
    Twin s root levels es Rb (RC.new m₁) (RC.new m₂) := by
  subst hr₁ hl₁
  refine ⟨RC.new m₁, RCRel_new Rb m₁, ⟨?_, ?_, rfl, trivial, trivial⟩, NE_c0 h⟩
  · exact hr₂
  · exact hl₂

/-- The results of a history, in order. -/
def results {γ : Type} (step' : γ → Op → γ × Res) : γ → List Op → List Res
  | _, [] => []
  | c, op :: ops => (step' c op).2 :: results step' (step' c op).1 ops

theorem runBothG_map_fst {γ : Type} (step' : γ → Op → γ × Res) (es : List Entry) (c : γ)
    (p : Spec.Pos) (ops : List Op) :
    (runBothG step' es c p ops).map Prod.fst = results step' c ops := by
  induction ops generalizing c p with
  | nil => rfl
  | cons op ops ih => simp only [runBothG, results, List.map_cons, ih]

/-- Same results for every operation of every history. -/
theorem twin_results (h : FileOK s root levels es) (B₁ : ByteSim s load₁ Rb)
    (B₂ : ByteSim s load₂ Rb) {c₁ c₂ : RC BlockCursor} (hT : Twin s root levels es Rb c₁ c₂)
    (ops : List Op) :
    results (RC.step byteOps load₁ true) c₁ ops = results (RC.step byteOps load₂ true) c₂ ops := by
  induction ops generalizing c₁ c₂ with
  | nil => rfl
  | cons op ops ih =>
    obtain ⟨h1, h2⟩ := twin_step h B₁ B₂ hT op
    simp only [results, h1, ih h2]

theorem twin_stateAfter (h : FileOK s root levels es) (B₁ : ByteSim s load₁ Rb)
    (B₂ : ByteSim s load₂ Rb) {c₁ c₂ : RC BlockCursor} (hT : Twin s root levels es Rb c₁ c₂)
    (ops : List Op) :
    Twin s root levels es Rb (stateAfter (RC.step byteOps load₁ true) c₁ ops)
      (stateAfter (RC.step byteOps load₂ true) c₂ ops) := by
  induction ops generalizing c₁ c₂ with
  | nil => exact hT
  | cons op ops ih => exact ih (twin_step h B₁ B₂ hT op).2

/-- Same scans of any length, in both directions (any repeated operation). -/
theorem twin_scan (h : FileOK s root levels es) (B₁ : ByteSim s load₁ Rb)
    (B₂ : ByteSim s load₂ Rb) {c₁ c₂ : RC BlockCursor} (hT : Twin s root levels es Rb c₁ c₂)
    (op : Op) (n : Nat) :
    scan (RC.step byteOps load₁ true) op n c₁ = scan (RC.step byteOps load₂ true) op n c₂ := by
  induction n generalizing c₁ c₂ with
  | zero => rfl
  | succ n ih =>
    obtain ⟨h1, h2⟩ := twin_step h B₁ B₂ hT op
    simp only [scan, h1, ih h2]

end

/-! ### The written file and its re-trailered twin -/

section
variable {cd : Codec} {cfg : WCfg} {es : List Entry} {file : Bytes} {log : List Emitted}

/-- The reader over the re-trailered file and the reader over the written file are twins. -/
theorem retrailer_twin (S : Setting cd cfg es file log) (t : Bytes)
    (hlen : (body cd log ++ t).length < 2 ^ 64) {m : Meta.Meta} (hm : Meta.parse file = .ok m)
    (m' : Meta.Meta) (hr : m'.root = m.root) (hl : m'.levels = cfg.levels) :
    ∃ root, FileOK (storeOf log) root cfg.levels es ∧
      ByteSim (storeOf log) (loadCursor cd (body cd log ++ t)) (Rb cfg.interval log) ∧
      ByteSim (storeOf log) (loadCursor cd file) (Rb cfg.interval log) ∧
      Twin (storeOf log) root cfg.levels es (Rb cfg.interval log) (RC.new m') (RC.new m) := by
  obtain ⟨root, -, -, -, hp, hok⟩ := setting_layout S
  rw [hm] at hp
  cases hp
  exact ⟨root, hok, byteSim_retrailer S t hlen, S.byteSim, twin_new hok _ _ _ hr hl rfl rfl⟩

/-- The version-1 trailer is one byte shorter than the version-2 trailer: the re-trailered file
    is below `2^64` bytes as well. -/
theorem v1_len (S : Setting cd cfg es file log) (root codec count : Nat) :
    (body cd log ++ Meta.encode ⟨1, root, codec, count, 0⟩).length < 2 ^ 64 := by
  obtain ⟨root', -, hf, -, -, -⟩ := setting_layout S
  have h := S.hfile
  rw [hf] at h
  have h1 : (Meta.encode ⟨1, root, codec, count, 0⟩).length = 21 := by
    simp [Meta.encode]
  have h2 : (Meta.encode ⟨2, root', cd.id, es.length, cfg.levels⟩).length = 22 :=
    WT.meta_encode_v2_length _ rfl
  simp only [List.length_append, h1, h2] at h ⊢
  omega

end

end Grenad.Wave3
