/-
  Frames and entry offsets (`offAt`, `offsetTable`), and the state of the block writer as a function
  of the entries inserted (`BW.Built`, `BW.Inv`, `BW.built_spec`).
-/
import Grenad.Proofs.Frame
import Grenad.Model.Abstract

set_option linter.unusedSimpArgs false

namespace Grenad

/-- The payload bytes of a list of entries. -/
def frames (es : List Entry) : Bytes := (es.map (fun e => BW.frame e.1 e.2)).flatten

/-- Byte offset of entry number `i`: sum of the frame lengths of the first `i` entries. -/
def offAt (es : List Entry) (i : Nat) : Nat :=
  ((es.take i).map (fun e => (BW.frame e.1 e.2).length)).sum

theorem frames_nil : frames [] = [] := rfl

theorem frames_append (a b : List Entry) : frames (a ++ b) = frames a ++ frames b := by
  simp [frames]

theorem frames_cons (e : Entry) (es : List Entry) :
    frames (e :: es) = BW.frame e.1 e.2 ++ frames es := by
  simp [frames]

theorem frames_singleton (e : Entry) : frames [e] = BW.frame e.1 e.2 := by
  simp [frames]

theorem offAt_eq_length (es : List Entry) (i : Nat) : offAt es i = (frames (es.take i)).length := by
  simp [offAt, frames, List.length_flatten, Function.comp_def]

@[simp] theorem offAt_zero (es : List Entry) : offAt es 0 = 0 := by
  simp [offAt]

theorem offAt_length (es : List Entry) : offAt es es.length = (frames es).length := by
  rw [offAt_eq_length, List.take_length]

theorem offAt_succ (es : List Entry) {i : Nat} (h : i < es.length) :
    offAt es (i + 1) = offAt es i + (BW.frame es[i].1 es[i].2).length := by
  unfold offAt
  rw [List.take_succ_eq_append_getElem h, List.map_append, List.sum_append]
  simp

theorem offAt_append_left (es es' : List Entry) {i : Nat} (h : i ≤ es.length) :
    offAt (es ++ es') i = offAt es i := by
  simp [offAt, List.take_append_of_le_length h]

theorem offAt_mono_le (es : List Entry) {i j : Nat} (hij : i ≤ j) (hj : j ≤ es.length) :
    offAt es i + 2 * (j - i) ≤ offAt es j := by
  induction j with
  | zero =>
    have : i = 0 := by omega
    subst this; simp
  | succ j ih =>
    rcases Nat.lt_or_ge i (j + 1) with h | h
    · have h1 := ih (by omega) (by omega)
      -- a frame holds at least its two length bytes
      have := encode32_length_bounds es[j].1.length
      have := encode32_length_bounds es[j].2.length
      rw [offAt_succ es (show j < es.length by omega), frame_length]; omega
    · have : i = j + 1 := by omega
      subst this; simp

theorem offAt_strictMono (es : List Entry) {i j : Nat} (hij : i < j) (hj : j ≤ es.length) :
    offAt es i < offAt es j := by
  have := offAt_mono_le es (Nat.le_of_lt hij) hj
  omega

theorem offAt_inj (es : List Entry) {i j : Nat} (hi : i ≤ es.length) (hj : j ≤ es.length)
    (h : offAt es i = offAt es j) : i = j := by
  rcases Nat.lt_trichotomy i j with h' | h' | h'
  · have := offAt_strictMono es h' hj; omega
  · exact h'
  · have := offAt_strictMono es h' hi; omega

theorem le_offAt (es : List Entry) {i : Nat} (hi : i ≤ es.length) : 2 * i ≤ offAt es i := by
  have := offAt_mono_le es (Nat.zero_le i) hi
  simp at this; omega

theorem length_le_frames (es : List Entry) : 2 * es.length ≤ (frames es).length := by
  rw [← offAt_length]; exact le_offAt es (Nat.le_refl _)

theorem frames_split (es : List Entry) {i : Nat} (h : i < es.length) :
    frames es = frames (es.take i) ++ BW.frame es[i].1 es[i].2 ++ frames (es.drop (i + 1)) := by
  have : es = es.take i ++ es[i] :: es.drop (i + 1) := by
    simp
  conv => lhs; rw [this]
  rw [frames_append, frames_cons, List.append_assoc]

/-- The offset table of a block holding `es`, written with interval `iv`:
    the offsets of entries number `0, iv, 2·iv, …` (`[0]` for the empty block). -/
def offsetTable (iv : Nat) (es : List Entry) : List Nat :=
  (List.range ((es.length - 1) / iv + 1)).map (fun j => offAt es (j * iv))

theorem offsetTable_nil (iv : Nat) : offsetTable iv [] = [0] := by
  simp [offsetTable, List.range_succ]

namespace BW

/-- `w` is obtained from `BW.new iv` by inserting the entries `es` in order (no trap). -/
inductive Built (iv : Nat) : List Entry → BW → Prop where
  | nil : Built iv [] (BW.new iv)
  | snoc {es : List Entry} {w w' : BW} {k v : Bytes} :
      Built iv es w → w.insert k v = .ok w' → Built iv (es ++ [(k, v)]) w'

/-- Everything the writer state is, as a function of the inserted entries. -/
structure Inv (iv : Nat) (es : List Entry) (w : BW) : Prop where
  items : w.items = es
  buffer : w.buffer = frames es
  lastKey : w.lastKey = es.getLast?.map (·.1)
  interval : w.interval = iv
  cnt : ∃ q, es.length = q * iv + w.counter ∧ w.counter ≤ iv ∧ (es ≠ [] → 1 ≤ w.counter) ∧
    w.offsets = (List.range (q + 1)).map (fun j => offAt es (j * iv))
  asc : StrictAsc es
  lens : ∀ e ∈ es, e.1.length < 2^32 ∧ e.2.length < 2^32

theorem strictAsc_lt_last {es : List Entry} (h : StrictAsc es) {lk : Bytes}
    (hl : es.getLast?.map (·.1) = some lk) : ∀ e ∈ es, e.1 ≤ lk := by
  intro e he
  rcases List.eq_nil_or_concat es with h0 | ⟨init, lst, h1⟩
  · subst h0; simp at he
  · subst h1
    rw [List.concat_eq_append] at h he hl
    simp at hl
    subst hl
    simp only [StrictAsc, List.pairwise_append] at h
    simp at he
    rcases he with he | he
    · exact Std.le_of_lt (h.2.2 e he lst (by simp))
    · subst he; exact Std.le_refl _

theorem offs_congr (es es' : List Entry) (q iv : Nat) (h : q * iv ≤ es.length) :
    (List.range (q + 1)).map (fun j => offAt (es ++ es') (j * iv))
      = (List.range (q + 1)).map (fun j => offAt es (j * iv)) := by
  apply List.map_congr_left
  intro j hj
  have hj' : j ≤ q := by simp at hj; omega
  have := Nat.mul_le_mul_right iv hj'
  exact offAt_append_left es es' (by omega)

theorem Inv.step {iv : Nat} {es : List Entry} {w w' : BW} {k v : Bytes} (hiv : 1 ≤ iv)
    (h : Inv iv es w) (hi : w.insert k v = .ok w') : Inv iv (es ++ [(k, v)]) w' := by
  rw [insert_ok_iff] at hi
  obtain ⟨hk, hv, hlk, rfl⟩ := hi
  obtain ⟨q, hq1, hq2, hq3, hq4⟩ := h.cnt
  have hint := h.interval
  have hall : ∀ e ∈ es, e.1 < k := by
    intro e he
    cases hl : w.lastKey with
    | none =>
      rw [h.lastKey] at hl
      simp at hl
      subst hl; simp at he
    | some lk =>
      have h1 := strictAsc_lt_last h.asc (by rw [← h.lastKey]; exact hl) e he
      exact Std.lt_of_le_of_lt h1 (hlk lk hl)
  refine ⟨?_, ?_, ?_, ?_, ?_, ?_, ?_⟩
  · simp [pushed, h.items]
  · simp [pushed, h.buffer, frames_append, frames_singleton]
  · simp [pushed]
  · simp [pushed, h.interval]
  · by_cases hc : w.counter = w.interval
    · refine ⟨q + 1, ?_, ?_, ?_, ?_⟩
      · simp [pushed, hc, Nat.succ_mul]; omega
      · simp [pushed, hc]; omega
      · simp [pushed, hc]
      · have hn : (q + 1) * iv = es.length := by rw [Nat.succ_mul]; omega
        simp only [pushed, hc, if_true]
        rw [List.range_succ (n := q + 1), List.map_append, offs_congr es _ q iv (by omega), ← hq4]
        simp [hn, offAt_append_left, offAt_length, h.buffer]
    · refine ⟨q, ?_, ?_, ?_, ?_⟩
      · simp [pushed, hc]; omega
      · simp [pushed, hc]; omega
      · simp [pushed, hc]
      · simp only [pushed, hc, if_false]
        rw [offs_congr es _ q iv (by omega), ← hq4]
  · simp only [StrictAsc, List.pairwise_append]
    refine ⟨h.asc, by simp, ?_⟩
    intro a ha b hb
    simp at hb; subst hb
    exact hall a ha
  · intro e he
    simp at he
    rcases he with he | he
    · exact h.lens e he
    · subst he; exact ⟨hk, hv⟩

theorem Built.inv {iv : Nat} {es : List Entry} {w : BW} (hiv : 1 ≤ iv) (h : Built iv es w) :
    Inv iv es w := by
  induction h with
  | nil => exact ⟨rfl, rfl, rfl, rfl, ⟨0, by simp [BW.new]⟩, by simp [StrictAsc], by simp⟩
  | snoc _ hi ih => exact ih.step hiv hi

/-- Number of offset-table entries minus one. -/
theorem Inv.q_eq {iv : Nat} {es : List Entry} {w : BW} (hiv : 1 ≤ iv) {q : Nat}
    (h1 : es.length = q * iv + w.counter) (h2 : w.counter ≤ iv) (h3 : es ≠ [] → 1 ≤ w.counter) :
    (es.length - 1) / iv = q := by
  apply Nat.div_eq_of_lt_le
  · rcases es with _ | ⟨e, es⟩
    · simp at h1 ⊢; omega
    · have := h3 (by simp); simp at h1 ⊢; omega
  · rw [Nat.succ_mul]
    rcases es with _ | ⟨e, es⟩
    · simp at h1 ⊢; omega
    · have := h3 (by simp); simp at h1 ⊢; omega

theorem Inv.offsets_eq {iv : Nat} {es : List Entry} {w : BW} (hiv : 1 ≤ iv) (h : Inv iv es w) :
    w.offsets = offsetTable iv es := by
  obtain ⟨q, h1, h2, h3, h4⟩ := h.cnt
  rw [offsetTable, Inv.q_eq hiv h1 h2 h3, h4]

theorem Inv.counter_eq {iv : Nat} {es : List Entry} {w : BW} (hiv : 1 ≤ iv) (h : Inv iv es w) :
    w.counter = if es = [] then 0 else (es.length - 1) % iv + 1 := by
  obtain ⟨q, h1, h2, h3, h4⟩ := h.cnt
  have hq := Inv.q_eq hiv h1 h2 h3
  have hdm := Nat.div_add_mod (es.length - 1) iv
  rw [hq, Nat.mul_comm] at hdm
  rcases es with _ | ⟨e, es⟩
  · simp at h1 ⊢; omega
  · have := h3 (by simp); simp at h1 hdm ⊢; omega

def insertAll (w : BW) : List Entry → Except Trap BW
  | [] => .ok w
  | (k, v) :: es =>
    match w.insert k v with
    | .ok w' => insertAll w' es
    | .error t => .error t

theorem Built.insertAll {iv : Nat} {es : List Entry} :
    ∀ {es0 : List Entry} {w w' : BW}, Built iv es0 w → w.insertAll es = .ok w' →
      Built iv (es0 ++ es) w' := by
  induction es with
  | nil => intro es0 w w' hb h; simp [BW.insertAll] at h; subst h; simpa using hb
  | cons e es ih =>
    intro es0 w w' hb h
    obtain ⟨k, v⟩ := e
    simp only [BW.insertAll] at h
    cases hi : w.insert k v with
    | error t => rw [hi] at h; simp at h
    | ok w1 =>
      rw [hi] at h
      have := ih (Built.snoc hb hi) h
      simpa [List.append_assoc] using this

theorem insertAll_append (w : BW) (a b : List Entry) :
    w.insertAll (a ++ b) = match w.insertAll a with
      | .ok w' => w'.insertAll b
      | .error t => .error t := by
  induction a generalizing w with
  | nil => simp [insertAll]
  | cons e a ih =>
    obtain ⟨k, v⟩ := e
    simp only [List.cons_append, insertAll]
    cases w.insert k v with
    | error t => simp
    | ok w1 => simp [ih]

theorem built_iff_insertAll {iv : Nat} {es : List Entry} {w : BW} :
    Built iv es w ↔ (BW.new iv).insertAll es = .ok w := by
  constructor
  · intro h
    induction h with
    | nil => rfl
    | snoc _ hi ih => rw [insertAll_append, ih]; simp [insertAll, hi]
  · intro h
    simpa using Built.insertAll (es0 := []) Built.nil h

/-- The inserts succeed (no trap) on strictly ascending entries with 32-bit lengths. -/
theorem insertAll_ok {iv : Nat} (hiv : 1 ≤ iv) {es : List Entry} :
    ∀ {es0 : List Entry} {w : BW}, Built iv es0 w → StrictAsc (es0 ++ es) →
      (∀ e ∈ es, e.1.length < 2^32 ∧ e.2.length < 2^32) → ∃ w', w.insertAll es = .ok w' := by
  induction es with
  | nil => intro es0 w _ _ _; exact ⟨w, rfl⟩
  | cons e es ih =>
    intro es0 w hb hasc hl
    obtain ⟨k, v⟩ := e
    have hinv := hb.inv hiv
    have hins : w.insert k v = .ok (w.pushed k v) := by
      rw [insert_ok_iff]
      refine ⟨(hl (k, v) (by simp)).1, (hl (k, v) (by simp)).2, ?_, rfl⟩
      intro lk hlk
      rw [hinv.lastKey] at hlk
      rw [Option.map_eq_some_iff] at hlk
      obtain ⟨a, ha, hak⟩ := hlk
      subst hak
      have ha' : a ∈ es0 := List.mem_of_getLast? ha
      simp only [StrictAsc, List.pairwise_append] at hasc
      exact hasc.2.2 _ ha' (k, v) (by simp)
    have hb' := Built.snoc hb hins
    have := ih hb' (by simpa [List.append_assoc] using hasc) (fun e he => hl e (by simp [he]))
    simpa [insertAll, hins] using this

/-- **T-block, writer side.**  For `1 ≤ iv`, strictly ascending keys and 32-bit lengths the
    inserts succeed, and the resulting state is the stated function of the entries. -/
theorem built_spec {iv : Nat} (hiv : 1 ≤ iv) {es : List Entry} {w : BW} (h : Built iv es w) :
    w.items = es ∧
    w.buffer = (es.map (fun e => BW.frame e.1 e.2)).flatten ∧
    w.lastKey = es.getLast?.map (·.1) ∧
    w.interval = iv ∧
    w.offsets = offsetTable iv es ∧
    w.counter = (if es = [] then 0 else (es.length - 1) % iv + 1) ∧
    w.sizeEstimate = offAt es es.length + ((es.length - 1) / iv + 1) * 8 + 4 ∧
    StrictAsc es ∧ (∀ e ∈ es, e.1.length < 2^32 ∧ e.2.length < 2^32) := by
  have hi := h.inv hiv
  refine ⟨hi.items, hi.buffer, hi.lastKey, hi.interval, hi.offsets_eq hiv, hi.counter_eq hiv, ?_,
    hi.asc, hi.lens⟩
  simp [sizeEstimate, hi.offsets_eq hiv, hi.buffer, offAt_length, offsetTable]

theorem insertAll_succeeds {iv : Nat} (hiv : 1 ≤ iv) {es : List Entry} (hasc : StrictAsc es)
    (hl : ∀ e ∈ es, e.1.length < 2^32 ∧ e.2.length < 2^32) :
    ∃ w, (BW.new iv).insertAll es = .ok w ∧ Built iv es w := by
  obtain ⟨w, hw⟩ := insertAll_ok hiv (es := es) Built.nil (by simpa using hasc) hl
  exact ⟨w, hw, built_iff_insertAll.mpr hw⟩

end BW

end Grenad
