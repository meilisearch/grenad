/-
  Invariants of the SSTable writer over its ghost log of emitted blocks (for C18 and C15): what
  does not depend on `W.Inv` — the insert loop split at a trap, and that a run depends on the
  configuration only through `clamped`, `interval`, `levels`.
-/
import Grenad.Proofs.WriterInvFinish

namespace Grenad

open BW

/-- `Except` has no decidable equality; a concrete successful result is compared through
    `toOption`, where the kernel can evaluate the comparison. -/
theorem eq_ok_of_toOption {ε α : Type} {x : Except ε α} {a : α} (h : x.toOption = some a) :
    x = .ok a := by
  cases x with
  | error e => cases h
  | ok b => cases h; rfl

theorem BW.Reach.eq_new_of_items_nil {iv : Nat} {w : BW} (h : Reach iv w) (he : w.items = []) :
    w = BW.new iv := by
  cases h with
  | new => rfl
  | step _ hi =>
    rw [insert_items hi] at he
    simp at he

namespace W

theorem go_append (cd : Codec) : ∀ (a b : List Entry) (w : W),
    W.run.go cd w (a ++ b) = match W.run.go cd w a with
      | .error t => .error t
      | .ok w' => W.run.go cd w' b := by
  intro a
  induction a with
  | nil => intro b w; rfl
  | cons kv rest ih =>
    intro b w
    obtain ⟨k, v⟩ := kv
    simp only [List.cons_append, W.run.go]
    cases W.insert cd w k v with
    | error t => rfl
    | ok w' => exact ih b w'

theorem go_error_split (cd : Codec) : ∀ (kvs : List Entry) (w : W) (t : Trap),
    W.run.go cd w kvs = .error t →
    ∃ pre k v post w', kvs = pre ++ (k, v) :: post ∧ W.run.go cd w pre = .ok w' ∧
      W.insert cd w' k v = .error t := by
  intro kvs
  induction kvs with
  | nil => intro w t h; cases h
  | cons kv rest ih =>
    intro w t h
    obtain ⟨k, v⟩ := kv
    simp only [W.run.go] at h
    cases hin : W.insert cd w k v with
    | error t' =>
      rw [hin] at h
      injection h with h
      subst h
      exact ⟨[], k, v, rest, w, rfl, rfl, hin⟩
    | ok w1 =>
      rw [hin] at h
      obtain ⟨pre, k', v', post, w', hsplit, hgo, hins⟩ := ih w1 t h
      refine ⟨(k, v) :: pre, k', v', post, w', by rw [hsplit]; rfl, ?_, hins⟩
      simp only [W.run.go, hin]
      exact hgo

theorem insert_cfg (cd : Codec) (w : W) (c' : WCfg) (k v : Bytes) (h : c'.clamped = w.cfg.clamped) :
    W.insert cd { w with cfg := c' } k v
      = (W.insert cd w k v).map (fun w' => { w' with cfg := c' }) := by
  unfold W.insert
  simp only [h]
  cases w.bw.insert k v with
  | error t => rfl
  | ok bw =>
    simp only
    split
    · cases bw.lastKey with
      | none => rfl
      | some lk =>
        simp only
        cases w.idx[w.idx.length - 1]? with
        | none => rfl
        | some li =>
          simp only
          cases li.insert lk (be64 w.out.length) with
          | error t => rfl
          | ok li' =>
            simp only
            cases cutLevels cd w.cfg.clamped (w.idx.length - 1) (w.idx.set (w.idx.length - 1) li')
              (w.out ++ blockBytes cd bw.finish)
              (w.log ++ [{ offset := w.out.length, level := 0, raw := bw.finish, items := bw.items }]) with
            | error t => rfl
            | ok r => rfl
    · rfl

theorem insert_cfg_eq (cd : Codec) (w w' : W) (k v : Bytes) (h : W.insert cd w k v = .ok w') :
    w'.cfg = w.cfg := by
  have := insert_cfg cd w w.cfg k v rfl
  rw [show ({ w with cfg := w.cfg } : W) = w from rfl, h] at this
  injection this with this
  rw [this]

theorem go_cfg (cd : Codec) (c' : WCfg) : ∀ (kvs : List Entry) (w : W), c'.clamped = w.cfg.clamped →
    W.run.go cd { w with cfg := c' } kvs = (W.run.go cd w kvs).map (fun w' => { w' with cfg := c' }) := by
  intro kvs
  induction kvs with
  | nil => intro w _; rfl
  | cons kv rest ih =>
    intro w h
    obtain ⟨k, v⟩ := kv
    simp only [W.run.go, insert_cfg cd w c' k v h]
    cases hin : W.insert cd w k v with
    | error t => rfl
    | ok w1 =>
      simp only [Except.map]
      exact ih w1 (by rw [insert_cfg_eq cd w w1 k v hin]; exact h)

/-- Two configurations with the same clamped block size, key interval and level count produce the
    same file and the same log. -/
theorem run_cfg_indep (cd : Codec) (c1 c2 : WCfg) (kvs : List Entry)
    (hB : c1.clamped = c2.clamped) (hi : c1.interval = c2.interval) (hl : c1.levels = c2.levels) :
    W.run cd c1 kvs = W.run cd c2 kvs := by
  have hnew : W.new c1 = { W.new c2 with cfg := c1 } := by simp [W.new, hi, hl]
  unfold W.run
  rw [hnew, go_cfg cd c1 kvs (W.new c2) hB]
  cases W.run.go cd (W.new c2) kvs with
  | error t => rfl
  | ok w => rfl

end W
end Grenad
