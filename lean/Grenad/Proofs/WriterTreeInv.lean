/-
  T-writer: the tree invariant `TInv` of the index writers and its preservation by the
  elementary steps (`cutAt`, `dataAt`, `rootAt`).
-/
import Grenad.Proofs.WriterTreeSub
import Grenad.Proofs.WriterEq

namespace Grenad

open WT

/-- Invariant of `(idx, out, log)`: `content` is the concatenation, root level first, of the leaf
    content below the pending entries of each index writer; every pending entry points to an
    already emitted well-formed subtree. -/
structure TInv (cd : Codec) (iv n : Nat) (content : List Entry) (s : WSt) : Prop where
  len : s.1.length = n
  lay : Lay cd s.2.2 s.2.1
  logok : ∀ e ∈ s.2.2, ∃ w, BW.Made iv w ∧ e.raw = w.finish ∧ e.items = w.items
  tree : ∃ K : List Kids, K.length = n ∧ content = (K.map flatOf).flatten ∧
    ∀ j w, s.1[j]? = some w → BW.Made iv w ∧ ∃ ks, K[j]? = some ks ∧ w.items = img ks ∧
      ∀ k ∈ ks, Sub (storeOf s.2.2) (lvlOf s.2.2) (n - j - 1) k.1 k.2

theorem WT.u32Max_of_lt {n : Nat} (h : n < 2 ^ 32) : n ≤ u32Max := by
  unfold u32Max; omega

theorem TInv.init (cd : Codec) (iv n : Nat) :
    TInv cd iv n [] (List.replicate n (BW.new iv), [], []) := by
  refine ⟨by simp, Lay.nil, by simp, List.replicate n [], by simp, ?_, ?_⟩
  · symm; rw [List.flatten_eq_nil_iff]; intro l hl; simp at hl; exact hl.2
  · intro j w hj
    simp only at hj
    obtain ⟨hj', hw⟩ := List.getElem?_eq_some_iff.mp hj
    simp at hj' hw
    subst hw
    refine ⟨BW.Made.new, [], ?_, rfl, by simp⟩
    simp [hj']

theorem pending_facts {iv n : Nat} {idx : List BW} {log : List Emitted} {K : List Kids}
    (htree : ∀ (j : Nat) (w : BW), idx[j]? = some w → BW.Made iv w ∧ ∃ ks, K[j]? = some ks ∧
        w.items = img ks ∧ ∀ k ∈ ks, Sub (storeOf log) (lvlOf log) (n - j - 1) k.1 k.2)
    {j : Nat} {w : BW} {ks : Kids} {lk : Bytes} (hw : idx[j]? = some w) (hK : K[j]? = some ks)
    (hlk : w.lastKey = some lk) :
    ks ≠ [] ∧ (∀ k ∈ ks, k.2 ≠ []) ∧ lk = lastKey (flatOf ks) ∧ w.items ≠ [] := by
  obtain ⟨rw', ks', hK', hi, hs'⟩ := htree j w hw
  rw [hK] at hK'; cases hK'
  obtain ⟨hne, hlkeq⟩ := rw'.lastKey_some hlk
  have hks : ks ≠ [] := by intro h0; rw [h0] at hi; exact hne hi
  have hfl : ∀ k ∈ ks, k.2 ≠ [] := fun k hk => TCursor.Sub.flat_ne (hs' k hk)
  exact ⟨hks, hfl, by rw [hlkeq, hi, lastKey_img hks hfl], hne⟩

theorem TInv.cut {cd : Codec} {iv n : Nat} {content : List Entry} (hasc : StrictAsc content)
    (hkeys : ∀ e ∈ content, e.1.length < 2 ^ 32)
    {i : Nat} {idx : List BW} {out : Bytes} {log : List Emitted} {cur parent : BW} {lk : Bytes}
    (h : TInv cd iv n content (idx, out, log))
    (hc : idx[i + 1]? = some cur) (hp : idx[i]? = some parent) (hlk : cur.lastKey = some lk) :
    ∃ p', parent.insert lk (be64 out.length) = .ok p' ∧
      TInv cd iv n content (cutAt cd i cur p' (idx, out, log)) := by
  obtain ⟨hlen, hlay, hlog, K, hKl, hcont, htree⟩ := h
  simp only at hlen hlay hlog htree
  obtain ⟨rcur, ks1, hK1, hi1, hs1⟩ := htree _ _ hc
  obtain ⟨rpar, ks0, hK0, hi0, hs0⟩ := htree _ _ hp
  obtain ⟨hks1, hfl1, hlk', hne⟩ := pending_facts htree hc hK1 hlk
  obtain ⟨b, hb, hbk⟩ := TCursor.lastKey_mem (flatOf_ne_nil hks1 hfl1)
  have hbc : b ∈ content := by rw [hcont]; exact mem_content hK1 hb
  have hklen : lk.length ≤ u32Max := by
    apply u32Max_of_lt; have := hkeys b hbc; rw [hbk, ← hlk'] at this; exact this
  have hord : ∀ plk, parent.lastKey = some plk → plk < lk := by
    intro plk hplk
    obtain ⟨hks0, hfl0, hplk', -⟩ := pending_facts htree hp hK0 hplk
    obtain ⟨a, ha, hak⟩ := TCursor.lastKey_mem (flatOf_ne_nil hks0 hfl0)
    have := content_order (hcont ▸ hasc) hK0 hK1 (Nat.lt_succ_self i) ha hb
    rw [hplk', ← hak, hlk', ← hbk]; exact this
  obtain ⟨p', hp'⟩ := BW.insert_total parent (v := be64 out.length) hklen (by simp [u32Max]) hord
  refine ⟨p', hp', ?_⟩
  have s1 := BW.insert_items hp'
  have hin : i + 1 < n := by
    obtain ⟨h', -⟩ := List.getElem?_eq_some_iff.mp hc; omega
  obtain ⟨hst, hlv⟩ := hlay.store_snoc ⟨out.length, idx.length - (i + 1), cur.finish, cur.items⟩ rfl
  simp only at hst hlv
  have hsubnew : Sub (storeOf (log ++ [⟨out.length, idx.length - (i + 1), cur.finish, cur.items⟩])) (lvlOf (log ++ [⟨out.length, idx.length - (i + 1), cur.finish, cur.items⟩]))
        (n - i - 1) out.length (flatOf ks1) := by
    have : n - i - 1 = (n - (i + 1) - 1) + 1 := by omega
    rw [this]
    apply Sub.node _ _ ks1 hks1
    · rw [hst, hi1]; rfl
    · rw [hlv, hlen]; omega
    · intro k hk; exact (hs1 k hk).mono_append _
  refine ⟨by simp [cutAt, hlen], Lay.snoc _ hlay rfl, ?_,
    (K.set i (ks0 ++ [(out.length, flatOf ks1)])).set (i + 1) [], by simp [hKl], ?_, ?_⟩
  · intro e' he'
    simp only [cutAt, List.mem_append, List.mem_singleton] at he'
    rcases he' with he' | rfl
    · exact hlog e' he'
    · exact ⟨cur, rcur, rfl, rfl⟩
  · rw [flatten_move K i ks0 ks1 _ hK0 hK1]; exact hcont
  · intro j w hj
    simp only [cutAt] at hj ⊢
    rcases getElem?_set_set hj with ⟨rfl, rfl⟩ | ⟨rfl, rfl⟩ | ⟨hj0, hj1, hj⟩
    · rw [rcur.reach.reset_eq]
      refine ⟨BW.Made.new, [], ?_, rfl, by simp⟩
      rw [List.getElem?_set_self (by simp; omega)]
    · refine ⟨BW.Made.insert rpar hp', ks0 ++ [(out.length, flatOf ks1)], ?_, ?_, ?_⟩
      · rw [List.getElem?_set_ne (by omega), List.getElem?_set_self (by omega)]
      · rw [s1, hi0, img_append, img_singleton, hlk']
      · intro k hk
        rcases List.mem_append.mp hk with hk | hk
        · exact (hs0 k hk).mono_append _
        · simp only [List.mem_singleton] at hk; subst hk; exact hsubnew
    · obtain ⟨rw', ks, hK', hi', hs'⟩ := htree j w hj
      refine ⟨rw', ks, ?_, hi', fun k hk => (hs' k hk).mono_append _⟩
      rw [List.getElem?_set_ne (by omega), List.getElem?_set_ne (by omega)]; exact hK'

theorem TInv.data {cd : Codec} {iv n : Nat} {content : List Entry} {bw : BW}
    (hasc : StrictAsc (content ++ bw.items))
    (hkeys : ∀ e ∈ content ++ bw.items, e.1.length < 2 ^ 32)
    {idx : List BW} {out : Bytes} {log : List Emitted} {parent : BW} {lk : Bytes}
    (h : TInv cd iv n content (idx, out, log)) (rbw : BW.Made iv bw)
    (hp : idx[n - 1]? = some parent) (hlk : bw.lastKey = some lk) :
    ∃ p', parent.insert lk (be64 out.length) = .ok p' ∧
      TInv cd iv n (content ++ bw.items) (dataAt cd (n - 1) bw p' (idx, out, log)) := by
  obtain ⟨hlen, hlay, hlog, K, hKl, hcont, htree⟩ := h
  simp only at hlen hlay hlog htree
  obtain ⟨rpar, ks0, hK0, hi0, hs0⟩ := htree _ _ hp
  obtain ⟨hne, hlkeq⟩ := rbw.lastKey_some hlk
  obtain ⟨b, hb, hbk⟩ := TCursor.lastKey_mem hne
  have hklen : lk.length ≤ u32Max := by
    apply u32Max_of_lt
    have := hkeys b (List.mem_append_right _ hb); rw [hbk, ← hlkeq] at this; exact this
  have hord : ∀ plk, parent.lastKey = some plk → plk < lk := by
    intro plk hplk
    obtain ⟨hks0, hfl0, hplk', -⟩ := pending_facts htree hp hK0 hplk
    obtain ⟨a, ha, hak⟩ := TCursor.lastKey_mem (flatOf_ne_nil hks0 hfl0)
    have hac : a ∈ content := by rw [hcont]; exact mem_content hK0 ha
    have := hasc.lt_of_append hac hb
    rw [hplk', ← hak, hlkeq, ← hbk]; exact this
  obtain ⟨p', hp'⟩ := BW.insert_total parent (v := be64 out.length) hklen (by simp [u32Max]) hord
  refine ⟨p', hp', ?_⟩
  have s1 := BW.insert_items hp'
  have hn : 0 < n := by
    obtain ⟨h', -⟩ := List.getElem?_eq_some_iff.mp hp; omega
  obtain ⟨hst, hlv⟩ := hlay.store_snoc ⟨out.length, 0, bw.finish, bw.items⟩ rfl
  simp only at hst hlv
  have hsubnew : Sub (storeOf (log ++ [⟨out.length, 0, bw.finish, bw.items⟩])) (lvlOf (log ++ [⟨out.length, 0, bw.finish, bw.items⟩]))
        (n - (n - 1) - 1) out.length bw.items := by
    have : n - (n - 1) - 1 = 0 := by omega
    rw [this]
    exact Sub.leaf _ _ hst hne hlv
  refine ⟨by simp [dataAt, hlen], Lay.snoc _ hlay rfl, ?_,
    K.set (n - 1) (ks0 ++ [(out.length, bw.items)]), by simp [hKl], ?_, ?_⟩
  · intro e' he'
    simp only [dataAt, List.mem_append, List.mem_singleton] at he'
    rcases he' with he' | rfl
    · exact hlog e' he'
    · exact ⟨bw, rbw, rfl, rfl⟩
  · rw [flatten_push K (n - 1) ks0 _ hK0 (by omega), hcont]
  · intro j w hj
    simp only [dataAt] at hj ⊢
    by_cases hj0 : j = n - 1
    · subst hj0
      rw [List.getElem?_set_self (by omega)] at hj
      cases hj
      refine ⟨BW.Made.insert rpar hp', ks0 ++ [(out.length, bw.items)], ?_, ?_, ?_⟩
      · rw [List.getElem?_set_self (by omega)]
      · rw [s1, hi0, img_append, img_singleton, hlkeq]
      · intro k hk
        rcases List.mem_append.mp hk with hk | hk
        · exact (hs0 k hk).mono_append _
        · simp only [List.mem_singleton] at hk; subst hk; exact hsubnew
    · rw [List.getElem?_set_ne (by omega)] at hj
      obtain ⟨rw', ks, hK', hi', hs'⟩ := htree j w hj
      refine ⟨rw', ks, ?_, hi', fun k hk => (hs' k hk).mono_append _⟩
      rw [List.getElem?_set_ne (by omega)]; exact hK'

structure TFinal (cd : Codec) (iv n : Nat) (content : List Entry) (s : WSt) (r : Nat) : Prop where
  len : s.1.length = n
  lay : Lay cd s.2.2 s.2.1
  logok : ∀ e ∈ s.2.2, ∃ w, BW.Made iv w ∧ e.raw = w.finish ∧ e.items = w.items
  root : r < s.2.1.length
  tree : (content = [] ∧ storeOf s.2.2 r = some []) ∨
    Sub (storeOf s.2.2) (lvlOf s.2.2) n r content

theorem flatten_only_head (K : List Kids) (ks : Kids) (h0 : K[0]? = some ks)
    (hrest : ∀ j ks', 1 ≤ j → K[j]? = some ks' → ks' = []) :
    (K.map flatOf).flatten = flatOf ks := by
  cases K with
  | nil => simp at h0
  | cons a K =>
    simp at h0; subst h0
    have : (K.map flatOf).flatten = [] := by
      rw [List.flatten_eq_nil_iff]
      intro l hl
      obtain ⟨ks', hks', rfl⟩ := List.mem_map.mp hl
      obtain ⟨j, hj, hjk⟩ := List.getElem_of_mem hks'
      have := hrest (j + 1) ks' (by omega) (by simp [hj, hjk])
      simp [this]
    simp [this]

theorem TInv.root {cd : Codec} {iv n : Nat} {content : List Entry}
    {idx : List BW} {out : Bytes} {log : List Emitted} {cur : BW}
    (h : TInv cd iv n content (idx, out, log))
    (hempty : ∀ j w, 1 ≤ j → idx[j]? = some w → w.items = [])
    (hc : idx[0]? = some cur) :
    TFinal cd iv n content (rootAt cd cur (idx, out, log)) out.length := by
  obtain ⟨hlen, hlay, hlog, K, hKl, hcont, htree⟩ := h
  simp only at hlen hlay hlog htree
  obtain ⟨rcur, ks0, hK0, hi0, hs0⟩ := htree _ _ hc
  have hn : 0 < n := by
    obtain ⟨h', -⟩ := List.getElem?_eq_some_iff.mp hc; omega
  have hcont' : content = flatOf ks0 := by
    rw [hcont]
    apply flatten_only_head K ks0 hK0
    intro j ks' hj hK'
    have hjn : j < idx.length := by
      obtain ⟨h', -⟩ := List.getElem?_eq_some_iff.mp hK'; omega
    obtain ⟨-, ks'', hK'', hi'', -⟩ := htree j idx[j] (by simp [hjn])
    rw [hK'] at hK''; cases hK''
    have := hempty j idx[j] hj (by simp [hjn])
    rw [this] at hi''
    simpa [img] using hi''.symm
  obtain ⟨hst, hlv⟩ := hlay.store_snoc ⟨out.length, idx.length, cur.finish, cur.items⟩ rfl
  simp only at hst hlv
  refine ⟨by simp [rootAt, hlen], Lay.snoc _ hlay rfl, ?_, ?_, ?_⟩
  · intro e' he'
    simp only [rootAt, List.mem_append, List.mem_singleton] at he'
    rcases he' with he' | rfl
    · exact hlog e' he'
    · exact ⟨cur, rcur, rfl, rfl⟩
  · simp [rootAt, blockBytes_length]; omega
  · simp only [rootAt]
    by_cases hks : ks0 = []
    · left
      subst hks
      exact ⟨hcont', by rw [hst, hi0]; rfl⟩
    · right
      rw [hcont']
      have : n = (n - 1) + 1 := by omega
      rw [this]
      apply Sub.node _ _ ks0 hks
      · rw [hst, hi0]; rfl
      · rw [hlv, hlen]; omega
      · intro k hk
        have := (hs0 k hk).mono_append
          [⟨out.length, idx.length, cur.finish, cur.items⟩]
        simpa using this

end Grenad
