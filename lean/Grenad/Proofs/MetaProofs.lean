/-
  `Meta.parse` through its equations (`parse_eq`, `parse_ok_iff`: what is accepted and what is
  returned) and the trailer encode/parse round trip `parse_encode` (C09, C10, C13); and, for C10,
  `loadBlockLen_body_indep`: a block inside the body is loaded identically whatever trailer follows.
-/
import Grenad.Model.Meta
import Grenad.Model.Reader
import Grenad.Proofs.Bytes

namespace Grenad.MetaP

open Grenad

theorem drop_len_sub {α} (a b : List α) (n : Nat) (h : b.length = n) :
    (a ++ b).drop ((a ++ b).length - n) = b := by
  have : (a ++ b).length - n = a.length := by simp; omega
  rw [this, List.drop_left]

end Grenad.MetaP

namespace Grenad.Meta

open Grenad Grenad.MetaP

/-- The record held by `t`: root offset at 0, codec id at 8, entry count at 9; version and index
    depth are given. -/
def recOf (v : Nat) (t : Bytes) (lv : Nat) : Meta :=
  { version := v, root := leVal (t.take 8), codec := (t.getD 8 0).toNat,
    count := leVal ((t.drop 9).take 8), levels := lv }

/-- What `parse` does once the magic has selected version `v` with a trailer of `k` bytes. -/
def body (v k : Nat) (b : Bytes) (lv : Nat) : Except OpenErr Meta :=
  if b.length < k then .error .io else
  if ((b.drop (b.length - k)).getD 8 0).toNat > 5 then .error .badCodec else
  .ok (recOf v (b.drop (b.length - k)) lv)

theorem parse_eq (b : Bytes) : parse b =
    if b.length < 4 then .error .io
    else if leVal (b.drop (b.length - 4)) = magicV1 then body 1 21 b 0
    else if leVal (b.drop (b.length - 4)) = magicV2 then
      body 2 22 b ((b.drop (b.length - 22)).getD 17 0).toNat
    else .error .badMagic := rfl

theorem body_ok_iff {v k : Nat} {b : Bytes} {lv : Nat} {m : Meta} :
    body v k b lv = .ok m ↔
      k ≤ b.length ∧ ((b.drop (b.length - k)).getD 8 0).toNat ≤ 5 ∧
        m = recOf v (b.drop (b.length - k)) lv := by
  unfold body
  by_cases hk : b.length < k
  · rw [if_pos hk]
    exact ⟨(fun h => nomatch h), fun h => absurd h.1 (Nat.not_le_of_lt hk)⟩
  · rw [if_neg hk]
    by_cases hc : ((b.drop (b.length - k)).getD 8 0).toNat > 5
    · rw [if_pos hc]
      exact ⟨(fun h => nomatch h), fun h => absurd h.2.1 (Nat.not_le_of_lt hc)⟩
    · rw [if_neg hc]
      exact ⟨fun h => ⟨Nat.le_of_not_lt hk, Nat.le_of_not_lt hc, (Except.ok.inj h).symm⟩,
        fun h => by rw [h.2.2]⟩

theorem parse_ok_iff (b : Bytes) (m : Meta) : parse b = .ok m ↔
    (leVal (b.drop (b.length - 4)) = magicV1 ∧ 21 ≤ b.length ∧
        ((b.drop (b.length - 21)).getD 8 0).toNat ≤ 5 ∧ m = recOf 1 (b.drop (b.length - 21)) 0) ∨
    (leVal (b.drop (b.length - 4)) = magicV2 ∧ 22 ≤ b.length ∧
        ((b.drop (b.length - 22)).getD 8 0).toNat ≤ 5 ∧
        m = recOf 2 (b.drop (b.length - 22)) ((b.drop (b.length - 22)).getD 17 0).toNat) := by
  rw [parse_eq]
  have hne : magicV2 ≠ magicV1 := by decide
  by_cases h4 : b.length < 4
  · rw [if_pos h4]
    refine ⟨(fun h => nomatch h), fun h => ?_⟩
    rcases h with ⟨-, h, -⟩ | ⟨-, h, -⟩ <;> omega
  · rw [if_neg h4]
    by_cases h1 : leVal (b.drop (b.length - 4)) = magicV1
    · rw [if_pos h1, body_ok_iff]
      exact ⟨fun h => .inl ⟨h1, h⟩, fun h => h.elim (·.2) (fun h => absurd (h1 ▸ h.1) hne.symm)⟩
    · rw [if_neg h1]
      by_cases h2 : leVal (b.drop (b.length - 4)) = magicV2
      · rw [if_pos h2, body_ok_iff]
        exact ⟨fun h => .inr ⟨h2, h⟩, fun h => h.elim (fun h => absurd h.1 h1) (·.2)⟩
      · rw [if_neg h2]
        exact ⟨(fun h => nomatch h),
          fun h => h.elim (fun h => absurd h.1 h1) (fun h => absurd h.1 h2)⟩

/-- `parse` looks at the tail only: with the `k`-byte trailer `t` at the end, the record is `t`'s. -/
theorem body_append (v lv : Nat) (pre t : Bytes) :
    body v t.length (pre ++ t) lv =
      if (t.getD 8 0).toNat > 5 then .error .badCodec else .ok (recOf v t lv) := by
  unfold body
  rw [drop_len_sub pre t _ rfl, if_neg]
  rw [List.length_append]
  exact Nat.not_lt.mpr (Nat.le_add_left _ _)

theorem recOf_encoded (v lv : Nat) {root codec count : Nat} (rest : Bytes)
    (hr : root < 2 ^ 64) (hc : codec ≤ 5) (hn : count < 2 ^ 64) :
    ((le64 root ++ [UInt8.ofNat codec] ++ le64 count ++ rest).getD 8 0).toNat = codec ∧
    recOf v (le64 root ++ [UInt8.ofNat codec] ++ le64 count ++ rest) lv =
      { version := v, root := root, codec := codec, count := count, levels := lv } := by
  have e : le64 root ++ [UInt8.ofNat codec] ++ le64 count ++ rest =
      le64 root ++ (UInt8.ofNat codec :: (le64 count ++ rest)) := by
    simp only [List.append_assoc, List.cons_append, List.nil_append]
  have h8 : ((le64 root ++ (UInt8.ofNat codec :: (le64 count ++ rest))).getD 8 0).toNat = codec := by
    rw [List.getD_eq_getElem?_getD, List.getElem?_append_right (by rw [le64_length]; exact Nat.le_refl 8),
      le64_length]
    simp only [Nat.sub_self, List.getElem?_cons_zero, Option.getD_some, UInt8.toNat_ofNat']
    omega
  have t8 : (le64 root ++ (UInt8.ofNat codec :: (le64 count ++ rest))).take 8 = le64 root :=
    List.take_left' (le64_length root)
  have d9 : ((le64 root ++ (UInt8.ofNat codec :: (le64 count ++ rest))).drop 9).take 8 =
      le64 count := by
    have : le64 root ++ (UInt8.ofNat codec :: (le64 count ++ rest)) =
        (le64 root ++ [UInt8.ofNat codec]) ++ (le64 count ++ rest) := by
      simp only [List.append_assoc, List.cons_append, List.nil_append]
    rw [this, List.drop_left' (by rw [List.length_append, le64_length]; rfl)]
    exact List.take_left' (le64_length count)
  rw [e]
  exact ⟨h8, by rw [recOf, h8, t8, d9, leVal_le64 hr, leVal_le64 hn]⟩

theorem parse_encode (pre : Bytes) (m : Meta) (hv : m.version = 1 ∧ m.levels = 0 ∨ m.version = 2)
    (hr : m.root < 2 ^ 64) (hc : m.codec ≤ 5) (hn : m.count < 2 ^ 64) (hl : m.levels < 256) :
    parse (pre ++ encode m) = .ok m := by
  obtain ⟨version, root, codec, count, levels⟩ := m
  simp only at hv hr hc hn hl
  have hne : magicV2 ≠ magicV1 := by decide
  -- the magic is read from the last four bytes
  have magic : ∀ (core : Bytes) (mg : Nat), mg < 2 ^ 32 →
      leVal ((pre ++ (core ++ le32 mg)).drop ((pre ++ (core ++ le32 mg)).length - 4)) = mg := by
    intro core mg hmg
    rw [← List.append_assoc, drop_len_sub _ _ 4 (le32_length mg), leVal_le32 hmg]
  rcases hv with ⟨rfl, rfl⟩ | rfl
  · have e : encode ⟨1, root, codec, count, 0⟩ =
        le64 root ++ [UInt8.ofNat codec] ++ le64 count ++ le32 magicV1 := rfl
    have hlen : (encode ⟨1, root, codec, count, 0⟩).length = 21 := by
      simp [e, le64_length, le32_length]
    obtain ⟨h8, hrec⟩ := recOf_encoded 1 0 (le32 magicV1) hr hc hn
    have hb := body_append 1 0 pre (encode ⟨1, root, codec, count, 0⟩)
    rw [hlen, e, h8, if_neg (Nat.not_lt.mpr hc), hrec] at hb
    rw [parse_eq, if_neg (by rw [List.length_append, hlen]; omega), e,
      magic _ magicV1 (by decide), if_pos rfl, hb]
  · have hlv : (UInt8.ofNat levels).toNat = levels := by
      rw [UInt8.toNat_ofNat']; exact Nat.mod_eq_of_lt hl
    have e : encode ⟨2, root, codec, count, levels⟩ =
        le64 root ++ [UInt8.ofNat codec] ++ le64 count ++ ([UInt8.ofNat levels] ++ le32 magicV2) := by
      simp [encode, List.append_assoc]
    have hlen : (encode ⟨2, root, codec, count, levels⟩).length = 22 := by
      simp [e, le64_length, le32_length]
    obtain ⟨h8, hrec⟩ := recOf_encoded 2 levels ([UInt8.ofNat levels] ++ le32 magicV2) hr hc hn
    have hb := body_append 2 levels pre (encode ⟨2, root, codec, count, levels⟩)
    rw [hlen, e, h8, if_neg (Nat.not_lt.mpr hc), hrec] at hb
    -- the index depth is the byte at offset 17 of the trailer
    have h17 : (((pre ++ encode ⟨2, root, codec, count, levels⟩).drop
        ((pre ++ encode ⟨2, root, codec, count, levels⟩).length - 22)).getD 17 0).toNat = levels := by
      rw [drop_len_sub _ _ 22 hlen, e, List.getD_eq_getElem?_getD,
        List.getElem?_append_right (by simp [le64_length])]
      simpa [le64_length] using hlv
    rw [parse_eq, if_neg (by rw [List.length_append, hlen]; omega), h17, e]
    have hm := magic (le64 root ++ [UInt8.ofNat codec] ++ le64 count ++ [UInt8.ofNat levels])
      magicV2 (by decide)
    rw [List.append_assoc _ [UInt8.ofNat levels]] at hm
    rw [hm, if_neg hne, if_pos rfl, hb]

end Grenad.Meta

namespace Grenad.MetaP

open Grenad

theorem loadBlockLen_body_indep (cd : Codec) (body t1 t2 : Bytes) (off : Nat)
    (hdr : Bytes) (h8 : slice? body off 8 = some hdr) (hin : off + 8 + beVal hdr ≤ body.length) :
    loadBlockLen cd (body ++ t1) off = loadBlockLen cd (body ++ t2) off := by
  have hle : off + 8 ≤ body.length := by
    unfold slice? at h8; split at h8 <;> simp_all
  have hs : ∀ t, slice? (body ++ t) off 8 = some hdr := by
    intro t
    unfold slice? at h8 ⊢
    have : off + 8 ≤ (body ++ t).length := by simp; omega
    simp only [this, if_true]
    simp only [hle, if_true] at h8
    rw [List.drop_append_of_le_length (by omega), List.take_append_of_le_length (by simp; omega)]
    exact h8
  have hb : ∀ t, ((body ++ t).drop (off + 8)).take (beVal hdr) = (body.drop (off + 8)).take (beVal hdr) := by
    intro t
    rw [List.drop_append_of_le_length (by omega), List.take_append_of_le_length (by simp; omega)]
  unfold loadBlockLen
  simp only [hs, hb]

end Grenad.MetaP
