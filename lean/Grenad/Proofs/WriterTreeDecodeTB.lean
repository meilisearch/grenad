/-
  T-writer: the per-block hypothesis `BlocksDecode` of the specification decoder,
  discharged from T-block (`parse_built`, `BlockOf.entryAt_lt`, `BlockOf.entryAt_end`) for logs
  whose blocks are shorter than `2^32` bytes (used by `C09_spec_decoder_small`).
-/
import Grenad.Proofs.WriterTreeDecode
import Grenad.Proofs.TBlock

namespace Grenad

open WT

theorem BW.Made.built {iv : Nat} {w : BW} (h : BW.Made iv w) : BW.Built iv w.items w := by
  induction h with
  | new => exact BW.Built.nil
  | insert _ hi ih =>
    have := BW.Built.snoc ih hi
    rw [← BW.insert_items hi] at this
    exact this

theorem SpecDecode.walk_blockOf {iv : Nat} {es : List Entry} {b : Block} (hb : BlockOf iv es b) :
    ∀ fuel i, i ≤ es.length → es.length - i < fuel →
      SpecDecode.walk b fuel (offAt es i) = es.drop i := by
  intro fuel
  induction fuel with
  | zero => intro i _ h; omega
  | succ fuel ih =>
    intro i hi hf
    unfold SpecDecode.walk
    rcases Nat.lt_or_ge i es.length with h | h
    · rw [hb.entryAt_lt h]
      simp only
      rw [ih (i + 1) (by omega) (by omega)]
      exact (List.drop_eq_getElem_cons h).symm
    · have : i = es.length := by omega
      subst this
      rw [hb.entryAt_end]
      simp

theorem SpecDecode.walk_made {iv : Nat} (hiv : 1 ≤ iv) {w : BW} (h : BW.Made iv w)
    (hlen : w.finish.length < 2 ^ 32) :
    ∃ b, Block.parse w.finish = some b ∧
      SpecDecode.walk b (b.payload.length + 1) 0 = w.items := by
  have hbl : w.buffer.length < 2 ^ 32 := by
    have : w.buffer.length ≤ w.finish.length := by simp [BW.finish]
    omega
  obtain ⟨b, hp, -, -, hb⟩ := parse_built hiv h.built hbl
  refine ⟨b, hp, ?_⟩
  have h0 : offAt w.items 0 = 0 := by simp [offAt]
  have := SpecDecode.walk_blockOf hb (b.payload.length + 1) 0 (Nat.zero_le _)
    (by rw [hb.payload]; have := length_le_frames w.items; omega)
  rw [h0] at this
  simpa using this

theorem BlocksDecode.of_small {iv : Nat} (hiv : 1 ≤ iv) {log : List Emitted}
    (hmade : ∀ e ∈ log, ∃ w, BW.Made iv w ∧ e.raw = w.finish ∧ e.items = w.items)
    (hsmall : ∀ e ∈ log, e.raw.length < 2 ^ 32) : BlocksDecode log := by
  intro e he
  obtain ⟨w, hw, hr, hi⟩ := hmade e he
  rw [hr, hi]
  exact SpecDecode.walk_made hiv hw (hr ▸ hsmall e he)

end Grenad
