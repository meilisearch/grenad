/-
  Grenad.Proofs.SorterContent — content of a sorter chunk, independent of when it was produced:
  `mergeGroups` over a key-sorted list is grouping, the stable sort keeps each key's value order,
  and merging grouped-and-merged chunks is grouping the concatenation (under `MergeLaw`).
-/
import Grenad.Proofs.MergeProofs
import Grenad.Model.Sorter

namespace Grenad

/-- A merge function that never fails. -/
abbrev tot (mf' : Bytes → List Bytes → Bytes) : MergeFn := fun k vs => some (mf' k vs)

/-- Group and merge: the content of a chunk holding the pairs `S`. -/
def G (mf' : Bytes → List Bytes → Bytes) (S : List Entry) : List Entry :=
  (Spec.group S).map (fun (k, vs) => (k, mf' k vs))

theorem mergeSpec_eq_G (mf' : Bytes → List Bytes → Bytes) (ss : List (List Entry)) :
    Spec.mergeSpec mf' ss = G mf' ss.flatten := rfl

/-- The law a merge function must obey for the sorter's content to be independent of spills. -/
def MergeLaw (mf' : Bytes → List Bytes → Bytes) : Prop :=
  (∀ k v, mf' k [v] = v) ∧
  (∀ k (gs : List (List Bytes)), (∀ g ∈ gs, g ≠ []) → mf' k (gs.map (mf' k)) = mf' k gs.flatten)

/-- Sorted by key (not strictly). -/
def KeySorted (l : List Entry) : Prop := l.Pairwise (fun a b => a.1 ≤ b.1)

theorem G_asc (mf' : Bytes → List Bytes → Bytes) (S : List Entry) : StrictAsc (G mf' S) := by
  unfold G StrictAsc
  rw [List.pairwise_map]
  exact gasc_group S

theorem mem_G (mf' : Bytes → List Bytes → Bytes) (S : List Entry) (k v : Bytes) :
    (k, v) ∈ G mf' S ↔ valsOf k S ≠ [] ∧ v = mf' k (valsOf k S) := by
  unfold G
  simp only [List.mem_map, Prod.mk.injEq]
  constructor
  · rintro ⟨⟨k', vs⟩, hm, rfl, rfl⟩
    have := (mem_group S k' vs).mp hm
    rw [← this.1]; exact ⟨this.2, rfl⟩
  · rintro ⟨hne, rfl⟩
    exact ⟨(k, valsOf k S), (mem_group S k _).mpr ⟨rfl, hne⟩, rfl, rfl⟩

theorem G_keys (mf' : Bytes → List Bytes → Bytes) (S : List Entry) (k : Bytes) :
    k ∈ (G mf' S).map (·.1) ↔ k ∈ S.map (·.1) := by
  rw [← mem_group_keys S k]
  have : (G mf' S).map (·.1) = (Spec.group S).map (·.1) := by
    simp [G, List.map_map, Function.comp_def]
  rw [this]

/-- `G` only depends on each key's value list. -/
theorem G_congr (mf' : Bytes → List Bytes → Bytes) {S S' : List Entry}
    (h : ∀ k, valsOf k S = valsOf k S') : G mf' S = G mf' S' := by
  have : Spec.group S = Spec.group S' := by
    apply eq_group_of_mem (gasc_group S)
    intro k vs
    rw [mem_group, h k]
  unfold G; rw [this]

theorem valsOf_G (mf' : Bytes → List Bytes → Bytes) (S : List Entry) (k : Bytes) :
    valsOf k (G mf' S) = if valsOf k S = [] then [] else [mf' k (valsOf k S)] := by
  split
  · rename_i h
    rw [valsOf_eq_nil]
    intro e he hk
    obtain ⟨k', v⟩ := e
    simp only at hk; subst hk
    exact ((mem_G mf' S k' v).mp he).1 h
  · rename_i h
    exact valsOf_of_mem_asc (G_asc mf' S) ((mem_G mf' S k _).mpr ⟨h, rfl⟩)

/-- Non-empty value lists of key `k`, one per part that has the key. -/
def partVals (k : Bytes) : List (List Entry) → List (List Bytes)
  | [] => []
  | S :: r => if valsOf k S = [] then partVals k r else valsOf k S :: partVals k r

theorem partVals_ne_nil (k : Bytes) (parts : List (List Entry)) :
    ∀ g ∈ partVals k parts, g ≠ [] := by
  induction parts with
  | nil => intro g hg; cases hg
  | cons S r ih =>
    intro g hg
    simp only [partVals] at hg
    split at hg
    · exact ih g hg
    · rcases List.mem_cons.mp hg with h | h
      · rw [h]; assumption
      · exact ih g h

theorem partVals_flatten (k : Bytes) (parts : List (List Entry)) :
    (partVals k parts).flatten = valsOf k parts.flatten := by
  induction parts with
  | nil => rfl
  | cons S r ih =>
    simp only [partVals, List.flatten_cons, valsOf_append]
    by_cases h : valsOf k S = []
    · simp [h, ih]
    · simp [h, ih]

theorem valsOf_G_parts (mf' : Bytes → List Bytes → Bytes) (k : Bytes) (parts : List (List Entry)) :
    valsOf k (parts.map (G mf')).flatten = (partVals k parts).map (mf' k) := by
  induction parts with
  | nil => rfl
  | cons S r ih =>
    simp only [partVals, List.map_cons, List.flatten_cons, valsOf_append]
    rw [ih, valsOf_G]
    by_cases h : valsOf k S = []
    · simp [h]
    · simp [h]

/-- Merging chunks that are themselves grouped-and-merged equals grouping the concatenation. -/
theorem G_flatten_law (mf' : Bytes → List Bytes → Bytes) (law : MergeLaw mf')
    (parts : List (List Entry)) :
    G mf' (parts.map (G mf')).flatten = G mf' parts.flatten := by
  apply keyAsc_ext (G_asc mf' _) (G_asc mf' _)
  rintro ⟨k, v⟩
  rw [mem_G, mem_G, valsOf_G_parts, ← partVals_flatten]
  have hne : ∀ g ∈ partVals k parts, g ≠ [] := partVals_ne_nil k parts
  rw [law.2 k _ hne]
  have : (partVals k parts).map (mf' k) ≠ [] ↔ (partVals k parts).flatten ≠ [] := by
    cases hp : partVals k parts with
    | nil => simp
    | cons g r =>
      have : g ≠ [] := hne g (by rw [hp]; exact List.mem_cons_self)
      simp [this]
  rw [this]

/-- The groups `mergeGroups` forms: maximal runs of equal keys, starting from the open group. -/
def runs : List Entry → Option (Bytes × List Bytes) → Groups
  | [], none => []
  | [], some g => [g]
  | (k, v) :: r, none => runs r (some (k, [v]))
  | (k, v) :: r, some (ck, vs) =>
    if ck = k then runs r (some (ck, vs ++ [v])) else (ck, vs) :: runs r (some (k, [v]))

theorem mergeGroups_tot (mf' : Bytes → List Bytes → Bytes) : ∀ (l : List Entry)
    (cur : Option (Bytes × List Bytes)) (out : List Entry) (calls : Groups),
    Sorter.mergeGroups (tot mf') l cur out calls =
      some (out.reverse ++ (runs l cur).map (fun (k, vs) => (k, mf' k vs)),
            calls.reverse ++ runs l cur) := by
  intro l
  induction l with
  | nil =>
    intro cur out calls
    cases cur with
    | none => simp [Sorter.mergeGroups, runs]
    | some g => obtain ⟨k, vs⟩ := g; simp [Sorter.mergeGroups, runs]
  | cons e r ih =>
    intro cur out calls
    obtain ⟨k, v⟩ := e
    cases cur with
    | none => simp only [Sorter.mergeGroups, runs]; exact ih _ _ _
    | some g =>
      obtain ⟨ck, vs⟩ := g
      simp only [Sorter.mergeGroups, runs]
      by_cases h : ck = k
      · simp only [h, if_true]; exact ih _ _ _
      · simp only [h, if_false]
        rw [ih]
        simp

/-- Grouping a list whose head carries a least key. -/
theorem group_cons_min {k v : Bytes} {r : List Entry} (hr : ∀ e ∈ r, k ≤ e.1) :
    Spec.group ((k, v) :: r) =
      (k, [v] ++ valsOf k r) :: Spec.group (r.filter (fun e => decide (e.1 ≠ k))) := by
  have h := group_min (l := (k, v) :: r) (k := k)
    (by
      intro e he
      rcases List.mem_cons.mp he with h | h
      · rw [h]; exact blt_irrefl _
      · have := hr e h; grind)
    ⟨(k, v), List.mem_cons_self, rfl⟩
  rw [h, valsOf_cons]
  simp

theorem runs_some {l : List Entry} (hs : KeySorted l) : ∀ (ck : Bytes) (vs : List Bytes),
    (∀ e ∈ l, ck ≤ e.1) →
    runs l (some (ck, vs)) =
      (ck, vs ++ valsOf ck l) :: Spec.group (l.filter (fun e => decide (e.1 ≠ ck))) := by
  induction l with
  | nil => intro ck vs _; simp [runs]
  | cons e r ih =>
    intro ck vs hge
    obtain ⟨k, v⟩ := e
    have hs' := List.pairwise_cons.mp hs
    have hr : ∀ e ∈ r, k ≤ e.1 := fun e he => hs'.1 e he
    simp only [runs]
    by_cases h : ck = k
    · subst h
      simp only [if_true]
      rw [ih hs'.2 ck (vs ++ [v]) hr, valsOf_cons]
      simp
    · simp only [h, if_false]
      have hlt : ck < k := by
        have := hge (k, v) List.mem_cons_self
        simp only at this
        grind
      have hnil : valsOf ck ((k, v) :: r) = [] := by
        rw [valsOf_eq_nil]
        intro e he
        have h1 : k ≤ e.1 := by
          rcases List.mem_cons.mp he with h | h
          · rw [h]; exact List.le_refl _
          · exact hr e h
        grind
      have hfil : ((k, v) :: r).filter (fun e => decide (e.1 ≠ ck)) = (k, v) :: r := by
        rw [List.filter_eq_self]
        intro e he
        have := valsOf_eq_nil.mp hnil e he
        simpa using this
      rw [hnil, hfil, ih hs'.2 k [v] hr, List.append_nil, group_cons_min hr]

/-- Over a key-sorted list, `mergeGroups` forms exactly the groups of `Spec.group`. -/
theorem runs_none {l : List Entry} (hs : KeySorted l) : runs l none = Spec.group l := by
  cases l with
  | nil => rfl
  | cons e r =>
    obtain ⟨k, v⟩ := e
    have hs' := List.pairwise_cons.mp hs
    have hr : ∀ e ∈ r, k ≤ e.1 := fun e he => hs'.1 e he
    simp only [runs]
    rw [runs_some hs'.2 k [v] hr, group_cons_min hr]

theorem mergeGroups_sorted (mf' : Bytes → List Bytes → Bytes) {l : List Entry} (hs : KeySorted l) :
    Sorter.mergeGroups (tot mf') l none [] [] = some (G mf' l, Spec.group l) := by
  rw [mergeGroups_tot, runs_none hs]
  simp [G]

theorem keyLe_trans (a b c : Entry) :
    decide (a.1 ≤ b.1) = true → decide (b.1 ≤ c.1) = true → decide (a.1 ≤ c.1) = true := by
  simp only [decide_eq_true_eq]; intro h1 h2; exact List.le_trans h1 h2

theorem keyLe_total (a b : Entry) : (decide (a.1 ≤ b.1) || decide (b.1 ≤ a.1)) = true := by
  simp only [Bool.or_eq_true, decide_eq_true_eq]; exact List.le_total _ _

theorem sortStable_sorted (l : List Entry) : KeySorted (Sorter.sortStable l) := by
  have := List.pairwise_mergeSort keyLe_trans keyLe_total l
  exact List.Pairwise.imp (fun h => of_decide_eq_true h) this

/-- Stability: each key's values keep their insertion order. -/
theorem valsOf_sortStable (k : Bytes) (l : List Entry) :
    valsOf k (Sorter.sortStable l) = valsOf k l := by
  unfold valsOf
  congr 1
  let p : Entry → Bool := fun e => decide (e.1 = k)
  have hsub : List.Sublist (l.filter p) (Sorter.sortStable l) := by
    apply List.sublist_mergeSort keyLe_trans keyLe_total
    · apply List.Pairwise.imp_of_mem (R := fun _ _ => True)
      · intro a b ha hb _
        have ha' : a.1 = k := by simpa [p] using (List.mem_filter.mp ha).2
        have hb' : b.1 = k := by simpa [p] using (List.mem_filter.mp hb).2
        simp only [decide_eq_true_eq]
        rw [ha', hb']; exact List.le_refl _
      · exact List.pairwise_of_forall (fun _ _ => trivial)
    · exact List.filter_sublist
  have hsub' : List.Sublist (l.filter p) ((Sorter.sortStable l).filter p) := by
    have := hsub.filter p
    simpa only [List.filter_filter, Bool.and_self] using this
  have hlen : (l.filter p).length = ((Sorter.sortStable l).filter p).length :=
    ((List.mergeSort_perm l _).filter p).length_eq.symm
  exact (hsub'.eq_of_length hlen).symm

end Grenad
