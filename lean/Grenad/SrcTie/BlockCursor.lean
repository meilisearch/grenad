/-
  Grenad.SrcTie.BlockCursor — translator tie for the in-block cursor of src/block.rs
  (`BlockCursor::{current, move_on_first, move_on_last, move_on_next, move_on_prev,
  move_on_key_lower_than_or_equal_to, move_on_key_greater_than_or_equal_to}`), regenerated from /repo/src
  on every run.

  Shape of the statements: *whenever the translated operation returns* (no panic — on blocks built by the
  block writer `T-block` shows the model never meets the situations in which Rust would panic), its result and
  the new cursor are exactly those of the model's `BlockCursor` operation.  The two `binary_search*` calls
  are the standard library's loop (Prelude `binSearchByM`), so the searches are tied to the model run with
  that very loop (`prevBS binSearchBy'`, `leBS binSearchBy'`), which `Proofs/BinSearchBlock.lean` proves
  equal to the model's `prev` / `le` on every strictly ascending table.
-/
import Grenad.Generated.Src.SrcBlockCursor
import Grenad.SrcTie.Block
import Grenad.Proofs.BinSearchBlock

set_option linter.unusedSimpArgs false
set_option linter.unusedVariables false

namespace Grenad.SrcTie
open Grenad Grenad.R Grenad.Gen

/-- the translated cursor as the model's -/
def toBC (c : Gen.BlockCursor) : Grenad.BlockCursor := { block := toBlock c.block, off := c.current_offset }

/-- size side conditions under which the translated `entry_at` cannot overflow `usize` -/
structure OKBlock (b : Gen.Block) : Prop where
  hp : b.payload_size ≤ b.buffer.length
  hl : b.buffer.length < 2 ^ 62

theorem entry_at_ok (b : Gen.Block) (h : OKBlock b) (s : Nat) (r : Option (Bytes × Bytes × Nat))
    (hr : Gen.Block.entry_at b s = .ok r) : r = Grenad.Block.entryAt (toBlock b) s := by
  have := src_entry_at b s h.hp h.hl
  cases hm : Grenad.Block.entryAt (toBlock b) s with
  | some x => rw [hm] at this; simp only at this; rw [hr] at this; cases this; rfl
  | none =>
    rw [hm] at this; simp only at this
    rcases this with h1 | ⟨msg, h1⟩
    · rw [hr] at h1; cases h1; rfl
    · rw [hr] at h1; cases h1

theorem src_bc_current (c : Gen.BlockCursor) (h : OKBlock c.block) (r : Option (Bytes × Bytes))
    (hr : Gen.BlockCursor.current c = .ok r) : r = (toBC c).current := by
  unfold Gen.BlockCursor.current at hr
  unfold Grenad.BlockCursor.current toBC
  cases ho : c.current_offset with
  | none => simp [ho, bind, Except.bind, pure, Except.pure] at hr ⊢; exact hr.symm
  | some off =>
    simp only [ho, bind, Except.bind, pure, Except.pure] at hr ⊢
    cases he : Gen.Block.entry_at c.block off with
    | error e => simp [he] at hr
    | ok x =>
      have := entry_at_ok c.block h off x he
      simp [he] at hr
      rw [← hr, this]

theorem OKBlock.payload_length {b : Gen.Block} (h : OKBlock b) : (toBlock b).payload.length = b.payload_size := by
  simp [toBlock]; exact Nat.min_eq_left h.hp

/-- every move ends with `(self.current(), self)` -/
theorem ret_current (c1 c' : Gen.BlockCursor) (h : OKBlock c1.block) (r : Option (Bytes × Bytes))
    (hr : Except.bind c1.current (fun y => Except.pure (y, c1)) = .ok (r, c')) :
    c' = c1 ∧ r = (toBC c1).current := by
  obtain ⟨y, hcur, hr⟩ := bind_ok hr
  cases hr
  exact ⟨rfl, src_bc_current c1 h _ hcur⟩

theorem src_bc_first (c c' : Gen.BlockCursor) (h : OKBlock c.block) (r : Option (Bytes × Bytes))
    (hr : Gen.BlockCursor.move_on_first c = .ok (r, c')) : (toBC c', r) = (toBC c).first ∧ c'.block = c.block := by
  unfold Gen.BlockCursor.move_on_first at hr
  simp only [bind, pure, Gen.Block.index_offsets_fn, Except.pure, Except.bind, Option.map_id'] at hr
  obtain ⟨rfl, hy⟩ := ret_current { block := c.block, current_offset := c.block.index_offsets.head? } c' h r hr
  refine ⟨?_, rfl⟩
  rw [hy]
  rfl

theorem src_bc_next (c c' : Gen.BlockCursor) (h : OKBlock c.block) (r : Option (Bytes × Bytes))
    (hr : Gen.BlockCursor.move_on_next c = .ok (r, c')) : (toBC c', r) = (toBC c).next ∧ c'.block = c.block := by
  unfold Gen.BlockCursor.move_on_next at hr
  unfold Grenad.BlockCursor.next
  cases ho : c.current_offset with
  | none =>
    simp only [ho, bind, pure] at hr
    obtain ⟨this, hbb⟩ := src_bc_first c c' h r (bind_pair_ok hr)
    refine ⟨?_, hbb⟩
    simp only [toBC, ho] at this ⊢
    exact this
  | some off =>
    simp only [ho, bind, Except.bind, pure, Except.pure] at hr
    cases he : Gen.Block.entry_at c.block off with
    | error e => simp [he] at hr
    | ok x =>
      have hx := entry_at_ok c.block h off x he
      simp only [he] at hr
      have hoff : (toBC c).off = some off := by simp [toBC, ho]
      simp only [hoff]
      cases x with
      | none =>
        cases hr
        have : Grenad.Block.entryAt (toBC c).block off = none := hx.symm
        refine ⟨?_, rfl⟩
        rw [this]
      | some e =>
        obtain ⟨k, v, nxt⟩ := e
        simp only at hr
        obtain ⟨rfl, hy⟩ := ret_current { block := c.block, current_offset := some nxt } c' h r hr
        refine ⟨?_, rfl⟩
        rw [show Grenad.Block.entryAt (toBC c).block off = some (k, v, nxt) from hx.symm, hy]
        rfl

theorem scanGen_acc (b : Grenad.Block) (stop : Bytes → Bool) : ∀ (f off : Nat) (acc : Option Nat),
    scanGen b stop f off acc = (match scanGen b stop f off none with | some o => some o | none => acc) := by
  intro f
  induction f with
  | zero => intro off acc; simp [scanGen]
  | succ f ih =>
    intro off acc
    simp only [scanGen]
    cases he : b.entryAt off with
    | none => simp
    | some e =>
      obtain ⟨k, v, nxt⟩ := e
      simp only
      by_cases hs : stop k = true
      · simp [hs]
      · simp only [hs, if_false]
        rw [ih nxt (some off)]
        cases h : scanGen b stop f nxt none <;> simp

/-- the body of the `while let Some((k, _, next)) = entry_at(off)` loops, as emitted: `move_on_prev` and
    `move_on_key_lower_than_or_equal_to` `break` on a key that satisfies `stop`, `move_on_last` never does -/
def scanBody (stop : Bytes → Bool) {α} (_ : α) (s : Gen.BlockCursor × Nat × Bool) :
    M (ForInStep (Gen.BlockCursor × Nat × Bool)) :=
  Except.bind (s.fst.block.entry_at s.snd.fst) fun r =>
    match r with
    | some (k, _, next) =>
      if stop k = true then Except.pure (ForInStep.done (s.fst, s.snd.fst, true))
      else Except.pure (ForInStep.yield ({ block := s.fst.block, current_offset := some s.snd.fst }, next, s.snd.snd))
    | _ => Except.pure (ForInStep.done (s.fst, s.snd.fst, true))

theorem scan_loop (stop : Bytes → Bool) {α} : ∀ (l : List α) (c : Gen.BlockCursor) (off : Nat)
    (st' : Gen.BlockCursor × Nat × Bool),
    OKBlock c.block → forIn l (c, off, false) (scanBody stop) = .ok st' → st'.2.2 = true →
    st'.1.block = c.block ∧
      st'.1.current_offset = scanGen (toBlock c.block) stop l.length off c.current_offset := by
  intro l
  induction l with
  | nil =>
    intro c off st' _ hf hfin
    simp [pure, Except.pure] at hf
    subst hf
    simp at hfin
  | cons a l ih =>
    intro c off st' hok hf hfin
    rw [List.forIn_cons] at hf
    cases he : Gen.Block.entry_at c.block off with
    | error e => simp [scanBody, he, bind, Except.bind] at hf
    | ok x =>
      have hx := entry_at_ok c.block hok off x he
      cases x with
      | none =>
        simp [scanBody, he, bind, Except.bind, pure, Except.pure] at hf
        subst hf
        simp [scanGen, ← hx]
      | some e =>
        obtain ⟨k, v, nxt⟩ := e
        by_cases hs : stop k = true
        · simp [scanBody, he, bind, Except.bind, pure, Except.pure, hs] at hf
          subst hf
          simp [scanGen, ← hx, hs]
        · simp only [scanBody, he, bind, Except.bind, Except.pure, hs, if_false] at hf
          have := ih { block := c.block, current_offset := some off } nxt st' hok hf hfin
          simp only [List.length_cons, scanGen, ← hx, hs, if_false]
          exact this

/-- What the three scanning moves do once their loop has returned: the fuel flag is checked (set on every
    exit of the loop), then `(self.current(), self)` is returned. -/
theorem scan_finish (stop : Bytes → Bool) {α} (l : List α) (c c' : Gen.BlockCursor) (off : Nat)
    (st : Gen.BlockCursor × Nat × Bool) (r : Option (Bytes × Bytes)) (h : OKBlock c.block)
    (hloop : forIn l (c, off, false) (scanBody stop) = .ok st)
    (hr : (if (!st.2.2) = true then
             Except.bind (throw (Fail.panic "r2l: loop fuel exhausted")) fun (_ : PUnit) =>
               Except.bind st.1.current fun y => Except.pure (y, st.1)
           else Except.bind st.1.current fun y => Except.pure (y, st.1)) = .ok (r, c')) :
    c'.block = c.block ∧ r = (toBC c').current ∧
      c'.current_offset = scanGen (toBlock c.block) stop l.length off c.current_offset := by
  by_cases hfin : st.2.2 = true
  · simp only [hfin, Bool.not_true, Bool.false_eq_true, if_false] at hr
    obtain ⟨hb, hoff⟩ := scan_loop stop l c off st h hloop hfin
    obtain ⟨rfl, hy⟩ := ret_current st.1 c' (by rw [hb]; exact h) r hr
    exact ⟨hb, hy, hoff⟩
  · have : st.2.2 = false := by simpa using hfin
    simp [this, throw, throwThe, MonadExceptOf.throw, Except.bind] at hr

/-- the cursor a scan leaves, when the model keeps the old offset where the scan finds nothing -/
theorem toBC_of_scan {c c' : Gen.BlockCursor} (hb : c'.block = c.block) (S : Option Nat) :
    (c'.current_offset = match S with | some o => some o | none => c.current_offset) →
    toBC c' = match S with | some o => { toBC c with off := some o } | none => toBC c := by
  intro ho
  show ({ block := toBlock c'.block, off := c'.current_offset } : Grenad.BlockCursor) = _
  rw [hb, ho]
  cases S <;> rfl

theorem src_bc_last (c c' : Gen.BlockCursor) (h : OKBlock c.block) (r : Option (Bytes × Bytes))
    (hr : Gen.BlockCursor.move_on_last c = .ok (r, c')) : (toBC c', r) = (toBC c).last ∧ c'.block = c.block := by
  unfold Gen.BlockCursor.move_on_last at hr
  simp only [bind, pure] at hr
  obtain ⟨offs, hoffs', hr⟩ := bind_ok hr
  simp only [Gen.Block.index_offsets_fn, pure, Except.pure, Except.ok.injEq] at hoffs'
  subst hoffs'
  unfold Grenad.BlockCursor.last
  have hoffs : (toBC c).block.offsets = c.block.index_offsets := rfl
  have hlen : (toBC c).block.payload.length = c.block.payload_size := h.payload_length
  rw [hoffs]
  simp only [Option.map_id'] at hr
  cases hl : c.block.index_offsets.getLast? with
  | none =>
    simp only [hl] at hr
    obtain ⟨rfl, hy⟩ := ret_current { block := c.block, current_offset := none } c' h r hr
    refine ⟨?_, rfl⟩
    rw [hy]
    rfl
  | some off =>
    simp only [hl] at hr
    obtain ⟨st, hloop, hr⟩ := bind_ok hr
    obtain ⟨hb, hy, hoff⟩ := scan_finish (fun _ => false) _ c c' off st r h hloop hr
    refine ⟨?_, hb⟩
    rw [List.length_range', scanGen_acc] at hoff
    dsimp only
    rw [hlen, scanLast_eq, hy, toBC_of_scan hb _ hoff]
    rfl

/-- a comparison that returns on every element of the table makes the monadic search the pure one -/
theorem binSearchBaseM_total {α} (cmpM : α → M Ordering) (cmp : α → Ordering) (l : List α)
    (hc : ∀ x ∈ l, cmpM x = .ok (cmp x)) : ∀ f b s,
    binSearchBaseM cmpM l f b s = .ok (binSearchBase cmp l f b s) := by
  intro f
  induction f with
  | zero => intros; rfl
  | succ f ih =>
    intro b s
    simp only [binSearchBaseM, binSearchBase]
    split
    · cases hl : l[b + s / 2]? with
      | none => rfl
      | some x =>
        have hx : x ∈ l := List.mem_of_getElem? hl
        simp only [bind, Except.bind, hc x hx]
        exact ih _ _
    · rfl

theorem binSearchByM_total {α} (cmpM : α → M Ordering) (cmp : α → Ordering) (l : List α)
    (hc : ∀ x ∈ l, cmpM x = .ok (cmp x)) : binSearchByM cmpM l = .ok (binSearchBy' cmp l) := by
  unfold binSearchByM binSearchBy'
  split
  · rfl
  · rw [binSearchBaseM_total cmpM cmp l hc]
    simp only [bind, Except.bind, pure, Except.pure]
    cases hl : l[binSearchBase cmp l (l.length + 1) 0 l.length]? with
    | none => rfl
    | some x =>
      have hx : x ∈ l := List.mem_of_getElem? hl
      simp only [hc x hx]
      cases cmp x <;> rfl

theorem okOrErr_eq (x : Except Nat Nat) : R.okOrErr x = Grenad.okOrErr x := by cases x <;> rfl

theorem binarySearch_eq (l : List Nat) (x : Nat) :
    binarySearch l x = binSearchBy' (fun o => compare o x) l := by
  unfold binarySearch
  rw [binSearchByM_total (fun o => (pure (compare o x) : M Ordering)) (fun o => compare o x) l
    (fun _ _ => rfl)]

theorem src_bc_prev (c c' : Gen.BlockCursor) (h : OKBlock c.block) (r : Option (Bytes × Bytes))
    (hr : Gen.BlockCursor.move_on_prev c = .ok (r, c')) :
    (toBC c', r) = BinSearch.prevBS binSearchBy' (toBC c) ∧ c'.block = c.block := by
  unfold Gen.BlockCursor.move_on_prev at hr
  simp only [bind, pure] at hr
  unfold BinSearch.prevBS
  have hlen : (toBC c).block.payload.length = c.block.payload_size := h.payload_length
  cases ho : c.current_offset with
  | none =>
    simp only [ho] at hr
    obtain ⟨this, hbb⟩ := src_bc_last c c' h r (bind_pair_ok hr)
    refine ⟨?_, hbb⟩
    simp only [toBC, ho] at this ⊢
    exact this
  | some cur =>
    simp only [ho] at hr
    have hoff : (toBC c).off = some cur := by simp [toBC, ho]
    simp only [hoff]
    obtain ⟨offs, hoffs', hr⟩ := bind_ok hr
    simp only [Gen.Block.index_offsets_fn, pure, Except.pure, Except.ok.injEq] at hoffs'
    subst hoffs'
    have hoffs : (toBC c).block.offsets = c.block.index_offsets := rfl
    rw [hoffs, ← binarySearch_eq]
    simp only [okOrErr_eq] at hr
    generalize hj : Grenad.okOrErr (binarySearch c.block.index_offsets cur) = j at hr ⊢
    by_cases hj0 : j = 0
    · subst hj0
      cases hr
      simp
    · have hcs : checkedSub j 1 = some (j - 1) := by simp [checkedSub]; omega
      simp only [hcs, hj0, if_false] at hr ⊢
      obtain ⟨e, he, hr⟩ := bind_ok hr
      have hx := entry_at_ok c.block h cur e he
      have hx' : Grenad.Block.entryAt (toBC c).block cur = e := hx.symm
      rw [hx']
      cases e with
      | none =>
        cases hr
        exact ⟨rfl, rfl⟩
      | some ent =>
        obtain ⟨curKey, v, nx⟩ := ent
        simp only [Option.map_some] at hr
        obtain ⟨start, hidx, hr⟩ := bind_ok hr
        have hstart : c.block.index_offsets.getD (j - 1) 0 = start := by
          rw [List.getD_eq_getElem?_getD, idx_ok_inv hidx]; rfl
        obtain ⟨st, hloop, hr⟩ := bind_ok hr
        obtain ⟨hb, hy, hoffst⟩ := scan_finish (fun k => curKey == k) _ c c' start st r h hloop hr
        refine ⟨?_, hb⟩
        have hstop : (fun k => curKey == k) = (fun k => decide (curKey = k)) := by
          funext k; by_cases hk : curKey = k <;> simp [hk]
        rw [List.length_range', hstop, scanGen_acc] at hoffst
        dsimp only
        rw [hlen, scanPrev_eq, hstart, hy, toBC_of_scan hb _ hoffst]
        rfl

theorem binSearchBaseM_ok {α} (cmpM : α → M Ordering) (cmp : α → Ordering)
    (hc : ∀ x v, cmpM x = .ok v → v = cmp x) (l : List α) : ∀ f b s r,
    binSearchBaseM cmpM l f b s = .ok r → r = binSearchBase cmp l f b s := by
  intro f
  induction f with
  | zero => intro b s r h; simp [binSearchBaseM, pure, Except.pure] at h; simp [binSearchBase, h]
  | succ f ih =>
    intro b s r h
    simp only [binSearchBaseM, binSearchBase] at h ⊢
    split at h
    · rename_i hs
      simp only [hs, if_true]
      cases hl : l[b + s / 2]? with
      | none => simp [hl, pure, Except.pure] at h; simp [h]
      | some x =>
        simp only [hl, bind, Except.bind] at h
        cases hcx : cmpM x with
        | error e => simp [hcx] at h
        | ok v =>
          simp only [hcx] at h
          have := hc x v hcx
          subst this
          exact ih _ _ _ h
    · rename_i hs
      simp only [hs, if_false]
      simp [pure, Except.pure] at h
      exact h.symm

theorem binSearchByM_ok {α} (cmpM : α → M Ordering) (cmp : α → Ordering)
    (hc : ∀ x v, cmpM x = .ok v → v = cmp x) (l : List α) (r : Except Nat Nat)
    (h : binSearchByM cmpM l = .ok r) : r = binSearchBy' cmp l := by
  unfold binSearchByM at h
  unfold binSearchBy'
  split at h
  · rename_i h0; simp [pure, Except.pure] at h; simp [h0, h]
  · rename_i h0
    simp only [h0, if_false]
    obtain ⟨base, hb, h⟩ := bind_ok h
    have hbase := binSearchBaseM_ok cmpM cmp hc l _ _ _ _ hb
    subst hbase
    cases hl : l[binSearchBase cmp l (l.length + 1) 0 l.length]? with
    | none => simp [hl, pure, Except.pure] at h; simp [h]
    | some x =>
      simp only [hl] at h ⊢
      obtain ⟨v, hv, h⟩ := bind_ok h
      have := hc x v hv
      subst this
      cases hcx : cmp x <;> simp [hcx, pure, Except.pure] at h ⊢ <;> exact h.symm

theorem cmpOptBytes_eq (a b : Option Bytes) : R.cmpOptBytes a b = compareOption Grenad.cmpBytes a b := by
  cases a <;> cases b <;> simp [R.cmpOptBytes, compareOption, R.cmpBytes, Grenad.cmpBytes, compareOfLessAndEq]

theorem src_bc_le (c c' : Gen.BlockCursor) (h : OKBlock c.block) (key : Bytes) (r : Option (Bytes × Bytes))
    (hr : Gen.BlockCursor.move_on_key_lower_than_or_equal_to c key = .ok (r, c')) :
    (toBC c', r) = BinSearch.leBS binSearchBy' (toBC c) key ∧ c'.block = c.block := by
  unfold Gen.BlockCursor.move_on_key_lower_than_or_equal_to at hr
  simp only [bind, pure] at hr
  unfold BinSearch.leBS
  have hlen : (toBC c).block.payload.length = c.block.payload_size := h.payload_length
  obtain ⟨offs, hoffs', hr⟩ := bind_ok hr
  simp only [Gen.Block.index_offsets_fn, pure, Except.pure, Except.ok.injEq] at hoffs'
  subst hoffs'
  have hoffs : (toBC c).block.offsets = c.block.index_offsets := rfl
  obtain ⟨res, hsearch, hr⟩ := bind_ok hr
  -- the monadic search with the translated comparison is the pure loop with the model's comparison
  have hres : res = binSearchBy' (BinSearch.cmpKey (toBC c).block key) c.block.index_offsets := by
    unfold binarySearchByKeyM at hsearch
    apply binSearchByM_ok _ _ _ _ _ hsearch
    intro off v hv
    simp only [bind, Except.bind, pure, Except.pure] at hv
    cases he : Gen.Block.entry_at c.block off with
    | error e => simp [he] at hv
    | ok e =>
      have hx := entry_at_ok c.block h off e he
      simp only [he, Except.ok.injEq] at hv
      rw [← hv, cmpOptBytes_eq]
      unfold BinSearch.cmpKey BinSearch.keyAt
      rw [show (toBC c).block = toBlock c.block from rfl, ← hx]
  simp only [hoffs]
  rw [← hres]
  cases res with
  | ok i =>
    simp only [foundAt] at hr ⊢
    obtain ⟨o, hidx, hr⟩ := bind_ok hr
    have ho : c.block.index_offsets.getD i 0 = o := by
      rw [List.getD_eq_getElem?_getD, idx_ok_inv hidx]; rfl
    obtain ⟨rfl, hy⟩ := ret_current { block := c.block, current_offset := some o } c' h r hr
    refine ⟨?_, rfl⟩
    rw [hy, ho]
    rfl
  | error i =>
    simp only [foundAt] at hr ⊢
    by_cases hi0 : i = 0
    · subst hi0
      simp only [checkedSub, Option.bind] at hr
      simp at hr
      obtain ⟨rfl, hy⟩ := ret_current { block := c.block, current_offset := none } c' h r hr
      refine ⟨?_, rfl⟩
      rw [hy]
      rfl
    · have hcs : checkedSub i 1 = some (i - 1) := by simp [checkedSub]; omega
      simp only [hcs, Option.bind, hi0, Bool.false_eq_true, if_false] at hr ⊢
      cases hg : c.block.index_offsets[i - 1]? with
      | none =>
        simp only [hg] at hr
        obtain ⟨rfl, hy⟩ := ret_current { block := c.block, current_offset := none } c' h r hr
        refine ⟨?_, rfl⟩
        rw [hy]
        rfl
      | some off =>
        simp only [hg] at hr
        obtain ⟨st, hloop, hr⟩ := bind_ok hr
        obtain ⟨hb, hy, hoffst⟩ := scan_finish (fun k => decide (key < k)) _
          { block := c.block, current_offset := none } c' off st r h hloop hr
        refine ⟨?_, hb⟩
        rw [List.length_range'] at hoffst
        dsimp only
        have hst : toBC c' = { toBC c with
            off := scanGen (toBC c).block (fun k => decide (key < k)) (c.block.payload_size + 1) off none } := by
          show ({ block := toBlock c'.block, off := c'.current_offset } : Grenad.BlockCursor) = _
          rw [hb, hoffst]
          rfl
        rw [hlen, scanLe_eq, hy, hst]

/-- the model's `ge` over the search loop `bs` (it is `le` followed by a step) -/
def geBS (bs : (Nat → Ordering) → List Nat → Except Nat Nat) (c : Grenad.BlockCursor) (key : Bytes) :
    Grenad.BlockCursor × Option Entry :=
  match BinSearch.leBS bs c key with
  | (c', some (k, v)) => if k = key then (c', some (k, v)) else c'.next
  | (c', none) => c'.first

theorem ge_eq_geBS (c : Grenad.BlockCursor) (key : Bytes) (h : BinSearch.TableKeysAsc c.block) :
    c.ge key = geBS binSearchBy' c key := by
  unfold Grenad.BlockCursor.ge geBS
  rw [(BinSearch.le_eq_leBS c key h).2]
  rfl

theorem src_bc_ge (c c' : Gen.BlockCursor) (h : OKBlock c.block) (key : Bytes) (r : Option (Bytes × Bytes))
    (hr : Gen.BlockCursor.move_on_key_greater_than_or_equal_to c key = .ok (r, c')) :
    (toBC c', r) = geBS binSearchBy' (toBC c) key ∧ c'.block = c.block := by
  unfold Gen.BlockCursor.move_on_key_greater_than_or_equal_to at hr
  simp only [bind, pure] at hr
  obtain ⟨x, hle, hr⟩ := bind_ok hr
  obtain ⟨r1, c1⟩ := x
  obtain ⟨hl, hb1⟩ := src_bc_le c c1 h key r1 hle
  have h1 : OKBlock c1.block := by rw [hb1]; exact h
  unfold geBS
  rw [← hl]
  cases r1 with
  | none =>
    simp only at hr ⊢
    obtain ⟨hfirst, hb2⟩ := src_bc_first c1 c' h1 r (bind_pair_ok hr)
    exact ⟨hfirst, by rw [hb2, hb1]⟩
  | some kv =>
    obtain ⟨k, v⟩ := kv
    simp only at hr ⊢
    by_cases hk : k = key
    · subst hk
      simp only [beq_self_eq_true, if_true, Except.pure, Except.ok.injEq, Prod.mk.injEq] at hr
      obtain ⟨rfl, rfl⟩ := hr
      simp [hb1]
    · have hbeq : (k == key) = false := by simp [hk]
      simp only [hbeq, Bool.false_eq_true, if_false] at hr
      obtain ⟨hnext, hb2⟩ := src_bc_next c1 c' h1 r (bind_pair_ok hr)
      simp only [hk, if_false]
      exact ⟨hnext, by rw [hb2, hb1]⟩

/-! ### against the model's own operations (strictly ascending tables: every block a writer builds) -/

theorem src_bc_prev_model (c c' : Gen.BlockCursor) (h : OKBlock c.block) (r : Option (Bytes × Bytes))
    (hasc : (toBC c).block.offsets.Pairwise (· < ·))
    (hr : Gen.BlockCursor.move_on_prev c = .ok (r, c')) : (toBC c', r) = (toBC c).prev := by
  rw [(BinSearch.prev_eq_prevBS (toBC c) hasc).2]
  exact (src_bc_prev c c' h r hr).1

theorem src_bc_le_model (c c' : Gen.BlockCursor) (h : OKBlock c.block) (key : Bytes) (r : Option (Bytes × Bytes))
    (hasc : BinSearch.TableKeysAsc (toBC c).block)
    (hr : Gen.BlockCursor.move_on_key_lower_than_or_equal_to c key = .ok (r, c')) :
    (toBC c', r) = (toBC c).le key := by
  rw [(BinSearch.le_eq_leBS (toBC c) key hasc).2]
  exact (src_bc_le c c' h key r hr).1

theorem src_bc_ge_model (c c' : Gen.BlockCursor) (h : OKBlock c.block) (key : Bytes) (r : Option (Bytes × Bytes))
    (hasc : BinSearch.TableKeysAsc (toBC c).block)
    (hr : Gen.BlockCursor.move_on_key_greater_than_or_equal_to c key = .ok (r, c')) :
    (toBC c', r) = (toBC c).ge key := by
  rw [ge_eq_geBS (toBC c) key hasc]
  exact (src_bc_ge c c' h key r hr).1

end Grenad.SrcTie
