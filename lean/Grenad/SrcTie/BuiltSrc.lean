/-
  Grenad.SrcTie.BuiltSrc — the block level end to end on regenerated code: entries pushed through the
  TRANSLATED `BlockWriter::insert`, the block closed by the TRANSLATED `BlockWriter::finish`, its footer read
  as `Block::read_from` does (the model's `Block.parse`), then any sequence of moves of the TRANSLATED in-block
  cursor: every move that returns gives the list cursor's answer over exactly the inserted entries.
-/
import Grenad.SrcTie.TBlockSrc
import Grenad.SrcTie.BlockWriter
import Grenad.Proofs.TBlock

set_option linter.unusedSimpArgs false
set_option linter.unusedVariables false

namespace Grenad.SrcTie
open Grenad Grenad.R Grenad.Gen

def genInsertAll (w : Gen.BlockWriter) : List Entry → M Gen.BlockWriter
  | [] => pure w
  | (k, v) :: es =>
    match BlockWriter.insert w k v with
    | .ok w' => genInsertAll w' es
    | .error e => .error e

/-- the debug assertion of `BlockWriter::insert` is an invariant of the model's block writer -/
theorem insert_counter_inv (bw bw' : BW) (k v : Bytes) (h1 : 1 ≤ bw.interval) (hc : bw.counter ≤ bw.interval)
    (h : bw.insert k v = .ok bw') : bw'.counter ≤ bw'.interval ∧ bw'.interval = bw.interval := by
  obtain ⟨_, _, _, rfl⟩ := (BW.insert_ok_iff bw bw' k v).mp h
  refine ⟨?_, rfl⟩
  show (if bw.counter = bw.interval then 0 else bw.counter) + 1 ≤ bw.interval
  split <;> omega

theorem src_insertAll_lockstep : ∀ (es : List Entry) (w : Gen.BlockWriter) (items : List Entry) (bw' : BW),
    1 ≤ w.index_key_interval → w.index_key_interval < 2 ^ 64 → w.index_key_counter ≤ w.index_key_interval →
    (toBW w items).insertAll es = .ok bw' →
    ∃ w', genInsertAll w es = .ok w' ∧ toBW w' (items ++ es) = bw' := by
  intro es
  induction es with
  | nil =>
    intro w items bw' _ _ _ h
    simp [BW.insertAll] at h
    exact ⟨w, rfl, by simpa using h⟩
  | cons e es ih =>
    intro w items bw' h1 hi hc h
    obtain ⟨k, v⟩ := e
    simp only [BW.insertAll] at h
    have hs := src_bw_insert w items k v hc hi
    cases hm : BW.insert (toBW w items) k v with
    | error t => simp [hm] at h
    | ok bw1 =>
      rw [hm] at hs h
      simp only at hs h
      obtain ⟨w1, hw1, hto⟩ := hs
      obtain ⟨hc1, hiv1⟩ := insert_counter_inv (toBW w items) bw1 k v (by simpa [toBW] using h1) (by simpa [toBW] using hc) hm
      have e1 : w1.index_key_interval = bw1.interval := by rw [← hto]; rfl
      have e2 : w1.index_key_counter = bw1.counter := by rw [← hto]; rfl
      have hiv1' : bw1.interval = w.index_key_interval := by rw [hiv1]; rfl
      obtain ⟨w', hw', hto'⟩ := ih w1 (items ++ [(k, v)]) bw' (by omega) (by omega) (by omega) (by rw [hto]; exact h)
      refine ⟨w', ?_, ?_⟩
      · simp only [genInsertAll, hw1]; exact hw'
      · simpa using hto'

def genNew (iv : Nat) : Gen.BlockWriter :=
  { buffer := [], last_key := none, index_key_interval := iv, index_offsets := [0], index_key_counter := 0 }

theorem src_block_end_to_end {iv : Nat} (hiv : 1 ≤ iv) (hi : iv < 2 ^ 64) {es : List Entry} (hasc : StrictAsc es)
    (hl : ∀ e ∈ es, e.1.length < 2 ^ 32 ∧ e.2.length < 2 ^ 32) (hsz : (frames es).length < 2 ^ 32)
    (ct : Gen.CompressionType) :
    ∃ (w wf : Gen.BlockWriter) (b : Grenad.Block),
      genInsertAll (genNew iv) es = .ok w ∧ BlockWriter.finish w = .ok wf ∧
      Grenad.Block.parse wf.buffer = some b ∧ BlockOf iv es b ∧
      -- the block as `Block::read_from` leaves it, and every run of translated cursor moves over it
      let gb : Gen.Block := { compression_type := ct, buffer := wf.buffer, payload_size := b.payload.length, index_offsets := b.offsets }
      toBlock gb = b ∧ OKBlock gb ∧
      ∀ (ms : List Mov) (rs : List (Option (Bytes × Bytes))) (c' : Gen.BlockCursor),
        (ms.foldlM (fun (s : Gen.BlockCursor × List (Option (Bytes × Bytes))) m => do
            let (r, c1) ← genMove m s.1
            pure (c1, s.2 ++ [r])) (({ block := gb, current_offset := none } : Gen.BlockCursor), []) : M _) = .ok (c', rs) →
        rs = (ms.foldl (fun (s : LC × List (Option Entry)) m =>
            ((LC.ops.apply m s.1).1, s.2 ++ [(LC.ops.apply m s.1).2])) (LC.ofList es, [])).2 := by
  obtain ⟨bw, b, hins, hbuilt, hparse, hpay, hoffs, hbo⟩ := tblock_roundtrip hiv hasc hl hsz
  have h0 : toBW (genNew iv) [] = BW.new iv := rfl
  obtain ⟨w, hw, hto⟩ := src_insertAll_lockstep es (genNew iv) [] bw hiv hi (by simp [genNew]) (by rw [h0]; exact hins)
  simp only [List.nil_append] at hto
  have hinv := hbuilt.inv hiv
  have hlen : w.index_offsets.length < 2 ^ 32 := by
    have e1 : w.index_offsets = bw.offsets := by rw [← hto]; rfl
    have := offsetTable_length_le iv es
    rw [e1, hinv.offsets_eq hiv]
    have hb := hinv.buffer
    omega
  have hfin := src_bw_finish w es hlen
  rw [hto] at hfin
  cases hf : BlockWriter.finish w with
  | error e => simp [hf, Except.map] at hfin
  | ok wf =>
    simp only [hf, Except.map, Except.ok.injEq] at hfin
    refine ⟨w, wf, b, hw, hf, by rw [hfin]; exact hparse, hbo, ?_⟩
    intro gb
    have hgb : toBlock gb = b := by
      have hpre : wf.buffer.take b.payload.length = b.payload := by
        rw [hfin, hpay]
        simp [BW.finish, List.append_assoc]
      show ({ payload := wf.buffer.take b.payload.length, offsets := b.offsets } : Grenad.Block) = b
      rw [hpre]
    have hok : OKBlock gb := by
      constructor
      · show b.payload.length ≤ wf.buffer.length
        rw [hfin, hpay]; simp [BW.finish]
      · show wf.buffer.length < 2 ^ 62
        rw [hfin]
        have hb := hinv.buffer
        have e1 : w.index_offsets = bw.offsets := by rw [← hto]; rfl
        simp only [BW.finish, List.length_append, flatMap_be64_length, be32_length, hb, ← e1]
        omega
    refine ⟨hgb, hok, ?_⟩
    intro ms rs c' hrun
    exact src_tblock_run ms { block := gb, current_offset := none } (LC.ofList es) hok (by rw [hgb]; exact hbo)
      (BRepr.ofBlock es (toBlock gb)) rs c' hrun

end Grenad.SrcTie
