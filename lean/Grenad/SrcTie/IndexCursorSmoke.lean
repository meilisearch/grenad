/-
  Grenad.SrcTie.IndexCursorSmoke — non-vacuity of the `IndexBlockCursor` tie: on a concrete two-level index
  (a root index block over two leaf index blocks, uncompressed) the TRANSLATED `IndexBlockCursor::move_on_*`
  functions return (no panic, no `Err`), all hypotheses of the `src_index_*` theorems hold, and the theorems
  deliver the model's answer.  Evaluation by the kernel (`decide +kernel`), nothing assumed.
-/
import Grenad.SrcTie.IndexCursor

namespace Grenad.SrcTie.IdxSmoke
open Grenad Grenad.R Grenad.Gen Grenad.SrcTie

/-- one entry frame (lengths < 128: one-byte varints) -/
def frame (k v : Bytes) : Bytes := [k.length.toUInt8, v.length.toUInt8] ++ k ++ v

/-- a block with a single table offset `0`: length prefix, payload, table, table size -/
def blockBytes (es : List (Bytes × Bytes)) : Bytes :=
  let payload := es.flatMap fun (k, v) => frame k v
  let raw := payload ++ beBytes 8 0 ++ beBytes 4 1
  beBytes 8 raw.length ++ raw

def leaf1 : Bytes := blockBytes [([1], beBytes 8 1000), ([2], beBytes 8 2000)]
def leaf2 : Bytes := blockBytes [([3], beBytes 8 3000), ([4], beBytes 8 4000)]
/-- the root: last key of each leaf ↦ offset of the leaf -/
def root : Bytes := blockBytes [([2], beBytes 8 0), ([4], beBytes 8 leaf1.length)]

def file : Bytes := leaf1 ++ leaf2 ++ root

def s0 : Gen.IndexBlockCursor :=
  { base_block_offset := leaf1.length + leaf2.length, compression_type := .none, index_levels := 1, inner := none }

def rd0 : Src := { bytes := file, pos := 0 }

abbrev dec : CompressionType → List UInt8 → Option (List UInt8) := fun _ => Codec.none.decompress

/-- first, three times next (crossing into the second leaf: a reload), next at the end, prev back across the
    boundary, a seek, last — all on translated code -/
def run : M (List (Option (List UInt8 × List UInt8))) := do
  let (a, s, rd) ← IndexBlockCursor.move_on_first dec s0 rd0
  let (b, s, rd) ← IndexBlockCursor.move_on_next dec s rd
  let (c, s, rd) ← IndexBlockCursor.move_on_next dec s rd
  let (d, s, rd) ← IndexBlockCursor.move_on_next dec s rd
  let (e, s, rd) ← IndexBlockCursor.move_on_next dec s rd
  let (f, s, rd) ← IndexBlockCursor.move_on_key_greater_than_or_equal_to dec s [2] rd
  let (g, s, rd) ← IndexBlockCursor.move_on_next dec s rd
  let (h, s, rd) ← IndexBlockCursor.move_on_prev dec s rd
  let (i, _, _) ← IndexBlockCursor.move_on_last dec s rd
  pure [a, b, c, d, e, f, g, h, i]

def okOf {α} : M α → Option α
  | .ok v => some v
  | .error _ => none

example : okOf run = some [some ([1], beBytes 8 1000), some ([2], beBytes 8 2000), some ([3], beBytes 8 3000),
    some ([4], beBytes 8 4000), none, some ([2], beBytes 8 2000), some ([3], beBytes 8 3000),
    some ([2], beBytes 8 2000), some ([4], beBytes 8 4000)] := by
  decide +kernel

/-! the hypotheses of the theorems on this file -/

theorem small : SmallBlocks Codec.none file := smallBlocks_none file (by decide +kernel)

theorem good0 : GoodIdx (fun _ => True) s0 := goodIdx_none _ s0 rfl

/-- the translated `move_on_first` returns on this file … -/
theorem first_returns : ∃ s' rd', IndexBlockCursor.move_on_first dec s0 rd0 = .ok (some ([1], beBytes 8 1000), s', rd') := by
  have h : (okOf (IndexBlockCursor.move_on_first dec s0 rd0)).map (·.1) = some (some ([1], beBytes 8 1000)) := by
    decide +kernel
  cases hx : IndexBlockCursor.move_on_first dec s0 rd0 with
  | error e => rw [hx] at h; cases h
  | ok x =>
    obtain ⟨r, s', rd'⟩ := x
    rw [hx] at h
    simp only [okOf, Option.map_some, Option.some.injEq] at h
    subst h
    exact ⟨s', rd', rfl⟩

/-- … so the theorem applies: the model's `iterIndex` returns the same entry, from the abstraction of `s0`. -/
example : ∃ c', RC.iterIndex byteOps (loadCursor Codec.none file) .first
    { base := s0.base_block_offset, levels := 1, inner := none, cur := none, log := [] }
      = some (c', some ([1], beBytes 8 1000)) := by
  obtain ⟨s', rd', h⟩ := first_returns
  obtain ⟨log', hm, _⟩ := src_index_move_on_first Codec.none file (fun _ => True) small (loadsQ_true _ _)
    s0 good0 rd0 rfl none [] _ s' rd' h
  exact ⟨_, hm⟩

/-- the offset table of the root block ascends strictly (one half of `SortedBlock`, the hypothesis of
    `src_index_move_on_prev`) -/
example : ∃ b, loadBlock Codec.none file s0.base_block_offset = some b ∧ b.offsets.Pairwise (· < ·) := by
  refine ⟨{ payload := (root.drop 8).take 22, offsets := [0] }, by decide +kernel, by simp⟩

end Grenad.SrcTie.IdxSmoke
