/-
  Grenad.SrcTie.IndexCursorRec — translator tie for `IndexBlockCursor::recursive_index_block`
  (src/reader/reader_cursor.rs) and its nested function `recursive` (translated with a fuel argument):
  they are the model's `RC.recurIndex` / `RC.recurLevels` with `fixF1 = true` — the source records the offset of
  a reloaded block next to it (`*block_offset = offset;`).
  The model walks the levels last-first (`inner.reverse`), the code splits the last element off a slice.
-/
import Grenad.SrcTie.IndexCursorIter

set_option linter.unusedSimpArgs false
set_option linter.unusedVariables false

namespace Grenad.SrcTie
open Grenad Grenad.R Grenad.Gen

section
variable (cd : Codec) (file : Bytes) (Q : Grenad.Block → Prop)
  (ops : BlockOps Grenad.BlockCursor) (m : Mov)

variable (hs : SmallBlocks cd file) (hq : LoadsQ cd file Q)
  (mov : Gen.BlockCursor → M (Option (Bytes × Bytes) × Gen.BlockCursor))
  (htie : MovTie Q mov (ops.apply m)) (hcur : ops.current = Grenad.BlockCursor.current)
include hs hq htie hcur

/-- **`recursive` (the nested function), by induction on the translator's fuel.**  Whenever it returns, the
    model's `recurLevels` (repaired: `fixF1 = true`) over the reversed levels returns the same entry and the
    same levels; no level is added or dropped. -/
theorem src_recursive_go : ∀ (fuel : Nat) (blocks : List (Nat × Gen.BlockCursor)) (rd : Src)
    (ct : CompressionType) (log : List Nat) (r : Option (Bytes × Bytes)) (rd' : Src)
    (blocks' : List (Nat × Gen.BlockCursor)),
    GoodL Q blocks → rd.bytes = file →
    Gen.IndexBlockCursor.recursive_index_block.recursive.go (fun _ => cd.decompress) rd ct blocks mov fuel
      = .ok (r, rd', blocks') →
    ∃ log', RC.recurLevels ops (loadCursor cd file) true m (absL blocks).reverse log
        = some ((absL blocks').reverse, r, log') ∧
      GoodL Q blocks' ∧ rd'.bytes = file ∧ blocks'.length = blocks.length := by
  intro fuel
  induction fuel with
  | zero =>
    intro blocks rd ct log r rd' blocks' hg hrd h
    rw [Gen.IndexBlockCursor.recursive_index_block.recursive.go] at h
    cases h
  | succ fuel ih =>
    intro blocks rd ct log r rd' blocks' hg hrd h
    rw [Gen.IndexBlockCursor.recursive_index_block.recursive.go] at h
    simp only [bind, pure] at h
    rcases List.eq_nil_or_concat blocks with hnil | ⟨init, last, hcat⟩
    · subst hnil
      have hn : ¬ (0 < ([] : List (Nat × Gen.BlockCursor)).length) := by simp
      rw [if_neg hn] at h
      injection h with h
      simp only [Prod.mk.injEq] at h
      obtain ⟨h1, h2, h3⟩ := h
      subst h1 h2 h3
      exact ⟨log, by simp [absL, RC.recurLevels], hg, hrd, rfl⟩
    · rw [List.concat_eq_append] at hcat
      subst hcat
      obtain ⟨lo, lc⟩ := last
      have hpos : 0 < (init ++ [(lo, lc)]).length := by simp
      have hj : (init ++ [(lo, lc)]).length - 1 = init.length := by simp
      simp only [hpos, if_true, hj, getElem!_append_cons _ _ rfl, set_append_cons _ _ rfl, List.take_left,
        List.drop_left] at h
      obtain ⟨x, hmov, h⟩ := bind_ok h
      obtain ⟨r2, a3⟩ := x
      have hglc : Good Q lc := hg (lo, lc) (by simp)
      obtain ⟨happ, hblk⟩ := htie lc r2 a3 hglc hmov
      have hga3 : Good Q a3 := hglc.of_block hblk
      have hrev : (absL (init ++ [(lo, lc)])).reverse = (lo, toBC lc) :: (absL init).reverse := by
        simp [absL]
      rw [hrev]
      cases r2 with
      | some e =>
        obtain ⟨k, ob⟩ := e
        simp only at h
        obtain ⟨v, hv, h⟩ := bind_ok h
        have hvc := src_bc_current a3 hga3.1 v hv
        cases h
        refine ⟨log, ?_, hg.left.append (GoodL.cons hga3 (GoodL.nil Q)), hrd, by simp⟩
        simp only [RC.recurLevels, ← happ, hcur, hvc]
        simp [absL]
      | none =>
        simp only at h
        obtain ⟨x1, hrec, h⟩ := bind_ok h
        obtain ⟨r4, rd1, m6⟩ := x1
        obtain ⟨log1, hmodel1, hgm6, hrd1, hlen⟩ := ih init rd ct log r4 rd1 m6 hg.left hrd hrec
        cases r4 with
        | none =>
          cases h
          refine ⟨log1, ?_, hgm6.append (GoodL.cons hga3 (GoodL.nil Q)), hrd1, by simp [hlen]⟩
          simp only [RC.recurLevels, ← happ, hmodel1]
          simp [absL]
        | some e =>
          obtain ⟨k, ob⟩ := e
          simp only at h
          obtain ⟨off, hoff, h⟩ := bind_ok h
          have hoffo := beValueN8_ok ob off hoff k
          rw [genLoad_bind] at h
          obtain ⟨x0, hload, h⟩ := bind_ok h
          obtain ⟨c, rd2⟩ := x0
          obtain ⟨hmodel, hgood, _, hrd2⟩ := src_load_cursor cd file Q hs hq rd1 hrd1 off _ c rd2 hload
          have hl' := hlen.symm
          simp only [getElem!_append_cons m6 init.length hl', set_append_cons m6 init.length hl'] at h
          obtain ⟨x3, hmov2, h⟩ := bind_ok h
          obtain ⟨r11, a12⟩ := x3
          obtain ⟨happ2, hblk2⟩ := htie c r11 a12 hgood hmov2
          cases h
          refine ⟨off :: log1, ?_, hgm6.append (GoodL.cons (hgood.of_block hblk2) (GoodL.nil Q)), hrd2,
            by simp [hlen]⟩
          simp only [RC.recurLevels, ← happ, hmodel1, ← hoffo, hmodel, ← happ2, if_true]
          simp [absL]

/-- **`recursive`** with the fuel the translator passes (`blocks.len() + 1`). -/
theorem src_recursive (blocks : List (Nat × Gen.BlockCursor)) (rd : Src) (ct : CompressionType)
    (log : List Nat) (r : Option (Bytes × Bytes)) (rd' : Src) (blocks' : List (Nat × Gen.BlockCursor))
    (hg : GoodL Q blocks) (hrd : rd.bytes = file)
    (h : Gen.IndexBlockCursor.recursive_index_block.recursive (fun _ => cd.decompress) rd ct blocks mov
      = .ok (r, rd', blocks')) :
    ∃ log', RC.recurLevels ops (loadCursor cd file) true m (absL blocks).reverse log
        = some ((absL blocks').reverse, r, log') ∧
      GoodL Q blocks' ∧ rd'.bytes = file ∧ blocks'.length = blocks.length :=
  src_recursive_go cd file Q ops m hs hq mov htie hcur _ blocks rd ct log r rd' blocks' hg hrd h

/-- **`recursive_index_block`.**  Whenever the translated function returns `(r, self', reader')`, the model's
    `recurIndex` (with `fixF1 = true`) returns `r` and the state `self'` abstracts to. -/
theorem src_recursive_index_block (s : Gen.IndexBlockCursor) (hg : GoodIdx Q s) (rd : Src)
    (hrd : rd.bytes = file) (cur : Option Grenad.BlockCursor) (log : List Nat)
    (r : Option (Bytes × Bytes)) (s' : Gen.IndexBlockCursor) (rd' : Src)
    (h : Gen.IndexBlockCursor.recursive_index_block (fun _ => cd.decompress) s rd mov = .ok (r, s', rd')) :
    ∃ log', RC.recurIndex ops (loadCursor cd file) true m (toRC s cur log) = some (toRC s' cur log', r) ∧
      GoodIdx Q s' ∧ rd'.bytes = file ∧ s'.base_block_offset = s.base_block_offset ∧
      s'.index_levels = s.index_levels ∧ s'.compression_type = s.compression_type := by
  unfold Gen.IndexBlockCursor.recursive_index_block at h
  simp only [bind, pure] at h
  cases hinner : s.inner with
  | some inner =>
    rw [hinner] at h
    simp only [Option.isNone_some, Bool.false_eq_true, if_false, Option.getD_some] at h
    obtain ⟨x, hrec, h⟩ := bind_ok h
    obtain ⟨r4, rd5, m6⟩ := x
    cases h
    obtain ⟨log', hmodel, hgm6, hrd5, _⟩ :=
      src_recursive cd file Q ops m hs hq mov htie hcur inner rd s.compression_type log r4 rd5 m6
        (hg inner hinner) hrd hrec
    have hri : (toRC s cur log).inner = some (absL inner) := by rw [toRC_inner, hinner]; rfl
    refine ⟨log', ?_, ?_, hrd5, rfl, rfl, rfl⟩
    · rw [RC.recurIndex_some hri]
      refine (congrArg (Option.map _) hmodel).trans ?_
      simp only [Option.map_some, List.reverse_reverse]
      rfl
    · intro l hl; simp only [Option.some.injEq] at hl; subst hl; exact hgm6
  | none =>
    rw [hinner] at h
    simp only [Option.isNone_none, if_true] at h
    obtain ⟨x, hinit, h⟩ := bind_ok h
    obtain ⟨ri, si, rdi⟩ := x
    obtain ⟨hsi, hrdi, hgi, log1, hmodel1⟩ :=
      src_initial_index_blocks cd file Q hs hq ops m mov htie s rd hrd log ri si rdi hinit
    subst hsi
    have hri : (toRC si cur log).inner = none := by rw [toRC_inner, hinner]; rfl
    have hmodel1' : RC.initialIndex ops (loadCursor cd file) m ((toRC si cur log).levels + 1) (toRC si cur log).base []
        (toRC si cur log).log = some (ri.map absL, log1) := hmodel1
    cases ri with
    | none =>
      cases h
      refine ⟨log1, ?_, ?_, hrdi, rfl, rfl, rfl⟩
      · rw [RC.recurIndex_none hri, hmodel1']
        rfl
      · intro l hl; cases hl
    | some inner =>
      simp only [Option.getD_some] at h
      obtain ⟨x, hrec, h⟩ := bind_ok h
      obtain ⟨r4, rd5, m6⟩ := x
      cases h
      obtain ⟨log', hmodel, hgm6, hrd5, _⟩ :=
        src_recursive cd file Q ops m hs hq mov htie hcur inner rdi si.compression_type log1 r4 rd5 m6
          (hgi inner rfl) hrdi hrec
      refine ⟨log', ?_, ?_, hrd5, rfl, rfl, rfl⟩
      · rw [RC.recurIndex_none hri, hmodel1']
        simp only [Option.map_some]
        rw [RC.recurIndex_some rfl, hmodel]
        simp only [Option.map_some, List.reverse_reverse]
        rfl
      · intro l hl; simp only [Option.some.injEq] at hl; subst hl; exact hgm6

end

end Grenad.SrcTie
