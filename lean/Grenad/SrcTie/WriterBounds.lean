/-
  Grenad.SrcTie.WriterBounds — the `usize` bounds `WSmall` assumed by the whole-run tie hold on every state of
  a run of fewer than 2^26 entries with key and value lengths below 2^32 (the writer rejects longer ones):
  a consequence of the writer invariant `W.Inv` (every block writer is reachable from an empty one by
  successful inserts, and the keys held by all of them form a sublist of the input keys).
-/
import Grenad.SrcTie.WriterRun

set_option linter.unusedSimpArgs false
set_option linter.unusedVariables false

namespace Grenad.SrcTie
open Grenad Grenad.R Grenad.Gen

theorem reach_counter_le {iv : Nat} {w : BW} (h : BW.Reach iv w) (hiv : 1 ≤ iv) : w.counter ≤ iv := by
  induction h with
  | new => simp [BW.new]
  | step hp hins ih =>
    rw [bw_counter_insert hins, hp.interval_eq]
    split <;> omega

theorem reach_sizes {iv : Nat} {w : BW} (h : BW.Reach iv w) :
    w.offsets.length ≤ w.items.length + 1 ∧ w.buffer.length ≤ w.items.length * 2 ^ 34 := by
  induction h with
  | new => simp [BW.new]
  | @step p w' k v hp hins ih =>
    obtain ⟨hk, hv, _, hb, _, hit, _, ho⟩ := BW.insert_ok hins
    have hu : u32Max = 4294967295 := rfl
    have b1 := encode32_length_bounds k.length
    have b2 := encode32_length_bounds v.length
    have i1 := ih.1
    have i2 := ih.2
    refine ⟨?_, ?_⟩
    · rw [hit]; rcases ho with ho | ho <;> rw [ho] <;> simp <;> omega
    · rw [hb, hit, List.length_append, List.length_append, frame_length]
      simp only [List.length_cons, List.length_nil]
      omega


theorem bwKeys_length_le_allKeys {idx : List BW} {b : BW} (hb : b ∈ idx) : b.items.length ≤ (allKeys idx).length := by
  induction idx with
  | nil => cases hb
  | cons a t ih =>
    simp only [allKeys_cons, List.length_append]
    rcases List.mem_cons.mp hb with h | h
    · subst h; simp [bwKeys]
    · have := ih h; omega

/-- every state of a run over `pre` (at most `n` entries) is within the bounds -/
theorem wsmall_of_go (cd : Codec) (cfg : WCfg) (pre : List Entry) (w' : W) (n : Nat)
    (hiv : 1 ≤ cfg.interval) (hiv2 : cfg.interval < 2 ^ 64) (hn : pre.length ≤ n) (hn2 : n < 2 ^ 26)
    (hgo : W.run.go cd (W.new cfg) pre = .ok w') : WSmall w' := by
  have hspec := W.go_spec cd pre (W.new cfg) (W.inv_new cfg)
  rw [hgo, W.keys_new, List.nil_append] at hspec
  obtain ⟨hcfg, hI, hcount, hsub, _⟩ := hspec
  have hcfg' : w'.cfg = cfg := hcfg
  have hklen : (W.keys w').length ≤ n := by
    have := hsub.length_le
    simp only [List.length_map] at this
    omega
  simp only [W.keys, List.length_append] at hklen
  have hbwk : (bwKeys w'.bw).length = w'.bw.items.length := by simp [bwKeys]
  have small : ∀ b : BW, BW.Reach cfg.interval b → b.items.length ≤ n → BWSmall b := by
    intro b hr hl
    have c2 := hr.interval_eq
    obtain ⟨s1, s2⟩ := reach_sizes hr
    refine ⟨by rw [c2]; exact reach_counter_le hr hiv, by rw [c2]; exact hiv, by rw [c2]; exact hiv2, ?_, ?_⟩
    · have : b.items.length * 2 ^ 34 ≤ n * 2 ^ 34 := Nat.mul_le_mul_right _ hl
      have h2 : n * 2 ^ 34 < 2 ^ 26 * 2 ^ 34 := Nat.mul_lt_mul_of_pos_right hn2 (by decide)
      exact Nat.lt_trans (Nat.lt_of_le_of_lt (Nat.le_trans s2 this) h2) (by decide)
    · exact Nat.lt_of_le_of_lt (Nat.le_trans s1 (Nat.succ_le_succ hl))
        (Nat.lt_of_le_of_lt (Nat.succ_le_of_lt hn2) (by decide))
  refine ⟨small _ (hcfg' ▸ hI.bwR) (by omega), ?_, ?_, ?_⟩
  · intro i hi
    have hmem : w'.idx[i] ∈ w'.idx := List.getElem_mem hi
    exact small _ (hcfg' ▸ hI.idxR _ hmem) (by have := bwKeys_length_le_allKeys hmem; omega)
  · have : w'.count = pre.length := by simpa [W.new] using hcount
    omega
  · rw [hI.len]; omega

/-- **C01 for the bytes the regenerated writer produces, with explicit size limits only**: fewer than 2^26
    entries, keys and values shorter than 2^32, `index_key_interval` a nonzero `usize`, a compressor whose output on
    blocks shorter than 2^63 bytes is shorter than 2^64 bytes (jointly satisfiable with `cd.Lawful`, e.g. by
    `Codec.none`: `FrtSmoke.builder_hyps_sat`, SrcTie/FullRoundTrip.lean). -/
theorem src_C01_writer_roundtrip_bounded (cd : Codec) (cfg : WCfg) (es : List Entry) (ct : CompressionType) (lvl : Nat)
    (hlaw : cd.Lawful) (hid : cd.id ≤ 5) (hlv : cfg.levels ≤ 255) (hiv : 1 ≤ cfg.interval) (hiv2 : cfg.interval < 2 ^ 64)
    (hasc : StrictAsc es) (hlens : ∀ e ∈ es, e.1.length < 2 ^ 32 ∧ e.2.length < 2 ^ 32)
    (hcount : es.length < 2 ^ 26)
    (hcd : ∀ b : Bytes, b.length < 2 ^ 63 → (cd.compress b).length < 2 ^ 64) (hct : ct.toNat = cd.id) :
    ∃ file log, genWriterRun (codecFn cd) (genWriterNew cfg ct lvl) es = .ok file ∧ W.run cd cfg es = .ok (file, log) ∧
      (file.length < 2 ^ 64 → (∀ e ∈ log, e.raw.length < 2 ^ 32) →
        ∃ m, Meta.parse file = .ok m ∧
          m.count = es.length ∧ m.codec = cd.id ∧ m.version = 2 ∧ m.levels = cfg.levels ∧
          Props.C01.scanForward cd file (es.length + 1) (RC.new m) =
            es.map (fun e => Res.ok (some e)) ++ [Res.ok none] ∧
          Props.C01.scanBackward cd file (es.length + 1) (RC.new m) =
            es.reverse.map (fun e => Res.ok (some e)) ++ [Res.ok none]) :=
  src_C01_writer_roundtrip cd cfg es ct lvl hlaw hid hlv hiv hasc hlens (by omega) hcd hct
    (fun pre w' hp hgo => wsmall_of_go cd cfg pre w' es.length hiv hiv2 hp.length_le hcount hgo)

end Grenad.SrcTie
