/-
  Grenad.SrcTie.IndexCursorInit — translator tie for `IndexBlockCursor::initial_index_blocks`
  (src/reader/reader_cursor.rs): the `for _ in 0..depth` loop is the model's `RC.initialIndex`.
-/
import Grenad.SrcTie.IndexCursorLoad

set_option linter.unusedSimpArgs false
set_option linter.unusedVariables false

namespace Grenad.SrcTie
open Grenad Grenad.R Grenad.Gen

/-- state of the emitted loop: early-return value, reader, `inner`, `jump_to_offset` -/
abbrev InitSt :=
  Option (Option (List (Nat × Gen.BlockCursor)) × Gen.IndexBlockCursor × Src) × Src ×
    List (Nat × Gen.BlockCursor) × Nat

/-- the body of the `for _ in 0..depth` loop of `initial_index_blocks`, as emitted -/
def initBody (cd : Codec) (s : Gen.IndexBlockCursor)
    (mov : Gen.BlockCursor → M (Option (Bytes × Bytes) × Gen.BlockCursor)) {α : Type} (_ : α) (st : InitSt) :
    M (ForInStep InitSt) :=
  Except.bind (liftIo (st.snd.fst.seekStart st.snd.snd.snd).fst) fun _ =>
    Except.bind (Gen.Block.new (fun _ => cd.decompress) (st.snd.fst.seekStart st.snd.snd.snd).snd s.compression_type) fun x =>
      Except.bind x.fst.into_cursor fun c =>
        Except.bind (mov c) fun x1 =>
          match x1.fst with
          | some (_key, offset_bytes) =>
            Except.bind (beValueN 8 offset_bytes) fun v =>
              Except.pure (ForInStep.yield (none, x.snd, st.snd.snd.fst ++ [(v, x1.snd)], v))
          | none =>
            Except.pure (ForInStep.done (some (none, s, x.snd), x.snd, st.snd.snd.fst, st.snd.snd.snd))

/-- `initial_index_blocks` without the loop state: descend `d` levels from `jump`, collecting `(offset, cursor)`;
    `none` when some level answers `None`.  The recursion of the model's `RC.initialIndex`. -/
def initM (cd : Codec) (ct : CompressionType)
    (mov : Gen.BlockCursor → M (Option (Bytes × Bytes) × Gen.BlockCursor)) :
    Nat → Src → Nat → List (Nat × Gen.BlockCursor) → M (Option (List (Nat × Gen.BlockCursor)) × Src)
  | 0, rd, _, acc => .ok (some acc, rd)
  | d + 1, rd, jump, acc =>
    Except.bind (genLoad cd rd jump ct) fun x =>
    Except.bind (mov x.1) fun y =>
      match y.1 with
      | some (_, ob) => Except.bind (beValueN 8 ob) fun v => initM cd ct mov d x.2 v (acc ++ [(v, y.2)])
      | none => .ok (none, x.2)

/-- what follows the loop in `initial_index_blocks` -/
def initK (s : Gen.IndexBlockCursor) (st : InitSt) :
    M (Option (List (Nat × Gen.BlockCursor)) × Gen.IndexBlockCursor × Src) :=
  match st.1 with
  | some ret => .ok ret
  | none => .ok (some st.2.2.1, s, st.2.1)

theorem init_loop_eq (cd : Codec) (s : Gen.IndexBlockCursor)
    (mov : Gen.BlockCursor → M (Option (Bytes × Bytes) × Gen.BlockCursor)) {α : Type} :
    ∀ (l : List α) (rd : Src) (acc : List (Nat × Gen.BlockCursor)) (jump : Nat),
      Except.bind (forIn l ((none, rd, acc, jump) : InitSt) (initBody cd s mov)) (initK s) =
        Except.bind (initM cd s.compression_type mov l.length rd jump acc) fun x => .ok (x.1, s, x.2)
  | [], rd, acc, jump => rfl
  | a :: l, rd, acc, jump => by
    rw [List.forIn_cons]
    simp only [bind, initBody, initM, genLoad, bind_assoc', List.length_cons]
    refine bind_congr fun _ => bind_congr fun x => bind_congr fun c => ?_
    simp only [Except.pure, ok_bind]
    refine bind_congr fun y => ?_
    obtain ⟨r, c'⟩ := y
    cases r with
    | none => rfl
    | some e =>
      simp only [bind_assoc', ok_bind]
      exact bind_congr fun v => init_loop_eq cd s mov l x.snd _ v

theorem initial_index_blocks_eq (cd : Codec) (s : Gen.IndexBlockCursor) (rd : Src)
    (mov : Gen.BlockCursor → M (Option (Bytes × Bytes) × Gen.BlockCursor)) :
    Gen.IndexBlockCursor.initial_index_blocks (fun _ => cd.decompress) s rd mov =
      Except.bind (add 64 s.index_levels 1) fun depth =>
        Except.bind (initM cd s.compression_type mov depth rd s.base_block_offset []) fun x =>
          .ok (x.1, s, x.2) := by
  unfold Gen.IndexBlockCursor.initial_index_blocks
  simp only [bind, pure]
  cases add 64 s.index_levels 1 with
  | error e => rfl
  | ok depth =>
    simp only [ok_bind]
    have := init_loop_eq cd s mov (List.range' 0 (depth - 0)) rd [] s.base_block_offset
    rw [List.length_range', Nat.sub_zero] at this
    refine Eq.trans ?_ this
    congr 1
    funext st
    obtain ⟨o, rd', acc, j⟩ := st
    cases o <;> rfl

section
variable (cd : Codec) (file : Bytes) (Q : Grenad.Block → Prop)
  (hs : SmallBlocks cd file) (hq : LoadsQ cd file Q)
  (ops : BlockOps Grenad.BlockCursor) (m : Mov)
  (mov : Gen.BlockCursor → M (Option (Bytes × Bytes) × Gen.BlockCursor))
  (htie : MovTie Q mov (ops.apply m))
include hs hq htie

/-- whenever the descent returns, the model's `initialIndex` returns the same levels; the new cursors are good -/
theorem initM_model (ct : CompressionType) : ∀ (d : Nat) (rd : Src) (jump : Nat)
    (acc : List (Nat × Gen.BlockCursor)) (log : List Nat) (r : Option (List (Nat × Gen.BlockCursor))) (rd' : Src),
    rd.bytes = file → GoodL Q acc → initM cd ct mov d rd jump acc = .ok (r, rd') →
    rd'.bytes = file ∧ (∀ l, r = some l → GoodL Q l) ∧
      ∃ log', RC.initialIndex ops (loadCursor cd file) m d jump (absL acc).reverse log = some (r.map absL, log') := by
  intro d
  induction d with
  | zero =>
    intro rd jump acc log r rd' hrd hacc h
    cases h
    refine ⟨hrd, ?_, log, ?_⟩
    · intro l hl; cases hl; exact hacc
    · simp [RC.initialIndex]
  | succ d ih =>
    intro rd jump acc log r rd' hrd hacc h
    unfold initM at h
    obtain ⟨x, hload, h⟩ := bind_ok h
    obtain ⟨c, rd1⟩ := x
    obtain ⟨hmodel, hgood, _, hrd1⟩ := src_load_cursor cd file Q hs hq rd hrd jump _ c rd1 hload
    obtain ⟨y, hmov, h⟩ := bind_ok h
    obtain ⟨e, c'⟩ := y
    obtain ⟨happ, hblk⟩ := htie c e c' hgood hmov
    cases e with
    | none =>
      cases h
      refine ⟨hrd1, fun l hl => (by cases hl), jump :: log, ?_⟩
      simp only [RC.initialIndex, hmodel, ← happ, Option.map_none]
    | some e =>
      obtain ⟨k, ob⟩ := e
      obtain ⟨v, hv, h⟩ := bind_ok h
      have hvo := beValueN8_ok ob v hv k
      have hacc' : GoodL Q (acc ++ [(v, c')]) := hacc.append (GoodL.cons (hgood.of_block hblk) (GoodL.nil Q))
      obtain ⟨hb, hg, log', hres⟩ := ih rd1 v (acc ++ [(v, c')]) (jump :: log) r rd' hrd1 hacc' h
      refine ⟨hb, hg, log', ?_⟩
      rw [absL_append, List.reverse_append] at hres
      simp only [RC.initialIndex, hmodel, ← happ, ← hvo]
      exact hres

/-- **`initial_index_blocks`.**  Whenever the translated function returns, the model's `initialIndex` returns
    the same levels (`none` when some level answered `None`), `self` is unchanged, the new cursors are good
    and the reader still reads `file`. -/
theorem src_initial_index_blocks (s : Gen.IndexBlockCursor) (rd : Src) (hrd : rd.bytes = file)
    (log : List Nat) (r : Option (List (Nat × Gen.BlockCursor))) (s' : Gen.IndexBlockCursor) (rd' : Src)
    (h : Gen.IndexBlockCursor.initial_index_blocks (fun _ => cd.decompress) s rd mov = .ok (r, s', rd')) :
    s' = s ∧ rd'.bytes = file ∧ (∀ l, r = some l → GoodL Q l) ∧
      ∃ log', RC.initialIndex ops (loadCursor cd file) m (s.index_levels + 1) s.base_block_offset [] log
        = some (r.map absL, log') := by
  rw [initial_index_blocks_eq] at h
  obtain ⟨depth, hdepth, h⟩ := bind_ok h
  have hd : depth = s.index_levels + 1 := by
    unfold add at hdepth
    split at hdepth
    · cases hdepth; rfl
    · cases hdepth
  subst hd
  obtain ⟨x, hx, h⟩ := bind_ok h
  cases h
  obtain ⟨hb, hg, log', hres⟩ :=
    initM_model cd file Q hs hq ops m mov htie _ _ rd s.base_block_offset [] log x.1 x.2 hrd (GoodL.nil Q) hx
  exact ⟨rfl, hb, hg, log', hres⟩

end

end Grenad.SrcTie
