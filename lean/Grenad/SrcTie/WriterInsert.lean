/-
  Grenad.SrcTie.WriterInsert — `Writer::insert` is the model's `W.insert`.
-/
import Grenad.SrcTie.WriterCut

set_option linter.unusedSimpArgs false
set_option linter.unusedVariables false

namespace Grenad.SrcTie
open Grenad Grenad.R Grenad.Gen

/-- the translated `Writer` against the model's `W` (ghost fields `items`, `log` aside) -/
structure RW (g : Gen.Writer) (w : W) : Prop where
  bw : mBW g.block_writer w.bw
  idx : mIdx g.index_block_writers w.idx
  out : g.writer = w.out
  count : g.entries_count = w.count
  bs : g.block_size = w.cfg.clamped

/-- bounds under which one `insert` cannot overflow -/
structure SmallW (g : Gen.Writer) : Prop where
  bw : Small (2 ^ 61) (2 ^ 30) g.block_writer
  idx : ∀ t, t < g.index_block_writers.length → Small (2 ^ 61) (2 ^ 30) g.index_block_writers[t]!
  count : g.entries_count + 1 < 2 ^ 64
  levels : 0 < g.index_block_writers.length

/-- `Writer::insert` with its level loop named -/
theorem insert_eq (C : CompressFn) (g : Gen.Writer) (k v : Bytes) :
    Gen.Writer.insert C g k v = (do
      let mut self_ := g
      let m_2 ← Grenad.Gen.BlockWriter.insert self_.block_writer k v
      self_ := { self_ with block_writer := m_2 }
      self_ := { self_ with entries_count := (← add 64 self_.entries_count 1) }
      if (decide (self_.block_size ≤ (← Grenad.Gen.BlockWriter.current_size_estimate self_.block_writer))) then
        match (← Grenad.Gen.BlockWriter.last_key_fn self_.block_writer) with
        | Option.some last_key =>
          if decide (0 < self_.index_block_writers.length) then
            let offset : Nat := self_.writer.length
            let m_4 ← Grenad.Gen.BlockWriter.insert (self_.index_block_writers[self_.index_block_writers.length - 1]!) last_key (beBytes 8 offset)
            self_ := { self_ with index_block_writers := (self_.index_block_writers.set (self_.index_block_writers.length - 1) m_4) }
            let (m_6, m_7) ← Grenad.Gen.compress_and_write_block C self_.writer self_.block_writer self_.compression_type self_.compression_level
            self_ := { self_ with writer := m_6 }
            self_ := { self_ with block_writer := m_7 }
          let _ ← sliceFrom self_.index_block_writers 1
          self_ ← forIn (List.range' 1 (self_.index_block_writers.length - 1)).reverse self_ (cutStep C)
        | _ =>
          pure ()
      return self_) := rfl

/-- **`Writer::insert` is the model's `W.insert`**: same new writer state (block writer, every index level,
    bytes handed to the sink, entry count) when the model accepts the entry, a panic when it traps. -/
theorem src_writer_insert (cd : Codec) (hcd : ∀ b : Bytes, b.length < 2 ^ 63 → (cd.compress b).length < 2 ^ 64) (g : Gen.Writer) (w : W)
    (k v : Bytes) (hr : RW g w) (hs : SmallW g) :
    match W.insert cd w k v with
    | .ok w' => ∃ g', Gen.Writer.insert (codecFn cd) g k v = .ok g' ∧ RW g' w' ∧
        g'.compression_type = g.compression_type ∧ g'.compression_level = g.compression_level ∧
        w'.cfg = w.cfg
    | .error _ => ∃ msg, Gen.Writer.insert (codecFn cd) g k v = .error (.panic msg) := by
  rw [insert_eq]
  have hlev := hs.levels
  have hlen : g.index_block_writers.length = w.idx.length := hr.idx.1
  have hpos : 0 < w.idx.length := hlen ▸ hlev
  have hn1 : w.idx.length - 1 < w.idx.length := Nat.sub_lt hpos Nat.one_pos
  have hn1g : w.idx.length - 1 < g.index_block_writers.length := hlen ▸ hn1
  have hc := W.insert_cases cd w k v hpos
  have hins := bw_insert_sim g.block_writer w.bw k v hr.bw hs.bw
  cases hb : w.bw.insert k v with
  | error t =>
    rw [hb] at hc hins
    rw [hc]
    obtain ⟨msg, hmsg⟩ := hins
    exact ⟨msg, by simp only [bind, Except.bind, hmsg]⟩
  | ok bw1 =>
    rw [hb] at hc hins
    dsimp only at hc
    rw [← hr.bs] at hc
    obtain ⟨x1, hx1, hx2, hx3⟩ := hins
    have hcnt : add 64 g.entries_count 1 = .ok (g.entries_count + 1) := by
      simp [add, hs.count, pure, Except.pure]
    have hlk : bw1.lastKey = some k := BW.insert_lastKey hb
    simp only [bind, Except.bind, hx1, hcnt, bw_size_sim _ bw1 hx2 hx3, bw_last_key_sim _ bw1 hx2, hlk, pure,
      Except.pure]
    by_cases hlt : bw1.sizeEstimate < g.block_size
    · -- the data block stays pending
      rw [if_pos hlt] at hc
      rw [hc]
      have hsz : ¬ g.block_size ≤ bw1.sizeEstimate := Nat.not_le.mpr hlt
      simp only [hsz, decide_false, Bool.false_eq_true, if_false]
      exact ⟨_, rfl, ⟨hx2, hr.idx, hr.out, by simp [hr.count], hr.bs⟩, by simp⟩
    · -- the data block goes out, then the level loop runs
      rw [if_neg hlt] at hc
      obtain ⟨lastIdx, hl1, hc⟩ := hc
      have hsz : g.block_size ≤ bw1.sizeEstimate := Nat.le_of_not_lt hlt
      obtain ⟨b, hb1, hl2⟩ := hr.idx.get hn1
      rw [hl1] at hb1; cases hb1
      simp only [hsz, decide_true, if_true, hlev]
      rw [hlen]
      rw [← hr.out] at hc
      have hpi := bw_insert_sim _ lastIdx k (be64 g.writer.length) hl2 (hs.idx _ hn1g)
      cases hp : lastIdx.insert k (be64 g.writer.length) with
      | error t =>
        rw [hp] at hpi hc
        rw [hc]
        obtain ⟨msg, hmsg⟩ := hpi
        exact ⟨msg, by simp only [beBytes8_eq, hmsg]⟩
      | ok lastIdx' =>
        rw [hp] at hpi hc
        rw [hc]
        obtain ⟨y, hy1, hy2, hy3⟩ := hpi
        obtain ⟨z, hz1, hz2⟩ := bw_emit_sim cd hcd g.writer x1 bw1 g.compression_type g.compression_level hx2 hx3
        simp only [beBytes8_eq, hy1, hz1]
        have hsl : sliceFrom (g.index_block_writers.set (w.idx.length - 1) y) 1 = .ok ((g.index_block_writers.set (w.idx.length - 1) y).drop 1) := by
          have h1l : 1 ≤ (g.index_block_writers.set (w.idx.length - 1) y).length := by rw [List.length_set]; exact hlev
          simp only [sliceFrom, h1l, if_true, pure, Except.pure]
        simp only [hsl, List.length_set, hlen]
        -- the state entering the level loop
        have hloop := cut_loop cd hcd (w.idx.length - 1)
          { block_writer := z, index_block_writers := g.index_block_writers.set (w.idx.length - 1) y,
            compression_type := g.compression_type, compression_level := g.compression_level,
            block_size := g.block_size, entries_count := g.entries_count + 1,
            writer := g.writer ++ W.blockBytes cd bw1.finish }
          (w.idx.set (w.idx.length - 1) lastIdx')
          (w.log ++ [{ offset := g.writer.length, level := 0, raw := bw1.finish, items := bw1.items }])
          (hr.idx.set _ hy2) (by rw [List.length_set]; exact hn1)
          (fun t ht => by
            show Small _ _ (g.index_block_writers.set (w.idx.length - 1) y)[t]!
            rw [get!_set_ne _ _ _ _ (Nat.ne_of_gt ht)]
            exact hs.idx t (Nat.lt_trans ht hn1g))
          (by
            show Small _ _ (g.index_block_writers.set (w.idx.length - 1) y)[w.idx.length - 1]!
            rw [get!_set_eq _ _ _ hn1g]
            exact hy3)
        dsimp only at hloop
        dsimp only [dataAt]
        cases hcl : W.cutLevels cd g.block_size (w.idx.length - 1) (w.idx.set (w.idx.length - 1) lastIdx')
            (g.writer ++ W.blockBytes cd bw1.finish)
            (w.log ++ [{ offset := g.writer.length, level := 0, raw := bw1.finish, items := bw1.items }]) with
        | error t =>
          rw [hcl] at hloop
          obtain ⟨msg, hmsg⟩ := hloop
          exact ⟨msg, by rw [hmsg]⟩
        | ok r =>
          rw [hcl] at hloop
          obtain ⟨idx', out', log'⟩ := r
          obtain ⟨g', h1, h2, h3, c1, c2, c3, c4, c5⟩ := hloop
          refine ⟨g', by rw [h1], ⟨?_, h2, h3, ?_, ?_⟩, c2, c3, rfl⟩
          · rw [c1]; exact hz2
          · rw [c5]; show g.entries_count + 1 = w.count + 1; rw [hr.count]
          · rw [c4]; exact hr.bs

end Grenad.SrcTie
