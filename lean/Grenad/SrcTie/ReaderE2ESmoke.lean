/-
  Grenad.SrcTie.ReaderE2ESmoke — non-vacuity of the end-to-end reader theorems (ReaderE2E.lean, ReaderE2EGen.lean).

  The file is `Props.C01.exFile`: the bytes the model writer produces for twelve entries with `Codec.none`, four data
  blocks, two bottom-level index blocks, one middle index block and the root (`Props.C01.exSetting` is the `Setting`).
  On it the REGENERATED code — `Reader::new`, `Reader::into_cursor` and fifteen public `ReaderCursor` calls crossing
  block boundaries in both directions, seeking, running off the end, resetting — returns `.ok` at every call (kernel
  evaluation, `decide +kernel`; nothing assumed), every hypothesis of `src_C03_history_open` holds, and the theorem
  delivers the agreement with the specification cursor over `Props.C01.exEs`.
-/
import Grenad.Props.C01
import Grenad.SrcTie.ReaderE2EGen

namespace Grenad.SrcTie.E2ESmoke
open Grenad Grenad.R Grenad.Gen Grenad.SrcTie Grenad.Props.C01 Grenad.Assembly

def okOf {α} : M α → Option α
  | .ok v => some v
  | .error _ => none

/-- `Reader::new(Cursor::new(exFile))?.into_cursor()?`, then a history of public calls — all on translated code -/
def run (hist : List Op) : M (List (Option (Bytes × Bytes))) :=
  Except.bind (Gen.Reader.new { bytes := exFile, pos := 0 }) fun rdr =>
  Except.bind (Gen.Reader.into_cursor rdr) fun s0 =>
  Except.bind (genRcRun Codec.none s0 hist) fun x => Except.pure x.1

def hist : List Op :=
  [.first, .next, .next, .next, .next, .prev, .ge [3], .le [8], .eq [5, 5], .last, .next, .current, .reset,
   .prev, .prev]

/-- what the translated code returns (no `Err`, no panic) -/
def expected : List (Option (Bytes × Bytes)) :=
  [some ([1], [10]), some ([2], [20, 21]), some ([3, 0], []), some ([3, 1], [30, 31, 32]), some ([4], [40]),
   some ([3, 1], [30, 31, 32]), some ([3, 0], []), some ([7, 0], []), none, some ([9, 5, 5], [95]), none, none,
   none, some ([9, 5, 5], [95]), some ([9], [90])]

theorem run_returns : okOf (run hist) = some expected := by
  decide +kernel

/-- the run returns: witnesses for the hypotheses of `src_C03_history_open` -/
theorem returns : ∃ rdr s0 s', Gen.Reader.new { bytes := exFile, pos := 0 } = .ok rdr ∧
    Gen.Reader.into_cursor rdr = .ok s0 ∧ genRcRun Codec.none s0 hist = .ok (expected, s') := by
  have h := run_returns
  unfold run at h
  cases h1 : Gen.Reader.new { bytes := exFile, pos := 0 } with
  | error e => rw [h1] at h; cases h
  | ok rdr =>
    rw [h1] at h
    simp only [Except.bind] at h
    cases h2 : Gen.Reader.into_cursor rdr with
    | error e => rw [h2] at h; cases h
    | ok s0 =>
      rw [h2] at h
      simp only at h
      cases h3 : genRcRun Codec.none s0 hist with
      | error e => rw [h3] at h; cases h
      | ok x =>
        obtain ⟨rs, s'⟩ := x
        rw [h3] at h
        simp only [okOf, Except.pure, Option.some.injEq] at h
        subst h
        exact ⟨rdr, s0, s', rfl, h2, h3⟩

theorem small : SmallBlocks Codec.none exFile := smallBlocks_none exFile (by decide +kernel)

/-- **The theorem applied.**  All hypotheses hold on this instance, and the conclusion is about the values the
    translated code actually returned. -/
example : expected.length = hist.length ∧
    ∀ x ∈ (expected.map Res.ok).zip (e2eSpecRun exEs .fresh hist), Spec.Agree x.1 x.2 := by
  obtain ⟨rdr, s0, s', h1, h2, h3⟩ := returns
  obtain ⟨g1, g2, -⟩ := src_C03_history_open exSetting small 0 rdr s0 h1 h2 hist expected s' h3
  exact ⟨g1, g2⟩

/-- The specification column is fully determined except at the one `current()` in position `lost`
    (so the agreement above pins fourteen of the fifteen results). -/
example : e2eSpecRun exEs .fresh hist =
    [some (some ([1], [10])), some (some ([2], [20, 21])), some (some ([3, 0], [])),
     some (some ([3, 1], [30, 31, 32])), some (some ([4], [40])), some (some ([3, 1], [30, 31, 32])),
     some (some ([3, 0], [])), some (some ([7, 0], [])), some none, some (some ([9, 5, 5], [95])), some none,
     none, some none, some (some ([9, 5, 5], [95])), some (some ([9], [90]))] := by
  decide +kernel

/-- The model level on the same instance: the model reader with the operations as the code computes them. -/
example (m : Meta.Meta) (hm : Meta.parse exFile = .ok m) (ops : List Op) :
    ∀ x ∈ runBothG (srcReader Codec.none exFile) exEs (RC.new m) .fresh ops, Spec.Agree x.1 x.2 :=
  srcReader_history exSetting hm ops

example (m : Meta.Meta) (hm : Meta.parse exFile = .ok m) (ops : List Op) (op : Op) :
    (srcReader Codec.none exFile (stateAfter (srcReader Codec.none exFile) (RC.new m) ops) op).2 ≠ .err :=
  srcReader_never_err exSetting hm ops op

/-- `Reader::new` returns on the written file, with the recorded count (12) and levels (2). -/
example : ∃ rdr s0, Gen.Reader.new { bytes := exFile, pos := 0 } = .ok rdr ∧ Gen.Reader.into_cursor rdr = .ok s0 ∧
    rdr.metadata.entries_count = 12 ∧ rdr.metadata.index_levels = 2 := by
  obtain ⟨rdr, s0, h1, h2, h3, h4, -⟩ := e2e_open_ok exSetting 0
  exact ⟨rdr, s0, h1, h2, h3, h4⟩

end Grenad.SrcTie.E2ESmoke

section Audit
open Grenad.SrcTie.E2ESmoke
#print axioms run_returns
#print axioms returns
#print axioms small
end Audit
