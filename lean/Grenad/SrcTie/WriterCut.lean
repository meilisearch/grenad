/-
  Grenad.SrcTie.WriterCut — the level loop of `Writer::insert`
  (`while let Some((last, head)) = slice.split_last_mut()` over `index_block_writers[1..]`, translated as a
  reverse index loop) is the model's `W.cutLevels`.  `cutStep` is the emitted loop body, named; that the
  generated `Writer::insert` is built from it is checked by `rfl` (`insert_eq`, in WriterInsert), so any change of the source
  that changes the body breaks the tie.
-/
import Grenad.SrcTie.WriterLemmas
import Grenad.Proofs.WriterEq

set_option linter.unusedSimpArgs false
set_option linter.unusedVariables false

namespace Grenad.SrcTie
open Grenad Grenad.R Grenad.Gen

/-- one iteration of the level loop of `Writer::insert`, as emitted (index `j` of `index_block_writers`) -/
def cutStep (compress : CompressFn) (j_8 : Nat) (self_ : Gen.Writer) : M (ForInStep Gen.Writer) := do
  let mut self_ := self_
  if (decide (self_.block_size ≤ (← Grenad.Gen.BlockWriter.current_size_estimate (self_.index_block_writers[j_8]!)))) then
    match (← Grenad.Gen.BlockWriter.last_key_fn (self_.index_block_writers[j_8]!)) with
    | Option.some last_key =>
      if decide (1 < j_8) then
        let offset : Nat := self_.writer.length
        let m_10 ← Grenad.Gen.BlockWriter.insert (self_.index_block_writers[j_8 - 1]!) last_key (beBytes 8 offset)
        self_ := { self_ with index_block_writers := (self_.index_block_writers.set (j_8 - 1) m_10) }
        let (m_12, m_13) ← Grenad.Gen.compress_and_write_block compress self_.writer (self_.index_block_writers[j_8]!) self_.compression_type self_.compression_level
        self_ := { self_ with writer := m_12 }
        self_ := { self_ with index_block_writers := (self_.index_block_writers.set j_8 m_13) }
    | _ =>
      pure ()
  pure (ForInStep.yield self_)

/-- what the level loops leave alone -/
def sameCfg (g g' : Gen.Writer) : Prop :=
  g'.block_writer = g.block_writer ∧ g'.compression_type = g.compression_type ∧
  g'.compression_level = g.compression_level ∧ g'.block_size = g.block_size ∧ g'.entries_count = g.entries_count

theorem sameCfg.refl (g : Gen.Writer) : sameCfg g g := ⟨rfl, rfl, rfl, rfl, rfl⟩
theorem sameCfg.trans {a b c : Gen.Writer} (h1 : sameCfg a b) (h2 : sameCfg b c) : sameCfg a c := by
  obtain ⟨a1, a2, a3, a4, a5⟩ := h1
  obtain ⟨b1, b2, b3, b4, b5⟩ := h2
  exact ⟨b1.trans a1, b2.trans a2, b3.trans a3, b4.trans a4, b5.trans a5⟩

theorem range_rev_succ (s i : Nat) : (List.range' s (i + 1)).reverse = (s + i) :: (List.range' s i).reverse := by
  rw [List.range'_concat]; simp

/-- the step at index 1 does nothing (its parent is the root, outside the slice) -/
theorem cutStep_one (C : CompressFn) (g : Gen.Writer) (bw : BW) (hm : mBW g.index_block_writers[1]! bw)
    (hs : Small (2 ^ 62) (2 ^ 31) g.index_block_writers[1]!) :
    cutStep C 1 g = .ok (ForInStep.yield g) := by
  unfold cutStep
  simp only [bind, Except.bind, bw_size_sim _ bw hm hs, bw_last_key_sim _ bw hm, pure, Except.pure]
  by_cases h : g.block_size ≤ bw.sizeEstimate
  · simp only [h, decide_true, if_true]
    cases bw.lastKey <;> simp
  · simp [h]


/-- the step at an index `i + 1 ≥ 2`: the model's one unrolling of `cutLevels` -/
theorem cutStep_sim (cd : Codec) (hcd : ∀ b : Bytes, b.length < 2 ^ 63 → (cd.compress b).length < 2 ^ 64) (g : Gen.Writer) (i : Nat)
    (hi : 1 ≤ i) (cur parent : BW)
    (hcur : mBW g.index_block_writers[i + 1]! cur) (hpar : mBW g.index_block_writers[i]! parent)
    (hsc : Small (2 ^ 62) (2 ^ 31) g.index_block_writers[i + 1]!)
    (hsp : Small (2 ^ 61) (2 ^ 30) g.index_block_writers[i]!) :
    if g.block_size ≤ cur.sizeEstimate then
      match cur.lastKey with
      | some lk =>
        match parent.insert lk (be64 g.writer.length) with
        | .error _ => ∃ msg, cutStep (codecFn cd) (i + 1) g = .error (.panic msg)
        | .ok parent' => ∃ x' x'', cutStep (codecFn cd) (i + 1) g =
              .ok (ForInStep.yield { g with writer := g.writer ++ W.blockBytes cd cur.finish,
                                            index_block_writers := (g.index_block_writers.set i x').set (i + 1) x'' })
            ∧ mBW x' parent' ∧ Small (2 ^ 62) (2 ^ 31) x' ∧ mBW x'' cur.reset
      | none => cutStep (codecFn cd) (i + 1) g = .ok (ForInStep.yield g)
    else cutStep (codecFn cd) (i + 1) g = .ok (ForInStep.yield g) := by
  unfold cutStep
  have h1i : 1 < i + 1 := by omega
  simp only [bind, Except.bind, bw_size_sim _ cur hcur hsc, bw_last_key_sim _ cur hcur, pure, Except.pure,
    Nat.add_sub_cancel, h1i, decide_true, if_true]
  by_cases h : g.block_size ≤ cur.sizeEstimate
  · simp only [h, decide_true, if_true]
    cases hlk : cur.lastKey with
    | none => simp
    | some lk =>
      simp only []
      have hins := bw_insert_sim _ parent lk (be64 g.writer.length) hpar hsp
      cases hp : parent.insert lk (be64 g.writer.length) with
      | error t =>
        rw [hp] at hins
        obtain ⟨msg, hmsg⟩ := hins
        exact ⟨msg, by simp only [beBytes8_eq, hmsg]⟩
      | ok parent' =>
        rw [hp] at hins
        obtain ⟨x', hx1, hx2, hx3⟩ := hins
        have hne : i ≠ i + 1 := by omega
        have hget : (g.index_block_writers.set i x')[i + 1]! = g.index_block_writers[i + 1]! :=
          get!_set_ne _ _ _ _ hne
        obtain ⟨x'', he1, he2⟩ := bw_emit_sim cd hcd g.writer g.index_block_writers[i + 1]! cur
          g.compression_type g.compression_level hcur hsc
        refine ⟨x', x'', ?_, hx2, hx3, he2⟩
        simp only [beBytes8_eq, hx1, hget, he1]
  · simp [h]


/-- The level loop, relative to a writer `g0` whose configuration `g` still has (the loop leaves
    it alone). -/
theorem cut_loop_from (cd : Codec) (hcd : ∀ b : Bytes, b.length < 2 ^ 63 → (cd.compress b).length < 2 ^ 64)
    (g0 : Gen.Writer) :
    ∀ (m : Nat) (g : Gen.Writer) (idx : List BW) (log : List Emitted), sameCfg g0 g →
    mIdx g.index_block_writers idx → m < idx.length →
    (∀ t, t < m → Small (2 ^ 61) (2 ^ 30) g.index_block_writers[t]!) →
    Small (2 ^ 62) (2 ^ 31) g.index_block_writers[m]! →
    match W.cutLevels cd g.block_size m idx g.writer log with
    | .ok (idx', out', _) => ∃ g', forIn (List.range' 1 m).reverse g (cutStep (codecFn cd)) = .ok g' ∧
        mIdx g'.index_block_writers idx' ∧ g'.writer = out' ∧ sameCfg g0 g'
    | .error _ => ∃ msg, forIn (List.range' 1 m).reverse g (cutStep (codecFn cd)) = .error (.panic msg) := by
  intro m
  induction m with
  | zero =>
    intro g idx log h0 hm hlt _ _
    exact ⟨g, rfl, hm, rfl, h0⟩
  | succ i ih =>
    intro g idx log h0 hm hlt hs0 hs1
    have hlen : i + 1 < g.index_block_writers.length := by rw [hm.1]; exact hlt
    rw [range_rev_succ, List.forIn_cons, Nat.add_comm 1 i]
    obtain ⟨cur, hc1, hc2⟩ := hm.get hlt
    cases i with
    | zero =>
      rw [W.cutLevels_lt_two cd _ (by decide), cutStep_one _ g cur hc2 hs1]
      exact ⟨g, rfl, hm, rfl, h0⟩
    | succ i =>
      obtain ⟨parent, hp1, hp2⟩ := hm.get (Nat.lt_of_succ_lt hlt)
      have hstep := cutStep_sim cd hcd g (i + 1) (Nat.succ_pos i) cur parent hc2 hp2 hs1 (hs0 (i + 1) (Nat.lt_succ_self _))
      -- going on with an unchanged writer
      have hkeep := ih g idx log h0 hm (Nat.lt_of_succ_lt hlt) (fun t ht => hs0 t (Nat.lt_succ_of_lt ht))
        ((hs0 (i + 1) (Nat.lt_succ_self _)).mono (by decide) (by decide))
      rw [W.cutLevels_succ_succ cd _ i idx g.writer log hc1 hp1]
      by_cases hsz : g.block_size ≤ cur.sizeEstimate
      · simp only [hsz, if_true] at hstep ⊢
        cases hlk : cur.lastKey with
        | none =>
          simp only [hlk] at hstep ⊢
          rw [hstep]
          exact hkeep
        | some lk =>
          simp only [hlk] at hstep ⊢
          cases hins : parent.insert lk (be64 g.writer.length) with
          | error t =>
            simp only [hins] at hstep ⊢
            obtain ⟨msg, hmsg⟩ := hstep
            exact ⟨msg, by rw [hmsg]; rfl⟩
          | ok parent' =>
            simp only [hins] at hstep ⊢
            obtain ⟨x', x'', hrun, hx1, hx2, hy1⟩ := hstep
            rw [hrun]
            -- the writer after the cut: its levels below `i + 1` are untouched, level `i + 1` took the link
            refine ih { g with writer := g.writer ++ W.blockBytes cd cur.finish,
                               index_block_writers := (g.index_block_writers.set (i + 1) x').set (i + 2) x'' }
              _ _ (sameCfg.trans h0 ⟨rfl, rfl, rfl, rfl, rfl⟩) ((hm.set (i + 1) hx1).set (i + 2) hy1)
              (by show i + 1 < ((idx.set (i + 1) parent').set (i + 2) cur.reset).length
                  rw [List.length_set, List.length_set]; exact Nat.lt_of_succ_lt hlt) ?_ ?_
            · intro t ht
              show Small _ _ ((g.index_block_writers.set (i + 1) x').set (i + 2) x'')[t]!
              rw [get!_set_ne _ _ _ _ (Nat.ne_of_gt (Nat.lt_succ_of_lt ht)), get!_set_ne _ _ _ _ (Nat.ne_of_gt ht)]
              exact hs0 t (Nat.lt_succ_of_lt ht)
            · show Small _ _ ((g.index_block_writers.set (i + 1) x').set (i + 2) x'')[i + 1]!
              rw [get!_set_ne _ _ _ _ (Nat.succ_ne_self (i + 1)), get!_set_eq _ _ _ (Nat.lt_of_succ_lt hlen)]
              exact hx2
      · simp only [hsz, if_false] at hstep ⊢
        rw [hstep]
        exact hkeep

/-- **The level loop of `Writer::insert` is the model's `cutLevels`.** -/
theorem cut_loop (cd : Codec) (hcd : ∀ b : Bytes, b.length < 2 ^ 63 → (cd.compress b).length < 2 ^ 64) :
    ∀ (m : Nat) (g : Gen.Writer) (idx : List BW) (log : List Emitted),
    mIdx g.index_block_writers idx → m < idx.length →
    (∀ t, t < m → Small (2 ^ 61) (2 ^ 30) g.index_block_writers[t]!) →
    Small (2 ^ 62) (2 ^ 31) g.index_block_writers[m]! →
    match W.cutLevels cd g.block_size m idx g.writer log with
    | .ok (idx', out', _) => ∃ g', forIn (List.range' 1 m).reverse g (cutStep (codecFn cd)) = .ok g' ∧
        mIdx g'.index_block_writers idx' ∧ g'.writer = out' ∧ sameCfg g g'
    | .error _ => ∃ msg, forIn (List.range' 1 m).reverse g (cutStep (codecFn cd)) = .error (.panic msg) :=
  fun m g idx log => cut_loop_from cd hcd g m g idx log (sameCfg.refl g)

end Grenad.SrcTie
