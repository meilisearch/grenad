/-
  Grenad.SrcTie.WriterFinish — the level loop of `Writer::into_inner` is the model's `W.flushLevels`,
  and `Writer::into_inner` is the model's `W.finish` (file bytes equal, trailer included).
-/
import Grenad.SrcTie.WriterInsert
import Grenad.SrcTie.Meta

set_option linter.unusedSimpArgs false
set_option linter.unusedVariables false

namespace Grenad.SrcTie
open Grenad Grenad.R Grenad.Gen

/-- one iteration of the level loop of `Writer::into_inner`, as emitted -/
def flushStep (compress : CompressFn) (j_6 : Nat) (s : Gen.Writer × Nat) : M (ForInStep (Gen.Writer × Nat)) := do
  let mut self_ := s.1
  let mut index_block_offset := s.2
  index_block_offset := self_.writer.length
  match (← Grenad.Gen.BlockWriter.last_key_fn (self_.index_block_writers[j_6]!)) with
  | Option.some last_key =>
    if decide (0 < j_6) then
      let m_8 ← Grenad.Gen.BlockWriter.insert (self_.index_block_writers[j_6 - 1]!) last_key (beBytes 8 index_block_offset)
      self_ := { self_ with index_block_writers := (self_.index_block_writers.set (j_6 - 1) m_8) }
    let (m_10, m_11) ← Grenad.Gen.compress_and_write_block compress self_.writer (self_.index_block_writers[j_6]!) self_.compression_type self_.compression_level
    self_ := { self_ with writer := m_10 }
    self_ := { self_ with index_block_writers := (self_.index_block_writers.set j_6 m_11) }
  | Option.none =>
    if (decide (j_6 ≤ 0)) then
      let (m_13, m_14) ← Grenad.Gen.compress_and_write_block compress self_.writer (self_.index_block_writers[j_6]!) self_.compression_type self_.compression_level
      self_ := { self_ with writer := m_13 }
      self_ := { self_ with index_block_writers := (self_.index_block_writers.set j_6 m_14) }
  pure (ForInStep.yield (self_, index_block_offset))

/-- `Writer::into_inner` with its level loop named -/
theorem into_inner_eq (C : CompressFn) (g : Gen.Writer) :
    Gen.Writer.into_inner C g = (do
      let mut self_ := g
      match (← Grenad.Gen.BlockWriter.last_key_fn self_.block_writer) with
      | Option.some last_key =>
        if decide (0 < self_.index_block_writers.length) then
          let offset : Nat := self_.writer.length
          let m_2 ← Grenad.Gen.BlockWriter.insert (self_.index_block_writers[self_.index_block_writers.length - 1]!) last_key (beBytes 8 offset)
          self_ := { self_ with index_block_writers := (self_.index_block_writers.set (self_.index_block_writers.length - 1) m_2) }
          let (m_4, m_5) ← Grenad.Gen.compress_and_write_block C self_.writer self_.block_writer self_.compression_type self_.compression_level
          self_ := { self_ with writer := m_4 }
          self_ := { self_ with block_writer := m_5 }
      | _ =>
        pure ()
      let _ ← sliceFrom self_.index_block_writers 0
      let s ← forIn (List.range' 0 (self_.index_block_writers.length - 0)).reverse (self_, self_.writer.length) (flushStep C)
      self_ := s.1
      let index_block_offset := s.2
      let metadata : Metadata := ({ file_version := FileVersion.formatV2, index_block_offset := index_block_offset, compression_type := self_.compression_type, entries_count := self_.entries_count, index_levels := (castU 8 ((← sub 64 self_.index_block_writers.length 1))) } : Metadata)
      let (r_15, m_16) ← Grenad.Gen.Metadata.write_into metadata self_.writer
      self_ := { self_ with writer := m_16 }
      return self_.writer) := rfl


/-- emitting the root block (level 0 of the list), whether or not it is empty -/
theorem flushStep_emit (cd : Codec) (hcd : ∀ b : Bytes, b.length < 2 ^ 63 → (cd.compress b).length < 2 ^ 64) (g : Gen.Writer) (r : Nat)
    (cur : BW) (hcur : mBW g.index_block_writers[0]! cur) (hsc : Small (2 ^ 62) (2 ^ 31) g.index_block_writers[0]!) :
    ∃ x'', flushStep (codecFn cd) 0 (g, r) =
        .ok (ForInStep.yield ({ g with writer := g.writer ++ W.blockBytes cd cur.finish,
                                       index_block_writers := g.index_block_writers.set 0 x'' }, g.writer.length))
      ∧ mBW x'' cur.reset := by
  obtain ⟨x'', he1, he2⟩ := bw_emit_sim cd hcd g.writer g.index_block_writers[0]! cur
    g.compression_type g.compression_level hcur hsc
  refine ⟨x'', ?_, he2⟩
  unfold flushStep
  cases hlk : cur.lastKey with
  | some lk =>
    simp only [bind, Except.bind, bw_last_key_sim _ cur hcur, hlk, pure, Except.pure, Nat.lt_irrefl, decide_false,
      Bool.false_eq_true, if_false, he1]
  | none =>
    simp only [bind, Except.bind, bw_last_key_sim _ cur hcur, hlk, pure, Except.pure, Nat.le_refl, decide_true,
      if_true, he1]

theorem flushStep_skip (C : CompressFn) (g : Gen.Writer) (r j : Nat) (cur : BW)
    (hcur : mBW g.index_block_writers[j]! cur) (hlk : cur.lastKey = none) (hj : 0 < j) :
    flushStep C j (g, r) = .ok (ForInStep.yield (g, g.writer.length)) := by
  unfold flushStep
  have : ¬ j ≤ 0 := by omega
  simp only [bind, Except.bind, bw_last_key_sim _ cur hcur, hlk, pure, Except.pure, this, decide_false,
    Bool.false_eq_true, if_false]

theorem flushStep_link (cd : Codec) (hcd : ∀ b : Bytes, b.length < 2 ^ 63 → (cd.compress b).length < 2 ^ 64) (g : Gen.Writer) (r i : Nat)
    (cur parent : BW) (lk : Bytes) (hlk : cur.lastKey = some lk)
    (hcur : mBW g.index_block_writers[i + 1]! cur) (hpar : mBW g.index_block_writers[i]! parent)
    (hsc : Small (2 ^ 62) (2 ^ 31) g.index_block_writers[i + 1]!)
    (hsp : Small (2 ^ 61) (2 ^ 30) g.index_block_writers[i]!) :
    match parent.insert lk (be64 g.writer.length) with
    | .error _ => ∃ msg, flushStep (codecFn cd) (i + 1) (g, r) = .error (.panic msg)
    | .ok parent' => ∃ x' x'', flushStep (codecFn cd) (i + 1) (g, r) =
          .ok (ForInStep.yield ({ g with writer := g.writer ++ W.blockBytes cd cur.finish,
                                         index_block_writers := (g.index_block_writers.set i x').set (i + 1) x'' },
                                g.writer.length))
        ∧ mBW x' parent' ∧ Small (2 ^ 62) (2 ^ 31) x' ∧ mBW x'' cur.reset := by
  unfold flushStep
  have h0 : 0 < i + 1 := by omega
  simp only [bind, Except.bind, bw_last_key_sim _ cur hcur, hlk, pure, Except.pure, h0, decide_true, if_true,
    Nat.add_sub_cancel]
  have hins := bw_insert_sim _ parent lk (be64 g.writer.length) hpar hsp
  cases hp : parent.insert lk (be64 g.writer.length) with
  | error t =>
    rw [hp] at hins
    obtain ⟨msg, hmsg⟩ := hins
    exact ⟨msg, by simp only [beBytes8_eq, hmsg]⟩
  | ok parent' =>
    rw [hp] at hins
    obtain ⟨x', hx1, hx2, hx3⟩ := hins
    have hget : (g.index_block_writers.set i x')[i + 1]! = g.index_block_writers[i + 1]! :=
      get!_set_ne _ _ _ _ (by omega)
    obtain ⟨x'', he1, he2⟩ := bw_emit_sim cd hcd g.writer g.index_block_writers[i + 1]! cur
      g.compression_type g.compression_level hcur hsc
    refine ⟨x', x'', ?_, hx2, hx3, he2⟩
    simp only [beBytes8_eq, hx1, hget, he1]


/-- The level loop, relative to a writer `g0` whose configuration `g` still has and to the number `L`
    of index writers (the loop changes neither). -/
theorem flush_loop_from (cd : Codec) (hcd : ∀ b : Bytes, b.length < 2 ^ 63 → (cd.compress b).length < 2 ^ 64)
    (g0 : Gen.Writer) (L : Nat) :
    ∀ (n : Nat) (g : Gen.Writer) (idx : List BW) (log : List Emitted) (root : Nat),
    sameCfg g0 g → idx.length = L → mIdx g.index_block_writers idx → n ≤ idx.length →
    (∀ t, t + 1 < n → Small (2 ^ 61) (2 ^ 30) g.index_block_writers[t]!) →
    (1 ≤ n → Small (2 ^ 62) (2 ^ 31) g.index_block_writers[n - 1]!) →
    match W.flushLevels cd n idx g.writer log root with
    | .ok (idx', out', _, root') => ∃ g', forIn (List.range' 0 n).reverse (g, root) (flushStep (codecFn cd)) = .ok (g', root') ∧
        mIdx g'.index_block_writers idx' ∧ g'.writer = out' ∧ sameCfg g0 g' ∧ idx'.length = L
    | .error _ => ∃ msg, forIn (List.range' 0 n).reverse (g, root) (flushStep (codecFn cd)) = .error (.panic msg) := by
  intro n
  induction n with
  | zero =>
    intro g idx log root h0 hL hm _ _ _
    exact ⟨g, rfl, hm, rfl, h0, hL⟩
  | succ i ih =>
    intro g idx log root h0 hL hm hle hs0 hs1
    have hlen : i < g.index_block_writers.length := by rw [hm.1]; exact hle
    rw [range_rev_succ, List.forIn_cons, Nat.zero_add]
    obtain ⟨cur, hc1, hc2⟩ := hm.get hle
    have hsc : Small (2 ^ 62) (2 ^ 31) g.index_block_writers[i]! := by simpa using hs1 (Nat.succ_pos i)
    cases i with
    | zero =>
      obtain ⟨x'', hrun, hy1⟩ := flushStep_emit cd hcd g root cur hc2 hsc
      rw [W.flushLevels_one cd idx g.writer log root hc1, hrun]
      exact ⟨_, rfl, hm.set 0 hy1, rfl, sameCfg.trans h0 ⟨rfl, rfl, rfl, rfl, rfl⟩, by simp [rootAt, hL]⟩
    | succ i =>
      have hi : i < idx.length := Nat.lt_of_succ_lt hle
      obtain ⟨parent, hp1, hp2⟩ := hm.get hi
      rw [W.flushLevels_succ_succ cd i idx g.writer log root hc1 hp1]
      cases hlk : cur.lastKey with
      | none =>
        rw [flushStep_skip _ g root (i + 1) cur hc2 hlk (Nat.succ_pos i)]
        exact ih g idx log _ h0 hL hm (Nat.le_of_succ_le hle) (fun t ht => hs0 t (Nat.lt_succ_of_lt ht))
          (fun _ => (hs0 i (Nat.lt_succ_self _)).mono (by decide) (by decide))
      | some lk =>
        have hlink := flushStep_link cd hcd g root i cur parent lk hlk hc2 hp2 hsc (hs0 i (Nat.lt_succ_self _))
        cases hins : parent.insert lk (be64 g.writer.length) with
        | error t =>
          simp only [hins] at hlink ⊢
          obtain ⟨msg, hmsg⟩ := hlink
          exact ⟨msg, by rw [hmsg]; rfl⟩
        | ok parent' =>
          simp only [hins] at hlink ⊢
          obtain ⟨x', x'', hrun, hx1, hx2, hy1⟩ := hlink
          rw [hrun]
          -- the writer after level `i + 1` went out: levels below `i` untouched, level `i` took the link
          refine ih { g with writer := g.writer ++ W.blockBytes cd cur.finish,
                             index_block_writers := (g.index_block_writers.set i x').set (i + 1) x'' }
            ((idx.set i parent').set (i + 1) cur.reset) _ _ (sameCfg.trans h0 ⟨rfl, rfl, rfl, rfl, rfl⟩)
            (by rw [List.length_set, List.length_set]; exact hL) ((hm.set i hx1).set (i + 1) hy1)
            (by rw [List.length_set, List.length_set]; exact Nat.le_of_succ_le hle) ?_ ?_
          · intro t ht
            have hti : t < i := Nat.lt_of_succ_lt_succ ht
            show Small _ _ ((g.index_block_writers.set i x').set (i + 1) x'')[t]!
            rw [get!_set_ne _ _ _ _ (Nat.ne_of_gt (Nat.lt_succ_of_lt hti)), get!_set_ne _ _ _ _ (Nat.ne_of_gt hti)]
            exact hs0 t (Nat.lt_succ_of_lt ht)
          · intro _
            show Small _ _ ((g.index_block_writers.set i x').set (i + 1) x'')[i + 1 - 1]!
            rw [Nat.add_sub_cancel, get!_set_ne _ _ _ _ (Nat.succ_ne_self i), get!_set_eq _ _ _ (Nat.lt_of_succ_lt hlen)]
            exact hx2

/-- **The level loop of `Writer::into_inner` is the model's `flushLevels`.** -/
theorem flush_loop (cd : Codec) (hcd : ∀ b : Bytes, b.length < 2 ^ 63 → (cd.compress b).length < 2 ^ 64) :
    ∀ (n : Nat) (g : Gen.Writer) (idx : List BW) (log : List Emitted) (root : Nat),
    mIdx g.index_block_writers idx → n ≤ idx.length →
    (∀ t, t + 1 < n → Small (2 ^ 61) (2 ^ 30) g.index_block_writers[t]!) →
    (1 ≤ n → Small (2 ^ 62) (2 ^ 31) g.index_block_writers[n - 1]!) →
    match W.flushLevels cd n idx g.writer log root with
    | .ok (idx', out', _, root') => ∃ g', forIn (List.range' 0 n).reverse (g, root) (flushStep (codecFn cd)) = .ok (g', root') ∧
        mIdx g'.index_block_writers idx' ∧ g'.writer = out' ∧ sameCfg g g' ∧ idx'.length = idx.length
    | .error _ => ∃ msg, forIn (List.range' 0 n).reverse (g, root) (flushStep (codecFn cd)) = .error (.panic msg) :=
  fun n g idx log root => flush_loop_from cd hcd g idx.length n g idx log root (sameCfg.refl g) rfl


/-- what `Writer::into_inner` does once the data block is out: the index levels, then the trailer -/
def innerTail (C : CompressFn) (g3 : Gen.Writer) : M Sink := do
  let _ ← sliceFrom g3.index_block_writers 0
  let s ← forIn (List.range' 0 (g3.index_block_writers.length - 0)).reverse (g3, g3.writer.length) (flushStep C)
  let self_ := s.1
  let index_block_offset := s.2
  let metadata : Metadata := ({ file_version := FileVersion.formatV2, index_block_offset := index_block_offset, compression_type := self_.compression_type, entries_count := self_.entries_count, index_levels := (castU 8 ((← sub 64 self_.index_block_writers.length 1))) } : Metadata)
  let (r_15, m_16) ← Grenad.Gen.Metadata.write_into metadata self_.writer
  let self_ := { self_ with writer := m_16 }
  return self_.writer

/-- the tail of `into_inner` against the model's `flushLevels` followed by the trailer -/
theorem into_inner_tail (cd : Codec) (hcd : ∀ b : Bytes, b.length < 2 ^ 63 → (cd.compress b).length < 2 ^ 64) (g3 : Gen.Writer) (idx3 : List BW)
    (log3 : List Emitted) (cnt : Nat) (hm3 : mIdx g3.index_block_writers idx3) (hpos : 0 < idx3.length)
    (hs0 : ∀ t, t + 1 < idx3.length → Small (2 ^ 61) (2 ^ 30) g3.index_block_writers[t]!)
    (hs1 : Small (2 ^ 62) (2 ^ 31) g3.index_block_writers[idx3.length - 1]!)
    (hct : g3.compression_type.toNat = cd.id) (hcnt : g3.entries_count = cnt) :
    match W.finishWrap cd cnt (W.flushLevels cd idx3.length idx3 g3.writer log3 g3.writer.length) with
    | .ok (file, _) => innerTail (codecFn cd) g3 = .ok file
    | .error _ => ∃ msg, innerTail (codecFn cd) g3 = .error (.panic msg) := by
  have hlen : g3.index_block_writers.length = idx3.length := hm3.1
  have hloop := flush_loop cd hcd idx3.length g3 idx3 log3 g3.writer.length hm3 (Nat.le_refl _) hs0 (fun _ => hs1)
  have hsl : sliceFrom g3.index_block_writers 0 = .ok (g3.index_block_writers.drop 0) := by
    simp only [sliceFrom, Nat.zero_le, if_true, pure, Except.pure]
  simp only [innerTail, bind, Except.bind, hsl, Nat.sub_zero, hlen]
  cases hfl : W.flushLevels cd idx3.length idx3 g3.writer log3 g3.writer.length with
  | error t =>
    rw [hfl] at hloop
    obtain ⟨msg, hmsg⟩ := hloop
    exact ⟨msg, by simp only [hmsg]⟩
  | ok r =>
    rw [hfl] at hloop
    obtain ⟨idx', out', log', root'⟩ := r
    obtain ⟨g', h1, h2, h3, ⟨-, c2, -, -, c5⟩, h5⟩ := hloop
    have hl' : g'.index_block_writers.length = idx'.length := h2.1
    have hpos' : 1 ≤ g'.index_block_writers.length := by omega
    simp only [W.finishWrap, h1, sub, hpos', if_true, pure, Except.pure, src_write_into]
    rw [h3]
    simp only [toModelMeta, c2, hct, c5, hcnt, castU, hl']

/-- **`Writer::into_inner` is the model's `W.finish`**: the translated code hands back exactly the model's
    file bytes (last data block, index levels bottom-up, trailer), or panics where the model traps. -/
theorem src_writer_into_inner (cd : Codec) (hcd : ∀ b : Bytes, b.length < 2 ^ 63 → (cd.compress b).length < 2 ^ 64) (g : Gen.Writer) (w : W)
    (hr : RW g w) (hs : SmallW g) (hct : g.compression_type.toNat = cd.id) :
    match W.finish cd w with
    | .ok (file, _) => Gen.Writer.into_inner (codecFn cd) g = .ok file
    | .error _ => ∃ msg, Gen.Writer.into_inner (codecFn cd) g = .error (.panic msg) := by
  rw [into_inner_eq, W.finish_eq]
  unfold W.finishData
  have hlev := hs.levels
  have hlen : g.index_block_writers.length = w.idx.length := hr.idx.1
  have hpos : 0 < w.idx.length := hlen ▸ hlev
  have hn1 : w.idx.length - 1 < w.idx.length := Nat.sub_lt hpos Nat.one_pos
  have hn1g : w.idx.length - 1 < g.index_block_writers.length := hlen ▸ hn1
  simp only [bind, Except.bind, bw_last_key_sim _ w.bw hr.bw, pure, Except.pure]
  cases hlk : w.bw.lastKey with
  | none =>
    have h := into_inner_tail cd hcd g w.idx w.log w.count hr.idx hpos
      (fun t ht => hs.idx t (hlen ▸ Nat.lt_of_succ_lt ht)) ((hs.idx _ hn1g).mono (by decide) (by decide)) hct hr.count
    rw [hr.out] at h
    simp only [innerTail, bind, Except.bind, pure, Except.pure] at h
    exact h
  | some lk =>
    obtain ⟨lastIdx, hl1, hl2⟩ := hr.idx.get hn1
    simp only [hlev, decide_true, if_true, hl1]
    rw [hlen, ← hr.out]
    have hpi := bw_insert_sim _ lastIdx lk (be64 g.writer.length) hl2 (hs.idx _ hn1g)
    cases hp : lastIdx.insert lk (be64 g.writer.length) with
    | error t =>
      rw [hp] at hpi
      obtain ⟨msg, hmsg⟩ := hpi
      exact ⟨msg, by simp only [beBytes8_eq, hmsg]⟩
    | ok lastIdx' =>
      rw [hp] at hpi
      obtain ⟨y, hy1, hy2, hy3⟩ := hpi
      obtain ⟨z, hz1, hz2⟩ := bw_emit_sim cd hcd g.writer g.block_writer w.bw g.compression_type g.compression_level
        hr.bw (hs.bw.mono (by decide) (by decide))
      simp only [beBytes8_eq, hy1, hz1]
      -- the state entering the level loop
      have h := into_inner_tail cd hcd
        { g with block_writer := z, index_block_writers := g.index_block_writers.set (w.idx.length - 1) y,
                 writer := g.writer ++ W.blockBytes cd w.bw.finish }
        (w.idx.set (w.idx.length - 1) lastIdx')
        (w.log ++ [{ offset := g.writer.length, level := 0, raw := w.bw.finish, items := w.bw.items }]) w.count
        (hr.idx.set _ hy2) (by rw [List.length_set]; exact hpos)
        (by
          intro t ht
          rw [List.length_set] at ht
          show Small _ _ (g.index_block_writers.set (w.idx.length - 1) y)[t]!
          have ht' : t < w.idx.length - 1 := Nat.lt_sub_of_add_lt ht
          rw [get!_set_ne _ _ _ _ (Nat.ne_of_gt ht')]
          exact hs.idx t (Nat.lt_trans ht' hn1g))
        (by
          rw [List.length_set]
          show Small _ _ (g.index_block_writers.set (w.idx.length - 1) y)[w.idx.length - 1]!
          rw [get!_set_eq _ _ _ hn1g]
          exact hy3)
        hct hr.count
      simp only [innerTail, bind, Except.bind, pure, Except.pure] at h
      exact h

end Grenad.SrcTie
