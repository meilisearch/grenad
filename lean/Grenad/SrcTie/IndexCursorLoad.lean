/-
  Grenad.SrcTie.IndexCursorLoad — what the translator tie for `IndexBlockCursor` rests on
  (src/reader/reader_cursor.rs, regenerated into Generated/Src/SrcReaderCursor.lean on every run):

  * the hypotheses on the file: `SmallBlocks` (no `usize` overflow in a decompressed block), `LoadsQ` (every loadable
    block satisfies `Q`), `SortedBlock` (under which the binary searches are the model's `prev` / `ge`);
  * `genLoad` / `src_load_cursor`: the emitted sequence `seek(Start(off))?; Block::new(..).map(Block::into_cursor)?`
    is the model's `loadCursor cd file off`;
  * `Good Q c`, `GoodL`, `GoodIdx`: the invariant carried by every block cursor the index cursor holds (it only
    speaks about the block, so every in-block move preserves it);
  * `MovTie`: what it means for a translated closure `|c| c.move_on_X()` to be the model's `ops.apply m`,
    proved for the five closures passed by `IndexBlockCursor::move_on_*`, against `byteOps` and against `srcOps`
    (the operations with the standard library's search loop);
  * `absL`, `toRC`: the translated `IndexBlockCursor` as the model's `RC`;
  * `idx_move_on_*_eq`: the five public moves are `iter_index_blocks` / `recursive_index_block` with a closure.
-/
import Grenad.Generated.Src.SrcReaderCursor
import Grenad.SrcTie.BlockCursor
import Grenad.SrcTie.BlockLoad
import Grenad.Proofs.ReaderEq

set_option linter.unusedSimpArgs false
set_option linter.unusedVariables false

namespace Grenad.SrcTie
open Grenad Grenad.R Grenad.Gen

/-- Every block that can be read from `file` (at any offset) decompresses to fewer than `2^62` bytes.
    (The translated `Block::entry_at` adds lengths in checked `usize` arithmetic; with a buffer that fits in
    memory no addition overflows.)  It holds for every file when the codec never inflates to `2^62` bytes
    (`smallBlocks_of_codec`), and for every uncompressed file shorter than `2^62` bytes (`smallBlocks_none`). -/
def SmallBlocks (cd : Codec) (file : Bytes) : Prop :=
  ∀ off raw, cd.decompress ((file.drop (off + 8)).take (beVal ((file.drop off).take 8))) = some raw →
    raw.length < 2 ^ 62

theorem smallBlocks_of_codec (cd : Codec) (file : Bytes)
    (h : ∀ b raw, cd.decompress b = some raw → raw.length < 2 ^ 62) : SmallBlocks cd file :=
  fun _ raw hd => h _ raw hd

theorem smallBlocks_none (file : Bytes) (h : file.length < 2 ^ 62) : SmallBlocks Codec.none file := by
  intro off raw hd
  simp only [Codec.none, Option.some.injEq] at hd
  subst hd
  simp only [List.length_take, List.length_drop]
  omega

/-- Every block the model can load from `file` satisfies `Q`. -/
def LoadsQ (cd : Codec) (file : Bytes) (Q : Grenad.Block → Prop) : Prop :=
  ∀ off blk n, loadBlockLen cd file off = some (blk, n) → Q blk

theorem loadsQ_true (cd : Codec) (file : Bytes) : LoadsQ cd file (fun _ => True) := fun _ _ _ _ => trivial

/-- The two orderings under which the standard library's binary searches (`move_on_prev`,
    `move_on_key_*`) are the model's specification-level searches: what every writer-built block satisfies
    (`BinSearch.tableKeysAsc_of_blockOf`, `Proofs/BinSearchBlock.lean`). -/
def SortedBlock (b : Grenad.Block) : Prop :=
  b.offsets.Pairwise (· < ·) ∧ BinSearch.TableKeysAsc b

/-- `OKBlock` (sizes: `entry_at` cannot overflow) and a property `Q` of the model-level block. -/
def Good (Q : Grenad.Block → Prop) (c : Gen.BlockCursor) : Prop :=
  OKBlock c.block ∧ Q (toBlock c.block)

theorem Good.of_block {Q : Grenad.Block → Prop} {c c' : Gen.BlockCursor} (h : Good Q c)
    (hb : c'.block = c.block) : Good Q c' := by
  unfold Good at *
  rw [hb]
  exact h

/-- `reader.seek(SeekFrom::Start(off))?; Block::new(&mut reader, ct).map(Block::into_cursor)?` exactly as the
    translator emits it at its three call sites (`initial_index_blocks`, `iter_index_blocks`, `recursive`):
    the new cursor and the reader afterwards. -/
def genLoad (cd : Codec) (rd : Src) (off : Nat) (ct : CompressionType) : M (Gen.BlockCursor × Src) :=
  Except.bind (liftIo (rd.seekStart off).fst) fun _ =>
    Except.bind (Gen.Block.new (fun _ => cd.decompress) (rd.seekStart off).snd ct) fun x =>
      Except.bind x.fst.into_cursor fun c => Except.pure (c, x.snd)

/-- the load sequence is `Block::read_from` into a fresh block at position `off`; the cursor is unpositioned -/
theorem genLoad_eq (cd : Codec) (rd : Src) (off : Nat) (ct : CompressionType) :
    genLoad cd rd off ct =
      Except.bind (Gen.Block.read_from (fun _ => cd.decompress)
          { compression_type := ct, buffer := [], payload_size := 0, index_offsets := [] }
          { bytes := rd.bytes, pos := off }) fun b =>
        .ok ({ block := b, current_offset := none }, { bytes := rd.bytes, pos := off }) := by
  unfold genLoad Gen.Block.new
  simp only [bind, pure, bind_assoc']
  exact bind_congr fun b => rfl

/-- **Loading.**  Whenever the emitted load sequence returns, it returns the model's `loadCursor`, the
    cursor is good and unpositioned, and the reader still reads the same file. -/
theorem src_load_cursor (cd : Codec) (file : Bytes) (Q : Grenad.Block → Prop)
    (hs : SmallBlocks cd file) (hq : LoadsQ cd file Q)
    (rd : Src) (hrd : rd.bytes = file) (off : Nat) (ct : CompressionType)
    (c : Gen.BlockCursor) (rd' : Src) (h : genLoad cd rd off ct = .ok (c, rd')) :
    loadCursor cd file off = some (toBC c) ∧ Good Q c ∧ c.current_offset = none ∧ rd'.bytes = file := by
  rw [genLoad_eq, hrd] at h
  obtain ⟨b', hread, h⟩ := bind_ok h
  cases h
  have hmodel := block_read_from_spec cd
    ({ compression_type := ct, buffer := [], payload_size := 0, index_offsets := [] } : Gen.Block) file off
  cases hl : loadBlockLen cd file off with
  | none =>
    rw [hl] at hmodel
    obtain ⟨e, he⟩ := hmodel
    rw [he] at hread
    cases hread
  | some p =>
    obtain ⟨blk, n⟩ := p
    rw [hl] at hmodel
    obtain ⟨b'', hb'', hblk, hp, _, hbuf⟩ := hmodel
    rw [hb''] at hread
    cases hread
    refine ⟨?_, ⟨⟨hp, hs off _ hbuf⟩, ?_⟩, rfl, rfl⟩
    · simp only [loadCursor, loadBlock, hl, Option.map_some, toBC, Grenad.BlockCursor.ofBlock, hblk]
    · rw [hblk]; exact hq off blk n hl

/-- the load sequence as the translator emits it inline, followed by `F`, is `genLoad` followed by `F` -/
theorem genLoad_bind {β : Type} (cd : Codec) (rd : Src) (off : Nat) (ct : CompressionType)
    (F : Gen.Block × Src → Gen.BlockCursor → M β) :
    (Except.bind (liftIo (rd.seekStart off).fst) fun _ =>
      Except.bind (Gen.Block.new (fun _ => cd.decompress) (rd.seekStart off).snd ct) fun x =>
        Except.bind x.fst.into_cursor fun c => F x c) =
      Except.bind (genLoad cd rd off ct) fun y => F (y.1.block, y.2) y.1 := by
  unfold genLoad
  simp only [bind_assoc']
  exact bind_congr fun _ => bind_congr fun x => rfl

/-- **Load failures.**  Where the model has no block (short header, codec error, malformed footer) the
    emitted load sequence does not return. -/
theorem src_load_cursor_none (cd : Codec) (file : Bytes) (hs : SmallBlocks cd file)
    (rd : Src) (hrd : rd.bytes = file) (off : Nat) (ct : CompressionType)
    (hnone : loadCursor cd file off = none) : ∀ x, genLoad cd rd off ct ≠ .ok x := by
  intro x hx
  obtain ⟨c, rd'⟩ := x
  have := (src_load_cursor cd file (fun _ => True) hs (loadsQ_true cd file) rd hrd off ct c rd' hx).1
  rw [hnone] at this
  cases this

/-- The translated closure `mov` is the model's in-block move `f` on every good cursor, and does not
    replace the block. -/
def MovTie (Q : Grenad.Block → Prop)
    (mov : Gen.BlockCursor → M (Option (Bytes × Bytes) × Gen.BlockCursor))
    (f : Grenad.BlockCursor → Grenad.BlockCursor × Option Entry) : Prop :=
  ∀ c r c', Good Q c → mov c = .ok (r, c') → (toBC c', r) = f (toBC c) ∧ c'.block = c.block

/-- The in-block operations exactly as the translated code computes them: `prev` and `ge` run the standard
    library's binary-search loop (`binSearchBy'`).  On strictly ascending tables they are `byteOps`
    (`srcOps_apply_eq`). -/
def srcOps : BlockOps Grenad.BlockCursor :=
  { byteOps with prev := BinSearch.prevBS binSearchBy', ge := geBS binSearchBy' }

theorem srcOps_current : srcOps.current = Grenad.BlockCursor.current := rfl
theorem byteOps_current : byteOps.current = Grenad.BlockCursor.current := rfl

theorem srcOps_apply_eq (m : Mov) (c : Grenad.BlockCursor) (h : SortedBlock c.block) :
    srcOps.apply m c = byteOps.apply m c := by
  cases m with
  | first => rfl
  | last => rfl
  | next => rfl
  | prev =>
    show BinSearch.prevBS binSearchBy' c = c.prev
    exact (BinSearch.prev_eq_prevBS c h.1).2.symm
  | ge q =>
    show geBS binSearchBy' c q = c.ge q
    exact (ge_eq_geBS c q h.2).symm

theorem movTie_first (Q : Grenad.Block → Prop) :
    MovTie Q (fun c => Gen.BlockCursor.move_on_first c) (byteOps.apply .first) :=
  fun c r c' hg h => src_bc_first c c' hg.1 r h

theorem movTie_last (Q : Grenad.Block → Prop) :
    MovTie Q (fun c => Gen.BlockCursor.move_on_last c) (byteOps.apply .last) :=
  fun c r c' hg h => src_bc_last c c' hg.1 r h

theorem movTie_next (Q : Grenad.Block → Prop) :
    MovTie Q (fun c => Gen.BlockCursor.move_on_next c) (byteOps.apply .next) :=
  fun c r c' hg h => src_bc_next c c' hg.1 r h

theorem movTie_prev (Q : Grenad.Block → Prop) (hQ : ∀ b, Q b → b.offsets.Pairwise (· < ·)) :
    MovTie Q (fun c => Gen.BlockCursor.move_on_prev c) (byteOps.apply .prev) :=
  fun c r c' hg h =>
    ⟨src_bc_prev_model c c' hg.1 r (hQ _ hg.2) h, (src_bc_prev c c' hg.1 r h).2⟩

theorem movTie_ge (Q : Grenad.Block → Prop) (hQ : ∀ b, Q b → BinSearch.TableKeysAsc b) (key : Bytes) :
    MovTie Q (fun c => Gen.BlockCursor.move_on_key_greater_than_or_equal_to c key) (byteOps.apply (.ge key)) :=
  fun c r c' hg h =>
    ⟨src_bc_ge_model c c' hg.1 key r (hQ _ hg.2) h, (src_bc_ge c c' hg.1 key r h).2⟩

/-- without any ordering hypothesis: against the binary-search form of the operations -/
theorem movTie_prev_src (Q : Grenad.Block → Prop) :
    MovTie Q (fun c => Gen.BlockCursor.move_on_prev c) (srcOps.apply .prev) :=
  fun c r c' hg h => src_bc_prev c c' hg.1 r h

theorem movTie_ge_src (Q : Grenad.Block → Prop) (key : Bytes) :
    MovTie Q (fun c => Gen.BlockCursor.move_on_key_greater_than_or_equal_to c key) (srcOps.apply (.ge key)) :=
  fun c r c' hg h => src_bc_ge c c' hg.1 key r h

def absL (l : List (Nat × Gen.BlockCursor)) : List (Nat × Grenad.BlockCursor) :=
  l.map fun (o, c) => (o, toBC c)

def GoodL (Q : Grenad.Block → Prop) (l : List (Nat × Gen.BlockCursor)) : Prop := ∀ p ∈ l, Good Q p.2

/-- the translated `IndexBlockCursor` as the model's `RC` (the data-block cursor `cur` and the load log are
    not part of `IndexBlockCursor`: they are carried along) -/
def toRC (s : Gen.IndexBlockCursor) (cur : Option Grenad.BlockCursor) (log : List Nat) :
    RC Grenad.BlockCursor :=
  { base := s.base_block_offset, levels := s.index_levels,
    inner := s.inner.map (·.map fun (o, c) => (o, toBC c)), cur := cur, log := log }

def GoodIdx (Q : Grenad.Block → Prop) (s : Gen.IndexBlockCursor) : Prop :=
  ∀ l, s.inner = some l → GoodL Q l

theorem toRC_inner (s : Gen.IndexBlockCursor) (cur : Option Grenad.BlockCursor) (log : List Nat) :
    (toRC s cur log).inner = s.inner.map absL := rfl

theorem absL_nil : absL [] = [] := rfl
theorem absL_cons (o : Nat) (c : Gen.BlockCursor) (l : List (Nat × Gen.BlockCursor)) :
    absL ((o, c) :: l) = (o, toBC c) :: absL l := rfl
theorem absL_append (a b : List (Nat × Gen.BlockCursor)) : absL (a ++ b) = absL a ++ absL b := by
  simp [absL]
theorem absL_reverse (a : List (Nat × Gen.BlockCursor)) : absL a.reverse = (absL a).reverse := by
  simp [absL]
theorem absL_length (a : List (Nat × Gen.BlockCursor)) : (absL a).length = a.length := by
  simp [absL]

theorem GoodL.nil (Q : Grenad.Block → Prop) : GoodL Q [] := by intro p hp; cases hp
theorem GoodL.append {Q : Grenad.Block → Prop} {a b : List (Nat × Gen.BlockCursor)}
    (ha : GoodL Q a) (hb : GoodL Q b) : GoodL Q (a ++ b) := by
  intro p hp
  rcases List.mem_append.mp hp with h | h
  · exact ha p h
  · exact hb p h
theorem GoodL.cons {Q : Grenad.Block → Prop} {o : Nat} {c : Gen.BlockCursor}
    {l : List (Nat × Gen.BlockCursor)} (hc : Good Q c) (hl : GoodL Q l) : GoodL Q ((o, c) :: l) := by
  intro p hp
  rcases List.mem_cons.mp hp with h | h
  · subst h; exact hc
  · exact hl p h
theorem GoodL.head {Q : Grenad.Block → Prop} {p : Nat × Gen.BlockCursor}
    {l : List (Nat × Gen.BlockCursor)} (h : GoodL Q (p :: l)) : Good Q p.2 := h p (List.mem_cons_self)
theorem GoodL.tail {Q : Grenad.Block → Prop} {p : Nat × Gen.BlockCursor}
    {l : List (Nat × Gen.BlockCursor)} (h : GoodL Q (p :: l)) : GoodL Q l :=
  fun q hq => h q (List.mem_cons_of_mem _ hq)
theorem GoodL.left {Q : Grenad.Block → Prop} {a b : List (Nat × Gen.BlockCursor)}
    (h : GoodL Q (a ++ b)) : GoodL Q a := fun q hq => h q (List.mem_append_left _ hq)

/-- the value of an index entry as the code reads it (`try_into().map(u64::from_be_bytes).unwrap()`):
    it returns only on 8 bytes, and then it is the model's `offOf` -/
theorem beValueN8_ok (bs : Bytes) (v : Nat) (h : beValueN 8 bs = .ok v) (k : Bytes) : v = offOf (k, bs) := by
  unfold beValueN at h
  split at h
  · simp only [pure, Except.pure, Except.ok.injEq] at h
    rw [← h, beValue_eq_beVal]; rfl
  · cases h

/-! ### the five public moves of `IndexBlockCursor` are `iter_index_blocks` / `recursive_index_block` with a closure -/

section
variable (dec : CompressionType → List UInt8 → Option (List UInt8)) (s : Gen.IndexBlockCursor) (rd : Src)

theorem idx_move_on_first_eq : Gen.IndexBlockCursor.move_on_first dec s rd =
    Gen.IndexBlockCursor.iter_index_blocks dec s rd (fun c => Gen.BlockCursor.move_on_first c) := bind_eta3 _

theorem idx_move_on_last_eq : Gen.IndexBlockCursor.move_on_last dec s rd =
    Gen.IndexBlockCursor.iter_index_blocks dec s rd (fun c => Gen.BlockCursor.move_on_last c) := bind_eta3 _

theorem idx_move_on_ge_eq (key : Bytes) :
    Gen.IndexBlockCursor.move_on_key_greater_than_or_equal_to dec s key rd =
      Gen.IndexBlockCursor.iter_index_blocks dec s rd
        (fun c => Gen.BlockCursor.move_on_key_greater_than_or_equal_to c key) := bind_eta3 _

theorem idx_move_on_next_eq : Gen.IndexBlockCursor.move_on_next dec s rd =
    Gen.IndexBlockCursor.recursive_index_block dec s rd (fun c => Gen.BlockCursor.move_on_next c) := bind_eta3 _

theorem idx_move_on_prev_eq : Gen.IndexBlockCursor.move_on_prev dec s rd =
    Gen.IndexBlockCursor.recursive_index_block dec s rd (fun c => Gen.BlockCursor.move_on_prev c) := bind_eta3 _

end

end Grenad.SrcTie
