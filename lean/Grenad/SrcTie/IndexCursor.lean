/-
  Grenad.SrcTie.IndexCursor — translator tie for `IndexBlockCursor` of src/reader/reader_cursor.rs
  (Generated/Src/SrcReaderCursor.lean, regenerated from /repo/src on every run): the five public
  `IndexBlockCursor::move_on_*` functions are the model's `RC.iterIndex` / `RC.recurIndex` (Model/Reader.lean)
  instantiated with the byte-level block cursor and the loader `loadCursor cd file`.

  Shape of every statement (partial correctness, as in SrcTie/BlockCursor.lean): *whenever the translated function
  returns* `.ok (r, self', reader')` from a state whose cursors are all good and a reader over `file`, the model
  returns `some (toRC self' cur log', r)` from `toRC self cur log`, the cursors of `self'` are all good, the reader
  still reads `file`, and `base_block_offset`, `index_levels`, `compression_type` are unchanged.

  Errors: because the statements read `gen = .ok x → model = some (abs x)`, they also give the converse for
  failures: where the model returns `none` (some block could not be loaded) the translated code cannot return
  `.ok` — `model = none` would contradict `model = some _` (`src_index_none_of_model_none` spells this out for
  `iterIndex`; `src_load_cursor_none` for a single load).

  Hypotheses, all explicit:
  * `SmallBlocks cd file` — decompressed blocks are shorter than `2^62` bytes (checked `usize` additions of
    `entry_at`); true of every file for a codec that cannot inflate that far, and of uncompressed files < 2^62 bytes;
  * `LoadsQ cd file Q` — every block the model can load from `file` satisfies `Q`; `Q := fun _ => True` for
    `move_on_first/last/next`, which need nothing; `Q := SortedBlock` (offset table strictly ascending, table keys
    strictly ascending — what `slice::binary_search*` relies on) for `move_on_prev` and
    `move_on_key_greater_than_or_equal_to` against `byteOps`.  Without any ordering hypothesis the same two
    functions are tied to the model over `srcOps` (the operations with the standard library's search loop) —
    the `_src` theorems;
  * `GoodIdx Q self` — all cursors held are good; it holds initially (`inner = none`, `goodIdx_new`) and every
    theorem re-establishes it, so it holds in every reachable state;
  * no hypothesis on `index_levels`: when `index_levels as usize + 1` overflows the translated code fails, and
    the statements are about returning runs;
  * `self.compression_type` plays no role: the codec is the parameter `cd` on both sides.
-/
import Grenad.SrcTie.IndexCursorRec

set_option linter.unusedSimpArgs false
set_option linter.unusedVariables false

namespace Grenad.SrcTie
open Grenad Grenad.R Grenad.Gen

/-- a fresh `IndexBlockCursor` (and one after `reset`) holds no cursor -/
theorem goodIdx_none (Q : Grenad.Block → Prop) (s : Gen.IndexBlockCursor) (h : s.inner = none) : GoodIdx Q s := by
  intro l hl; rw [h] at hl; cases hl

theorem goodIdx_new (Q : Grenad.Block → Prop) (base : Nat) (ct : CompressionType) (levels : Nat)
    (s : Gen.IndexBlockCursor) (h : Gen.IndexBlockCursor.new base ct levels = .ok s) :
    GoodIdx Q s ∧ ∀ cur, toRC s cur [] = { base := base, levels := levels, inner := none, cur := cur } := by
  simp only [Gen.IndexBlockCursor.new, pure, Except.pure, Except.ok.injEq] at h
  subst h
  exact ⟨goodIdx_none Q _ rfl, fun _ => rfl⟩

theorem goodIdx_reset (Q : Grenad.Block → Prop) (s s' : Gen.IndexBlockCursor)
    (h : Gen.IndexBlockCursor.reset s = .ok s') :
    GoodIdx Q s' ∧ ∀ cur log, toRC s' cur log = { toRC s cur log with inner := none } := by
  simp only [Gen.IndexBlockCursor.reset, pure, Except.pure, Except.ok.injEq] at h
  subst h
  exact ⟨goodIdx_none Q _ rfl, fun _ _ => rfl⟩

def IdxPost (Q : Grenad.Block → Prop) (file : Bytes) (s s' : Gen.IndexBlockCursor) (rd' : Src) : Prop :=
  GoodIdx Q s' ∧ rd'.bytes = file ∧ s'.base_block_offset = s.base_block_offset ∧
    s'.index_levels = s.index_levels ∧ s'.compression_type = s.compression_type

section
variable (cd : Codec) (file : Bytes) (Q : Grenad.Block → Prop)
  (hs : SmallBlocks cd file) (hq : LoadsQ cd file Q)
include hs hq

/-! ### the three functions that need no ordering of the blocks -/

theorem src_index_move_on_first (s : Gen.IndexBlockCursor) (hg : GoodIdx Q s) (rd : Src) (hrd : rd.bytes = file)
    (cur : Option Grenad.BlockCursor) (log : List Nat)
    (r : Option (Bytes × Bytes)) (s' : Gen.IndexBlockCursor) (rd' : Src)
    (h : Gen.IndexBlockCursor.move_on_first (fun _ => cd.decompress) s rd = .ok (r, s', rd')) :
    ∃ log', RC.iterIndex byteOps (loadCursor cd file) .first (toRC s cur log) = some (toRC s' cur log', r) ∧
      IdxPost Q file s s' rd' :=
  src_iter_index_blocks cd file Q byteOps .first hs hq _ (movTie_first Q) byteOps_current s hg rd hrd cur log
    _ _ _ ((idx_move_on_first_eq _ s rd).symm.trans h)

theorem src_index_move_on_last (s : Gen.IndexBlockCursor) (hg : GoodIdx Q s) (rd : Src) (hrd : rd.bytes = file)
    (cur : Option Grenad.BlockCursor) (log : List Nat)
    (r : Option (Bytes × Bytes)) (s' : Gen.IndexBlockCursor) (rd' : Src)
    (h : Gen.IndexBlockCursor.move_on_last (fun _ => cd.decompress) s rd = .ok (r, s', rd')) :
    ∃ log', RC.iterIndex byteOps (loadCursor cd file) .last (toRC s cur log) = some (toRC s' cur log', r) ∧
      IdxPost Q file s s' rd' :=
  src_iter_index_blocks cd file Q byteOps .last hs hq _ (movTie_last Q) byteOps_current s hg rd hrd cur log
    _ _ _ ((idx_move_on_last_eq _ s rd).symm.trans h)

theorem src_index_move_on_next (s : Gen.IndexBlockCursor) (hg : GoodIdx Q s) (rd : Src) (hrd : rd.bytes = file)
    (cur : Option Grenad.BlockCursor) (log : List Nat)
    (r : Option (Bytes × Bytes)) (s' : Gen.IndexBlockCursor) (rd' : Src)
    (h : Gen.IndexBlockCursor.move_on_next (fun _ => cd.decompress) s rd = .ok (r, s', rd')) :
    ∃ log', RC.recurIndex byteOps (loadCursor cd file) true .next (toRC s cur log) = some (toRC s' cur log', r) ∧
      IdxPost Q file s s' rd' :=
  src_recursive_index_block cd file Q byteOps .next hs hq _ (movTie_next Q) byteOps_current s hg rd hrd cur
    log _ _ _ ((idx_move_on_next_eq _ s rd).symm.trans h)

/-! ### `move_on_prev`, `move_on_key_greater_than_or_equal_to`: the binary searches -/

/-- generic in the operations the closure is tied to -/
theorem src_index_move_on_prev_ops (ops : BlockOps Grenad.BlockCursor)
    (htie : MovTie Q (fun c => Gen.BlockCursor.move_on_prev c) (ops.apply .prev))
    (hcur : ops.current = Grenad.BlockCursor.current)
    (s : Gen.IndexBlockCursor) (hg : GoodIdx Q s) (rd : Src) (hrd : rd.bytes = file)
    (cur : Option Grenad.BlockCursor) (log : List Nat)
    (r : Option (Bytes × Bytes)) (s' : Gen.IndexBlockCursor) (rd' : Src)
    (h : Gen.IndexBlockCursor.move_on_prev (fun _ => cd.decompress) s rd = .ok (r, s', rd')) :
    ∃ log', RC.recurIndex ops (loadCursor cd file) true .prev (toRC s cur log) = some (toRC s' cur log', r) ∧
      IdxPost Q file s s' rd' :=
  src_recursive_index_block cd file Q ops .prev hs hq _ htie hcur s hg rd hrd cur log _ _ _
    ((idx_move_on_prev_eq _ s rd).symm.trans h)

theorem src_index_move_on_ge_ops (ops : BlockOps Grenad.BlockCursor) (key : Bytes)
    (htie : MovTie Q (fun c => Gen.BlockCursor.move_on_key_greater_than_or_equal_to c key) (ops.apply (.ge key)))
    (hcur : ops.current = Grenad.BlockCursor.current)
    (s : Gen.IndexBlockCursor) (hg : GoodIdx Q s) (rd : Src) (hrd : rd.bytes = file)
    (cur : Option Grenad.BlockCursor) (log : List Nat)
    (r : Option (Bytes × Bytes)) (s' : Gen.IndexBlockCursor) (rd' : Src)
    (h : Gen.IndexBlockCursor.move_on_key_greater_than_or_equal_to (fun _ => cd.decompress) s key rd
      = .ok (r, s', rd')) :
    ∃ log', RC.iterIndex ops (loadCursor cd file) (.ge key) (toRC s cur log) = some (toRC s' cur log', r) ∧
      IdxPost Q file s s' rd' :=
  src_iter_index_blocks cd file Q ops (.ge key) hs hq _ htie hcur s hg rd hrd cur log _ _ _
    ((idx_move_on_ge_eq _ s rd key).symm.trans h)

/-- `move_on_prev` against the model's own `prev`: blocks with strictly ascending offset tables -/
theorem src_index_move_on_prev (hQ : ∀ b, Q b → b.offsets.Pairwise (· < ·))
    (s : Gen.IndexBlockCursor) (hg : GoodIdx Q s) (rd : Src) (hrd : rd.bytes = file)
    (cur : Option Grenad.BlockCursor) (log : List Nat)
    (r : Option (Bytes × Bytes)) (s' : Gen.IndexBlockCursor) (rd' : Src)
    (h : Gen.IndexBlockCursor.move_on_prev (fun _ => cd.decompress) s rd = .ok (r, s', rd')) :
    ∃ log', RC.recurIndex byteOps (loadCursor cd file) true .prev (toRC s cur log) = some (toRC s' cur log', r) ∧
      IdxPost Q file s s' rd' :=
  src_index_move_on_prev_ops cd file Q hs hq byteOps (movTie_prev Q hQ) byteOps_current s hg rd hrd cur log r s' rd' h

/-- `move_on_key_greater_than_or_equal_to` against the model's own `ge`: blocks whose table keys ascend strictly -/
theorem src_index_move_on_ge (hQ : ∀ b, Q b → BinSearch.TableKeysAsc b) (key : Bytes)
    (s : Gen.IndexBlockCursor) (hg : GoodIdx Q s) (rd : Src) (hrd : rd.bytes = file)
    (cur : Option Grenad.BlockCursor) (log : List Nat)
    (r : Option (Bytes × Bytes)) (s' : Gen.IndexBlockCursor) (rd' : Src)
    (h : Gen.IndexBlockCursor.move_on_key_greater_than_or_equal_to (fun _ => cd.decompress) s key rd
      = .ok (r, s', rd')) :
    ∃ log', RC.iterIndex byteOps (loadCursor cd file) (.ge key) (toRC s cur log) = some (toRC s' cur log', r) ∧
      IdxPost Q file s s' rd' :=
  src_index_move_on_ge_ops cd file Q hs hq byteOps key (movTie_ge Q hQ key) byteOps_current s hg rd hrd cur log
    r s' rd' h

/-- `move_on_prev` with no hypothesis on the blocks: the model over the standard library's search loop -/
theorem src_index_move_on_prev_src
    (s : Gen.IndexBlockCursor) (hg : GoodIdx Q s) (rd : Src) (hrd : rd.bytes = file)
    (cur : Option Grenad.BlockCursor) (log : List Nat)
    (r : Option (Bytes × Bytes)) (s' : Gen.IndexBlockCursor) (rd' : Src)
    (h : Gen.IndexBlockCursor.move_on_prev (fun _ => cd.decompress) s rd = .ok (r, s', rd')) :
    ∃ log', RC.recurIndex srcOps (loadCursor cd file) true .prev (toRC s cur log) = some (toRC s' cur log', r) ∧
      IdxPost Q file s s' rd' :=
  src_index_move_on_prev_ops cd file Q hs hq srcOps (movTie_prev_src Q) srcOps_current s hg rd hrd cur log r s' rd' h

/-- `move_on_key_greater_than_or_equal_to` with no hypothesis on the blocks -/
theorem src_index_move_on_ge_src (key : Bytes)
    (s : Gen.IndexBlockCursor) (hg : GoodIdx Q s) (rd : Src) (hrd : rd.bytes = file)
    (cur : Option Grenad.BlockCursor) (log : List Nat)
    (r : Option (Bytes × Bytes)) (s' : Gen.IndexBlockCursor) (rd' : Src)
    (h : Gen.IndexBlockCursor.move_on_key_greater_than_or_equal_to (fun _ => cd.decompress) s key rd
      = .ok (r, s', rd')) :
    ∃ log', RC.iterIndex srcOps (loadCursor cd file) (.ge key) (toRC s cur log) = some (toRC s' cur log', r) ∧
      IdxPost Q file s s' rd' :=
  src_index_move_on_ge_ops cd file Q hs hq srcOps key (movTie_ge_src Q key) srcOps_current s hg rd hrd cur log
    r s' rd' h

/-- The converse for errors is contained in the statements above; spelled out for `iter_index_blocks`:
    where the model fails (a block could not be loaded), the translated function does not return. -/
theorem src_index_none_of_model_none (ops : BlockOps Grenad.BlockCursor) (m : Mov)
    (mov : Gen.BlockCursor → M (Option (Bytes × Bytes) × Gen.BlockCursor))
    (htie : MovTie Q mov (ops.apply m)) (hcur : ops.current = Grenad.BlockCursor.current)
    (s : Gen.IndexBlockCursor) (hg : GoodIdx Q s) (rd : Src) (hrd : rd.bytes = file)
    (cur : Option Grenad.BlockCursor) (log : List Nat)
    (hnone : RC.iterIndex ops (loadCursor cd file) m (toRC s cur log) = none) :
    ∀ x, Gen.IndexBlockCursor.iter_index_blocks (fun _ => cd.decompress) s rd mov ≠ .ok x := by
  intro x hx
  obtain ⟨r, s', rd'⟩ := x
  obtain ⟨log', h, _⟩ := src_iter_index_blocks cd file Q ops m hs hq mov htie hcur s hg rd hrd cur log r s' rd' hx
  rw [hnone] at h
  cases h

theorem src_recursive_none_of_model_none (ops : BlockOps Grenad.BlockCursor) (m : Mov)
    (mov : Gen.BlockCursor → M (Option (Bytes × Bytes) × Gen.BlockCursor))
    (htie : MovTie Q mov (ops.apply m)) (hcur : ops.current = Grenad.BlockCursor.current)
    (s : Gen.IndexBlockCursor) (hg : GoodIdx Q s) (rd : Src) (hrd : rd.bytes = file)
    (cur : Option Grenad.BlockCursor) (log : List Nat)
    (hnone : RC.recurIndex ops (loadCursor cd file) true m (toRC s cur log) = none) :
    ∀ x, Gen.IndexBlockCursor.recursive_index_block (fun _ => cd.decompress) s rd mov ≠ .ok x := by
  intro x hx
  obtain ⟨r, s', rd'⟩ := x
  obtain ⟨log', h, _⟩ :=
    src_recursive_index_block cd file Q ops m hs hq mov htie hcur s hg rd hrd cur log r s' rd' hx
  rw [hnone] at h
  cases h

end

end Grenad.SrcTie
