/-
  Grenad.SrcTie.IterNext — translator tie for the iterators of src/reader/range_iter.rs and
  src/reader/prefix_iter.rs (`RangeIter::next`, `RevRangeIter::next`, `PrefixIter::next`,
  `RevPrefixIter::next`, `move_on_last_prefix`), regenerated from /repo/src on every run.

  The Rust iterators hold a `ReaderCursor<R>`; the translator makes them relative to the cursor's step
  function, exactly as the model's iterators are generic in `step`.  The theorems say: for EVERY cursor
  (every `mstep`), the translated `next` is the model's `next` — same entry, same new iterator state, an
  `Err` exactly when the model reports one.
-/
import Grenad.Generated.Src.SrcIterNext
import Grenad.SrcTie.IterRange
import Grenad.SrcTie.IterPrefix
import Grenad.Proofs.IterMain

set_option linter.unusedSimpArgs false
set_option linter.unusedVariables false

namespace Grenad.SrcTie
open Grenad Grenad.R Grenad.Gen

def opOf : CurOp → Op
  | .first => .first | .last => .last | .next => .next | .prev => .prev
  | .ge k => .ge k | .le k => .le k | .current => .current

def resOf : Res → CurRes
  | .ok e => some e
  | .err => none

theorem toSrcBound_unbounded : toSrcBound .unbounded = R.Bound.unbounded := rfl
theorem toSrcBound_included (k : Bytes) : toSrcBound (.included k) = R.Bound.included k := rfl
theorem toSrcBound_excluded (k : Bytes) : toSrcBound (.excluded k) = R.Bound.excluded k := rfl

section
variable {γ : Type} (mstep : γ → Op → γ × Res)

/-- the model's cursor step as the translated code sees it -/
def gstep : γ → CurOp → γ × CurRes := fun c o => ((mstep c (opOf o)).1, resOf (mstep c (opOf o)).2)

def toSrcRange (it : Grenad.RangeIter γ) : Gen.RangeIter γ :=
  { cursor := it.cursor, range := (toSrcBound it.lo, toSrcBound it.hi), move_on_start := it.start }

/-- a model outcome as an outcome of translated code (the state after an `Err` is not represented) -/
def outRange : Grenad.RangeIter γ × Res → M (Option (Bytes × Bytes) × Gen.RangeIter γ)
  | (it', .ok e) => .ok (e, toSrcRange it')
  | (_, .err) => .error (.err .cursor)

/-- a `(cursor, Res)` outcome of the model as an outcome of translated code -/
def outCur : γ × Res → M (Option (Bytes × Bytes) × γ)
  | (c, .ok e) => .ok (e, c)
  | (_, .err) => .error (.err .cursor)

theorem gstep_out (c : γ) (o : CurOp) :
    (match (gstep mstep c o) with | (c', r) => (do let e ← liftCur r; pure (e, c') : M _)) = outCur (mstep c (opOf o)) := by
  simp only [gstep]
  cases hs : mstep c (opOf o) with
  | mk c' r => cases r <;> simp [resOf, liftCur, outCur, bind, Except.bind, pure, Except.pure, throw, throwThe, MonadExceptOf.throw]

/-! ### The common second half

Every translated `next` positions the cursor and then filters the entry it stands on, exactly as
every model `next` is `IterP.finish mk g (seek it)`; `srcFinish_eq` ties the second halves. -/

/-- a model outcome through an embedding `emb` of iterator states (`outRange = outGen toSrcRange`, …) -/
def outGen {ι κ : Type} (emb : ι → κ) : ι × Res → M (Option (Bytes × Bytes) × κ)
  | (it', .ok e) => .ok (e, emb it')
  | (_, .err) => .error (.err .cursor)

/-- the second half of a translated `next`: keep the entry if `G` accepts its key; `S` rebuilds
    the iterator around the moved cursor -/
def srcFinish {κ : Type} (G : Bytes → M Bool) (S : γ → κ) :
    Option (Bytes × Bytes) × γ → M (Option (Bytes × Bytes) × κ)
  | (some (k, v), c) => do if (← G k) then pure (some (k, v), S c) else pure (none, S c)
  | (none, c) => pure (none, S c)

theorem srcFinish_eq {ι κ : Type} (g : Bytes → Bool) (mk : γ → ι) (emb : ι → κ) (x : γ × Res) :
    outCur x >>= srcFinish (fun k => .ok (g k)) (fun c => emb (mk c)) =
      outGen emb (IterP.finish mk g x) := by
  obtain ⟨c, r⟩ := x
  cases r with
  | err => rfl
  | ok e =>
    cases e with
    | none => rfl
    | some kv =>
      obtain ⟨k, v⟩ := kv
      cases hg : g k <;>
        simp [outCur, srcFinish, IterP.finish, outGen, hg, bind, Except.bind, pure, Except.pure]

/-- `RangeIter::next` positions the cursor as the model's `rangeSeek` does.  The flag and the
    bound are split first, so that only the branch taken is unfolded. -/
theorem range_seek_tie (it : Grenad.RangeIter γ) :
    Gen.RangeIter.next (gstep mstep) (toSrcRange it) =
      outCur (IterP.rangeSeek mstep it) >>= srcFinish (end_contains (toSrcBound it.hi))
        (fun c => toSrcRange { it with cursor := c, start := false }) := by
  obtain ⟨cur, lo, hi, start⟩ := it
  cases start
  · simp only [Gen.RangeIter.next, IterP.rangeSeek, toSrcRange, ↓reduceIte, Bool.false_eq_true, gstep,
      opOf, bind, Except.bind, pure, Except.pure]
    generalize mstep cur Op.next = x
    obtain ⟨c, r⟩ := x
    cases r with
    | err => rfl
    | ok e => cases e <;> rfl
  · cases lo with
    | unbounded =>
      simp only [Gen.RangeIter.next, IterP.rangeSeek, toSrcRange, toSrcBound, ↓reduceIte, gstep, opOf,
        bind, Except.bind, pure, Except.pure]
      generalize mstep cur Op.first = x
      obtain ⟨c, r⟩ := x
      cases r with
      | err => rfl
      | ok e => cases e <;> rfl
    | included s =>
      simp only [Gen.RangeIter.next, IterP.rangeSeek, toSrcRange, toSrcBound, ↓reduceIte, gstep, opOf,
        bind, Except.bind, pure, Except.pure]
      generalize mstep cur (Op.ge s) = x
      obtain ⟨c, r⟩ := x
      cases r with
      | err => rfl
      | ok e => cases e <;> rfl
    | excluded s =>
      simp only [Gen.RangeIter.next, IterP.rangeSeek, toSrcRange, toSrcBound, ↓reduceIte, gstep, opOf,
        bind, Except.bind, pure, Except.pure]
      generalize mstep cur (Op.ge s) = x
      obtain ⟨c, r⟩ := x
      cases r with
      | err => rfl
      | ok e =>
        cases e with
        | none => rfl
        | some kv =>
          obtain ⟨k, v⟩ := kv
          by_cases hk : k = s
          · subst hk
            simp only [resOf, liftCur, pure, Except.pure, beq_self_eq_true, ↓reduceIte]
            generalize mstep c Op.next = x
            obtain ⟨c2, r2⟩ := x
            cases r2 with
            | err => rfl
            | ok e2 => cases e2 <;> rfl
          · have hbeq : (k == s) = false := by simp [hk]
            simp only [resOf, liftCur, pure, Except.pure, hbeq, Bool.false_eq_true, ↓reduceIte, hk]
            rfl

theorem outRange_eq : @outRange γ = outGen toSrcRange := by
  funext x; obtain ⟨a, b⟩ := x; cases b <;> rfl

theorem src_range_next (it : Grenad.RangeIter γ) :
    Gen.RangeIter.next (gstep mstep) (toSrcRange it) = outRange (Grenad.RangeIter.next mstep it) := by
  rw [range_seek_tie, IterP.RangeIter.next_finish, outRange_eq, ← srcFinish_eq]
  congr 2
  funext k
  exact src_end_contains it.hi k

def toSrcRevRange (it : Grenad.RangeIter γ) : Gen.RevRangeIter γ :=
  { cursor := it.cursor, range := (toSrcBound it.lo, toSrcBound it.hi), move_on_start := it.start }

def outRevRange : Grenad.RangeIter γ × Res → M (Option (Bytes × Bytes) × Gen.RevRangeIter γ)
  | (it', .ok e) => .ok (e, toSrcRevRange it')
  | (_, .err) => .error (.err .cursor)

theorem range_seek_rev_tie (it : Grenad.RangeIter γ) :
    Gen.RevRangeIter.next (gstep mstep) (toSrcRevRange it) =
      outCur (IterP.rangeSeekRev mstep it) >>= srcFinish (start_contains (toSrcBound it.lo))
        (fun c => toSrcRevRange { it with cursor := c, start := false }) := by
  obtain ⟨cur, lo, hi, start⟩ := it
  cases start
  · simp only [Gen.RevRangeIter.next, IterP.rangeSeekRev, toSrcRevRange, ↓reduceIte, Bool.false_eq_true,
      gstep, opOf, bind, Except.bind, pure, Except.pure]
    generalize mstep cur Op.prev = x
    obtain ⟨c, r⟩ := x
    cases r with
    | err => rfl
    | ok e => cases e <;> rfl
  · cases hi with
    | unbounded =>
      simp only [Gen.RevRangeIter.next, IterP.rangeSeekRev, toSrcRevRange, toSrcBound, ↓reduceIte, gstep,
        opOf, bind, Except.bind, pure, Except.pure]
      generalize mstep cur Op.last = x
      obtain ⟨c, r⟩ := x
      cases r with
      | err => rfl
      | ok e => cases e <;> rfl
    | included s =>
      simp only [Gen.RevRangeIter.next, IterP.rangeSeekRev, toSrcRevRange, toSrcBound, ↓reduceIte, gstep,
        opOf, bind, Except.bind, pure, Except.pure]
      generalize mstep cur (Op.le s) = x
      obtain ⟨c, r⟩ := x
      cases r with
      | err => rfl
      | ok e => cases e <;> rfl
    | excluded s =>
      simp only [Gen.RevRangeIter.next, IterP.rangeSeekRev, toSrcRevRange, toSrcBound, ↓reduceIte, gstep,
        opOf, bind, Except.bind, pure, Except.pure]
      generalize mstep cur (Op.le s) = x
      obtain ⟨c, r⟩ := x
      cases r with
      | err => rfl
      | ok e =>
        cases e with
        | none => rfl
        | some kv =>
          obtain ⟨k, v⟩ := kv
          by_cases hk : k = s
          · subst hk
            simp only [resOf, liftCur, pure, Except.pure, beq_self_eq_true, ↓reduceIte]
            generalize mstep c Op.prev = x
            obtain ⟨c2, r2⟩ := x
            cases r2 with
            | err => rfl
            | ok e2 => cases e2 <;> rfl
          · have hbeq : (k == s) = false := by simp [hk]
            simp only [resOf, liftCur, pure, Except.pure, hbeq, Bool.false_eq_true, ↓reduceIte, hk]
            rfl

theorem outRevRange_eq : @outRevRange γ = outGen toSrcRevRange := by
  funext x; obtain ⟨a, b⟩ := x; cases b <;> rfl

theorem src_range_next_rev (it : Grenad.RangeIter γ) :
    Gen.RevRangeIter.next (gstep mstep) (toSrcRevRange it) = outRevRange (Grenad.RangeIter.nextRev mstep it) := by
  rw [range_seek_rev_tie, IterP.RangeIter.nextRev_finish, outRevRange_eq, ← srcFinish_eq]
  congr 2
  funext k
  exact src_start_contains it.lo k

def toSrcPrefix (it : Grenad.PrefixIter γ) : Gen.PrefixIter γ :=
  { cursor := it.cursor, move_on_first_prefix := it.start, prefix_ := it.pre }

def outPrefix : Grenad.PrefixIter γ × Res → M (Option (Bytes × Bytes) × Gen.PrefixIter γ)
  | (it', .ok e) => .ok (e, toSrcPrefix it')
  | (_, .err) => .error (.err .cursor)

theorem outPrefix_eq : @outPrefix γ = outGen toSrcPrefix := by
  funext x; obtain ⟨a, b⟩ := x; cases b <;> rfl

theorem prefix_seek_tie (it : Grenad.PrefixIter γ) :
    Gen.PrefixIter.next (gstep mstep) (toSrcPrefix it) =
      outCur (IterP.prefixSeek mstep it) >>= srcFinish (fun k => .ok (it.pre.isPrefixOf k))
        (fun c => toSrcPrefix { it with cursor := c, start := false }) := by
  obtain ⟨cur, pre, start⟩ := it
  cases start
  · simp only [Gen.PrefixIter.next, IterP.prefixSeek, toSrcPrefix, ↓reduceIte, Bool.false_eq_true, gstep,
      opOf, bind, Except.bind, pure, Except.pure]
    generalize mstep cur Op.next = x
    obtain ⟨c, r⟩ := x
    cases r with
    | err => rfl
    | ok e => cases e <;> rfl
  · simp only [Gen.PrefixIter.next, IterP.prefixSeek, toSrcPrefix, ↓reduceIte, gstep, opOf, bind,
      Except.bind, pure, Except.pure]
    generalize mstep cur (Op.ge pre) = x
    obtain ⟨c, r⟩ := x
    cases r with
    | err => rfl
    | ok e => cases e <;> rfl

theorem src_prefix_next (it : Grenad.PrefixIter γ) :
    Gen.PrefixIter.next (gstep mstep) (toSrcPrefix it) = outPrefix (Grenad.PrefixIter.next mstep it) := by
  rw [prefix_seek_tie, IterP.PrefixIter.next_finish, outPrefix_eq, ← srcFinish_eq]

theorem src_move_on_last_prefix (c : γ) (p : Bytes) :
    Gen.move_on_last_prefix (gstep mstep) c p = outCur (Grenad.moveOnLastPrefix mstep c p) := by
  unfold Gen.move_on_last_prefix Grenad.moveOnLastPrefix
  simp only [bind, Except.bind, src_advance_key]
  cases hadv : advanceKey p with
  | none =>
    simp only [gstep, opOf, pure, Except.pure]
    generalize mstep c Op.last = x
    obtain ⟨c', r⟩ := x
    cases r <;> rfl
  | some np =>
    simp only [gstep, opOf, pure, Except.pure]
    generalize mstep c (Op.le np) = x
    obtain ⟨c1, r⟩ := x
    cases r with
    | err => rfl
    | ok e =>
      cases e with
      | none =>
        simp only [resOf, liftCur, pure, Except.pure]
        generalize mstep c1 Op.current = x
        obtain ⟨c2, r2⟩ := x
        cases r2 <;> rfl
      | some kv =>
        obtain ⟨k, v⟩ := kv
        by_cases hk : k = np
        · subst hk
          simp only [resOf, liftCur, pure, Except.pure, beq_self_eq_true, ↓reduceIte]
          generalize mstep c1 Op.prev = x
          obtain ⟨c2, r2⟩ := x
          cases r2 <;> rfl
        · have hbeq : (k == np) = false := by simp [hk]
          simp only [resOf, liftCur, pure, Except.pure, hbeq, Bool.false_eq_true, ↓reduceIte, hk]
          generalize mstep c1 Op.current = x
          obtain ⟨c2, r2⟩ := x
          cases r2 <;> rfl

def toSrcRevPrefix (it : Grenad.PrefixIter γ) : Gen.RevPrefixIter γ :=
  { cursor := it.cursor, move_on_last_prefix := it.start, prefix_ := it.pre }

def outRevPrefix : Grenad.PrefixIter γ × Res → M (Option (Bytes × Bytes) × Gen.RevPrefixIter γ)
  | (it', .ok e) => .ok (e, toSrcRevPrefix it')
  | (_, .err) => .error (.err .cursor)

theorem outRevPrefix_eq : @outRevPrefix γ = outGen toSrcRevPrefix := by
  funext x; obtain ⟨a, b⟩ := x; cases b <;> rfl

theorem prefix_seek_rev_tie (it : Grenad.PrefixIter γ) :
    Gen.RevPrefixIter.next (gstep mstep) (toSrcRevPrefix it) =
      outCur (IterP.prefixSeekRev mstep it) >>= srcFinish (fun k => .ok (it.pre.isPrefixOf k))
        (fun c => toSrcRevPrefix { it with cursor := c, start := false }) := by
  obtain ⟨cur, pre, start⟩ := it
  cases start
  · simp only [Gen.RevPrefixIter.next, IterP.prefixSeekRev, toSrcRevPrefix, ↓reduceIte,
      Bool.false_eq_true, gstep, opOf, bind, Except.bind, pure, Except.pure]
    generalize mstep cur Op.prev = x
    obtain ⟨c, r⟩ := x
    cases r with
    | err => rfl
    | ok e => cases e <;> rfl
  · simp only [Gen.RevPrefixIter.next, IterP.prefixSeekRev, toSrcRevPrefix, ↓reduceIte, bind,
      Except.bind, pure, Except.pure, src_move_on_last_prefix]
    generalize Grenad.moveOnLastPrefix mstep cur pre = x
    obtain ⟨c, r⟩ := x
    cases r with
    | err => rfl
    | ok e => cases e <;> rfl

theorem src_prefix_next_rev (it : Grenad.PrefixIter γ) :
    Gen.RevPrefixIter.next (gstep mstep) (toSrcRevPrefix it) = outRevPrefix (Grenad.PrefixIter.nextRev mstep it) := by
  rw [prefix_seek_rev_tie, IterP.PrefixIter.nextRev_finish, outRevPrefix_eq, ← srcFinish_eq]

end
end Grenad.SrcTie
