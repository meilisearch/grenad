/-
  Grenad.SrcTie.MergerIter — translator tie for the k-way merger of src/merger.rs, part 1:
  the list cursor `LCur` / `lstep`, the abstraction `absE` of a heap entry, and `std::BinaryHeap`
  (by its contract, `heapMaxIdxM` over the translated `Entry::cmp`) against the model's
  `heapMin` / `heapPop`; before that, `MergerIter::next` cut into named pieces
  (`mergerIter_next_eq`).
-/
import Grenad.Generated.Src.SrcMergerIter
import Grenad.Proofs.MergeProofs

set_option linter.unusedSimpArgs false
set_option linter.unusedVariables false

namespace Grenad.SrcTie
open Grenad Grenad.R Grenad.Gen Grenad.Wave3

/-! ### `MergerIter::next` in named pieces

The translated `MergerIter::next` is one long `do` block.  Its two loop bodies, the value read from a
collected entry and everything after the first entry's key and value are known are named here, for any
cursor type, and `mergerIter_next_eq` states `next` in their terms; each piece has its own lemma over
list cursors (MergerIterNext) and over any simulating cursor (MergerSim). -/

section pieces
variable {γ : Type} (step : γ → CurOp → γ × CurRes)

/-- body of the `while let Some(entry) = self.heap.peek()` loop; the flag says that the loop ended by
    `break` -/
def peekBody (first_key : List UInt8) (_x : Nat) (s : Gen.MergerIter γ × Bool) :
    M (ForInStep (Gen.MergerIter γ × Bool)) := do
  match (← heapPeekM (Gen.Entry.cmp step) s.1.heap) with
  | Option.some entry =>
    let (c_7, r_8) := step entry.cursor CurOp.current
    match (← liftCur r_8) with
    | Option.some (key, _value) =>
      if (first_key == key) then
        let (r_9, h_10) ← heapPopM (Gen.Entry.cmp step) s.1.heap
        match r_9 with
        | Option.some entry =>
          pure (ForInStep.yield ({ s.1 with heap := h_10, tmp_entries := s.1.tmp_entries ++ [entry] }, s.2))
        | _ =>
          pure (ForInStep.yield ({ s.1 with heap := h_10 }, s.2))
      else
        pure (ForInStep.done (s.1, true))
    | _ =>
      pure (ForInStep.yield s)
  | _ =>
    pure (ForInStep.done (s.1, true))

/-- the value `current()` answers for a collected entry -/
def valueOf (e : Gen.Entry γ) : M (Option (List UInt8)) := do
  let (_, r) := step e.cursor CurOp.current
  pure ((← liftCur r).map (fun (_, v) => v))

/-- body of the `move_on_next` + push-back loop -/
def advBody (entry : Gen.Entry γ) (self_ : Gen.MergerIter γ) : M (ForInStep (Gen.MergerIter γ)) := do
  let (c_12, r_13) := step entry.cursor CurOp.next
  if (← liftCur r_13).isSome then
    pure (ForInStep.yield { self_ with heap := self_.heap ++ [{ entry with cursor := c_12 }] })
  else pure (ForInStep.yield self_)

/-- `MergerIter::next` once the first entry has been popped and its key `k` and value `v` read:
    collect the other heads with key `k`, merge, advance the sources that were popped -/
def nextMerge (merge : List UInt8 → List (List UInt8) → Except Unit Cow) (first : Gen.Entry γ)
    (k v : List UInt8) (it : Gen.MergerIter γ) :
    M (Option (List UInt8 × List UInt8) × Gen.MergerIter γ) := do
  let s ← forIn (List.range' 0 (it.heap.length + 1)) ({ it with tmp_entries := [] }, false) (peekBody step k)
  if !s.2 then
    throw (Fail.panic "r2l: loop fuel exhausted")
  let other ← List.filterMapM (valueOf step) s.1.tmp_entries
  match merge k ([v] ++ other) with
  | Except.ok value =>
    match value with
    | .owned value =>
      let out ← forIn ([first] ++ s.1.tmp_entries)
        { s.1 with current_key := [] ++ k, merged_value := value, tmp_entries := [] } (advBody step)
      return (Option.some (out.current_key, out.merged_value), out)
    | .borrowed value =>
      let out ← forIn ([first] ++ s.1.tmp_entries)
        { s.1 with current_key := [] ++ k, merged_value := [] ++ value, tmp_entries := [] } (advBody step)
      return (Option.some (out.current_key, out.merged_value), out)
  | Except.error _ => throw (Fail.err RErr.merge)

theorem mergerIter_next_eq (merge : List UInt8 → List (List UInt8) → Except Unit Cow)
    (it : Gen.MergerIter γ) :
    Gen.MergerIter.next step merge it = (do
      let (r, h) ← heapPopM (Gen.Entry.cmp step) it.heap
      match r with
      | none => pure (none, { it with heap := h })
      | some first =>
        match ← liftCur (step first.cursor CurOp.current).2 with
        | none => pure (none, { it with heap := h })
        | some (k, v) => nextMerge step merge first k v { it with heap := h }) := by
  unfold Gen.MergerIter.next
  refine congrArg (heapPopM (Gen.Entry.cmp step) it.heap >>= ·) (funext fun p => ?_)
  obtain ⟨r, h⟩ := p
  cases r with
  | none => rfl
  | some first =>
    -- head-normalise both sides down to the `current()` call on the popped entry
    conv => lhs; whnf
    conv => rhs; whnf
    generalize (step first.cursor CurOp.current).snd = r5
    cases r5 with
    | none => rfl
    | some o =>
      cases o with
      | none => rfl
      | some kv => rfl

end pieces

/-- A merge source as the translated code sees it: a cursor that is either fresh (never moved) or
    stands on the head of `rest` (nothing when `rest = []`). -/
structure LCur where
  fresh : Bool
  rest : List Entry
  deriving Repr, DecidableEq

/-- `ReaderCursor` over a list: `current()` answers the head (nothing on a fresh cursor),
    `move_on_next()` lands on the first entry of a fresh cursor, otherwise drops the head; no I/O error. -/
def lstep : LCur → CurOp → LCur × CurRes
  | c, .current => (c, some (if c.fresh then none else c.rest.head?))
  | c, .next =>
    if c.fresh then ({ fresh := false, rest := c.rest }, some c.rest.head?)
    else ({ fresh := false, rest := c.rest.tail }, some c.rest.tail.head?)
  | c, _ => (c, some none)

/-- a heap entry of the translated merger read as a heap entry of the model -/
def absE (e : Gen.Entry LCur) : MSrc := { idx := e.source_index, rest := e.cursor.rest }

/-- the entry's cursor has been moved and stands on an entry -/
def Live (e : Gen.Entry LCur) : Prop := e.cursor.fresh = false ∧ e.cursor.rest ≠ []

def AllLive (H : List (Gen.Entry LCur)) : Prop := ∀ e ∈ H, Live e

theorem AllLive.cons {e : Gen.Entry LCur} {H : List (Gen.Entry LCur)} :
    AllLive (e :: H) ↔ Live e ∧ AllLive H := List.forall_mem_cons

theorem AllLive.nil : AllLive [] := by simp [AllLive]

theorem AllLive.append {H H' : List (Gen.Entry LCur)} :
    AllLive (H ++ H') ↔ AllLive H ∧ AllLive H' := List.forall_mem_append

theorem AllLive.sublist {H H' : List (Gen.Entry LCur)} (h : AllLive H) (hs : H'.Sublist H) :
    AllLive H' := fun e he => h e (hs.subset he)

theorem AllLive.perm {H H' : List (Gen.Entry LCur)} (h : AllLive H) (hp : H.Perm H') :
    AllLive H' := fun e he => h e (hp.symm.subset he)

/-- `current()` on a live entry -/
theorem lstep_current_live {e : Gen.Entry LCur} (h : Live e) :
    lstep e.cursor CurOp.current = (e.cursor, some (some ((absE e).key, (absE e).val))) := by
  obtain ⟨⟨f, r⟩, i⟩ := e
  obtain ⟨hf, hr⟩ := h
  simp only at hf hr
  subst hf
  cases r with
  | nil => exact absurd rfl hr
  | cons x r => rfl

/-- `Entry::cmp` on two live entries: the reversed lexicographic order on (key, source index) -/
theorem cmp_live {a b : Gen.Entry LCur} (ha : Live a) (hb : Live b) :
    Gen.Entry.cmp lstep a b
      = .ok (((cmpBytes (absE a).key (absE b).key).then (compare (absE a).idx (absE b).idx)).swap) := by
  simp [Gen.Entry.cmp, lstep_current_live ha, lstep_current_live hb, liftCur, bind, Except.bind, pure,
    Except.pure, cmpOptBytes, absE]

/-- the heap replaces its best candidate `b` by `x` (`cmp b x = Less`) exactly when the model says
    `x.before b` -/
theorem cmp_live_lt {a b : Gen.Entry LCur} (ha : Live a) (hb : Live b) :
    Gen.Entry.cmp lstep b a = .ok .lt ↔ (absE a).before (absE b) = true := by
  rw [cmp_live hb ha]
  unfold MSrc.before R.cmpBytes
  by_cases h1 : (absE a).key < (absE b).key
  · have h2 : ¬ (absE b).key < (absE a).key := fun h => List.lt_irrefl _ (List.lt_trans h h1)
    have h3 : (absE b).key ≠ (absE a).key := fun h => by rw [h] at h1; exact List.lt_irrefl _ h1
    simp [h1, h2, h3, Ordering.then, Ordering.swap]
  · by_cases h2 : (absE a).key = (absE b).key
    · simp [h1, h2, Ordering.then, Ordering.swap, List.lt_irrefl]
      constructor
      · intro h
        cases hc : compare (absE b).idx (absE a).idx <;> simp [hc] at h
        exact Nat.compare_eq_gt.mp hc
      · intro h
        simp [Nat.compare_eq_gt.mpr h]
    · have h3 : (absE b).key < (absE a).key := blt_tri h1 h2
      have h4 : (absE b).key ≠ (absE a).key := fun h => h2 h.symm
      simp [h1, h2, h3, h4, Ordering.then, Ordering.swap]


/-! ### `BinaryHeap::peek` / `pop` over live entries -/

/-- the scan of `heapMaxIdxM` as a pure function: the running best `(j, b)` is replaced by a later
    element exactly when that element pops before it -/
def scanMin : List (Gen.Entry LCur) → Nat → Nat × Gen.Entry LCur → Nat × Gen.Entry LCur
  | [], _, best => best
  | x :: xs, i, (j, b) =>
    if (absE x).before (absE b) then scanMin xs (i + 1) (i, x) else scanMin xs (i + 1) (j, b)

theorem heapMaxIdxM_live : ∀ (xs : List (Gen.Entry LCur)) (i j : Nat) (b : Gen.Entry LCur),
    Live b → AllLive xs →
    heapMaxIdxM (Gen.Entry.cmp lstep) xs i (some (j, b)) = .ok (some (scanMin xs i (j, b))) := by
  intro xs
  induction xs with
  | nil => intro i j b _ _; rfl
  | cons x xs ih =>
    intro i j b hb hxs
    obtain ⟨hx, hxs⟩ := AllLive.cons.mp hxs
    have hc := cmp_live hb hx
    have hlt := cmp_live_lt hx hb
    simp only [heapMaxIdxM, scanMin]
    by_cases hbef : (absE x).before (absE b) = true
    · rw [hlt.mpr hbef]
      simp only [bind, Except.bind, hbef, if_true, beq_self_eq_true]
      exact ih _ _ _ hx hxs
    · rw [hc] at hlt ⊢
      have hne : ¬ ((cmpBytes (absE b).key (absE x).key).then
          (compare (absE b).idx (absE x).idx)).swap = Ordering.lt := by
        intro h; exact hbef (hlt.mp (by rw [h]))
      simp only [bind, Except.bind, hbef, beq_iff_eq, hne, if_false, Bool.false_eq_true]
      exact ih _ _ _ hb hxs

/-- the scan returns its start value or an element of `xs` together with its position -/
theorem scanMin_at : ∀ (xs : List (Gen.Entry LCur)) (i j : Nat) (b : Gen.Entry LCur),
    scanMin xs i (j, b) = (j, b) ∨
      ((scanMin xs i (j, b)).2, (scanMin xs i (j, b)).1) ∈ xs.zipIdx i := by
  intro xs
  induction xs with
  | nil => intro i j b; exact .inl rfl
  | cons x xs ih =>
    intro i j b
    simp only [scanMin, List.zipIdx_cons]
    split
    · rcases ih (i + 1) i x with h | h
      · rw [h]; exact .inr List.mem_cons_self
      · exact .inr (List.mem_cons_of_mem _ h)
    · exact (ih (i + 1) j b).imp id (List.mem_cons_of_mem _)

/-- the element the scan returns pops no later than the start value and every element of `xs` -/
theorem scanMin_least : ∀ (xs : List (Gen.Entry LCur)) (i j : Nat) (b : Gen.Entry LCur),
    KeyIdxNe ((b :: xs).map absE) →
    ∀ x ∈ b :: xs, absE x = absE (scanMin xs i (j, b)).2 ∨
      (absE (scanMin xs i (j, b)).2).before (absE x) = true := by
  intro xs
  induction xs with
  | nil =>
    intro i j b _
    simp [scanMin]
  | cons x xs ih =>
    intro i j b hne
    simp only [List.map_cons] at hne
    have hne' := List.pairwise_cons.mp hne
    simp only [scanMin]
    by_cases hbef : (absE x).before (absE b) = true
    · simp only [hbef, if_true]
      have h2 := ih (i + 1) i x hne'.2
      intro y hy
      rcases List.mem_cons.mp hy with rfl | hy
      · right
        rcases h2 x List.mem_cons_self with e | hb
        · rw [← e]; exact hbef
        · exact before_trans hb hbef
      · exact h2 y hy
    · simp only [hbef, if_false, Bool.false_eq_true]
      have hne2 : KeyIdxNe ((b :: xs).map absE) := by
        simp only [List.map_cons]
        exact List.pairwise_cons.mpr ⟨fun y hy => hne'.1 y (List.mem_cons_of_mem _ hy),
          (List.pairwise_cons.mp hne'.2).2⟩
      have h2 := ih (i + 1) j b hne2
      intro y hy
      rcases List.mem_cons.mp hy with rfl | hy
      · exact h2 _ List.mem_cons_self
      · rcases List.mem_cons.mp hy with rfl | hy
        · right
          have hbx : (absE b).before (absE y) = true :=
            before_total_of_ne (fun e1 e2 => hne'.1 (absE y) List.mem_cons_self e1.symm e2.symm) hbef
          rcases h2 b List.mem_cons_self with e | hb
          · rw [← e]; exact hbx
          · exact before_trans hb hbx
        · exact h2 y (List.mem_cons_of_mem _ hy)

/-- what `peek` / `pop` select: position and element -/
def popE : List (Gen.Entry LCur) → Option (Nat × Gen.Entry LCur)
  | [] => none
  | x :: xs => some (scanMin xs 1 (0, x))

theorem popE_get {H : List (Gen.Entry LCur)} {i : Nat} {e : Gen.Entry LCur}
    (h : popE H = some (i, e)) : H[i]? = some e := by
  cases H with
  | nil => simp [popE] at h
  | cons x xs =>
    simp only [popE, Option.some.injEq] at h
    have := scanMin_at xs 1 0 x
    rw [h] at this
    rcases this with h0 | hm
    · cases h0; rfl
    · exact List.mem_zipIdx_iff_getElem?.mp
        (by rw [List.zipIdx_cons]; exact List.mem_cons_of_mem _ hm : (e, i) ∈ (x :: xs).zipIdx)

theorem heapMaxIdxM_top (H : List (Gen.Entry LCur)) (hl : AllLive H) :
    heapMaxIdxM (Gen.Entry.cmp lstep) H 0 none = .ok (popE H) := by
  cases H with
  | nil => rfl
  | cons x xs =>
    obtain ⟨hx, hxs⟩ := AllLive.cons.mp hl
    simp only [heapMaxIdxM, popE]
    exact heapMaxIdxM_live xs 1 0 x hx hxs

theorem heapPeekM_live (H : List (Gen.Entry LCur)) (hl : AllLive H) :
    heapPeekM (Gen.Entry.cmp lstep) H = .ok ((popE H).map (·.2)) := by
  simp [heapPeekM, heapMaxIdxM_top H hl, bind, Except.bind, pure, Except.pure]

theorem heapPopM_live (H : List (Gen.Entry LCur)) (hl : AllLive H) :
    heapPopM (Gen.Entry.cmp lstep) H =
      .ok (match popE H with
        | some (i, x) => (some x, H.eraseIdx i)
        | none => (none, H)) := by
  simp only [heapPopM, heapMaxIdxM_top H hl, bind, Except.bind, pure, Except.pure]
  cases popE H with
  | none => rfl
  | some p => rfl

theorem perm_cons_eraseIdx {α} : ∀ (l : List α) (i : Nat) (a : α), l[i]? = some a →
    l.Perm (a :: l.eraseIdx i) := by
  intro l
  induction l with
  | nil => intro i a h; simp at h
  | cons x l ih =>
    intro i a h
    cases i with
    | zero => simp at h; subst h; simp
    | succ i =>
      simp only [List.getElem?_cons_succ] at h
      simp only [List.eraseIdx_cons_succ]
      exact ((ih i a h).cons x).trans (List.Perm.swap a x _)

/-- the element the heap selects is the one `heapMin` selects on the abstracted list -/
theorem popE_spec (H : List (Gen.Entry LCur)) (hne : KeyIdxNe (H.map absE)) :
    match popE H with
    | none => H = []
    | some (i, e) => H[i]? = some e ∧ heapMin (H.map absE) = some (absE e) := by
  cases hpe : popE H with
  | none => cases H with
    | nil => rfl
    | cons x xs => simp [popE] at hpe
  | some p =>
    obtain ⟨i, e⟩ := p
    refine ⟨popE_get hpe, ?_⟩
    have hmem : e ∈ H := List.mem_of_getElem? (popE_get hpe)
    cases H with
    | nil => simp [popE] at hpe
    | cons x xs =>
      have h2 := scanMin_least xs 1 0 x hne
      simp only [popE, Option.some.injEq] at hpe
      rw [hpe] at h2
      cases hm : heapMin ((x :: xs).map absE) with
      | none =>
        have := heapMin_eq_none.mp hm
        simp at this
      | some m =>
        obtain ⟨g1, g2⟩ := heapMin_least hne hm
        obtain ⟨y, hy, rfl⟩ := List.mem_map.mp g1
        rcases h2 y hy with e1 | hb
        · rw [e1]
        · rcases g2 (absE e) (List.mem_map_of_mem hmem) with e2 | hb'
          · rw [e2]
          · exact absurd hb (before_asymm hb')

/-- **pop, simulated.**  The translated heap `H` (live entries) holds, through `absE`, the entries of
    the model heap `h` (distinct `(key, idx)` pairs) in some order: both are empty, or `pop`/`peek`
    select the entry that `heapPop` selects, and the remainders again correspond. -/
theorem pop_sim (H : List (Gen.Entry LCur)) (h : List MSrc)
    (hp : (H.map absE).Perm h) (hne : KeyIdxNe h) :
    (popE H = none ∧ heapPop h = none) ∨
    ∃ i e h1, popE H = some (i, e) ∧ heapPop h = some (absE e, h1) ∧
      H.Perm (e :: H.eraseIdx i) ∧ ((H.eraseIdx i).map absE).Perm h1 ∧ KeyIdxNe h1 := by
  have hneH : KeyIdxNe (H.map absE) := hne.perm hp.symm
  have hspec := popE_spec H hneH
  cases hpe : popE H with
  | none =>
    rw [hpe] at hspec
    simp only at hspec
    subst hspec
    left
    refine ⟨rfl, ?_⟩
    have : h = [] := by simpa using hp.symm.eq_nil
    rw [this]; rfl
  | some p =>
    obtain ⟨i, e⟩ := p
    rw [hpe] at hspec
    obtain ⟨hget, hmin⟩ := hspec
    right
    have hperm := perm_cons_eraseIdx H i e hget
    have hmin' : heapMin h = some (absE e) := by rw [← heapMin_perm hneH hp]; exact hmin
    refine ⟨i, e, h.erase (absE e), rfl, ?_, hperm, ?_, hne.sublist List.erase_sublist⟩
    · simp only [heapPop, hmin']
    · have h1 : (absE e :: (H.eraseIdx i).map absE).Perm h := by
        have := hperm.map absE
        simp only [List.map_cons] at this
        exact this.symm.trans hp
      have hmem : absE e ∈ h := h1.subset List.mem_cons_self
      exact (h1.trans (List.perm_cons_erase hmem)).cons_inv

end Grenad.SrcTie
