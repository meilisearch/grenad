/-
  Grenad.SrcTie.IndexCursorIter — translator tie for `IndexBlockCursor::iter_index_blocks`
  (src/reader/reader_cursor.rs): the `for (offset, cursor) in inner` loop is the model's `RC.iterLevels`,
  the whole function is `RC.iterIndex`.
-/
import Grenad.SrcTie.IndexCursorInit

set_option linter.unusedSimpArgs false
set_option linter.unusedVariables false

namespace Grenad.SrcTie
open Grenad Grenad.R Grenad.Gen

theorem getElem!_append_cons {α : Type} [Inhabited α] (pre : List α) (n : Nat) (h : n = pre.length)
    (x : α) (rest : List α) : (pre ++ x :: rest)[n]! = x := by
  subst h; simp

theorem set_append_cons {α : Type} (pre : List α) (n : Nat) (h : n = pre.length) (x y : α) (rest : List α) :
    (pre ++ x :: rest).set n y = pre ++ y :: rest := by
  subst h; simp

/-- state of the emitted loop: early-return value, `self`, reader, `jump_to_offset` -/
abbrev IterSt :=
  Option (Option (Bytes × Bytes) × Gen.IndexBlockCursor × Src) × Gen.IndexBlockCursor × Src × Nat

/-- The `for (offset, cursor) in inner` loop of `iter_index_blocks` without the loop state: the levels afterwards,
    whether the loop ran to completion, the reader.  The recursion of the model's `RC.iterLevels`; a level is
    reloaded exactly when `jump` differs from its recorded offset, so afterwards it is recorded under `jump`. -/
def iterLevelsM (cd : Codec) (ct : CompressionType)
    (mov : Gen.BlockCursor → M (Option (Bytes × Bytes) × Gen.BlockCursor)) :
    Nat → List (Nat × Gen.BlockCursor) → Src → M (List (Nat × Gen.BlockCursor) × Bool × Src)
  | _, [], rd => .ok ([], true, rd)
  | jump, (off, c) :: rest, rd =>
    Except.bind (if jump ≠ off then genLoad cd rd jump ct else .ok (c, rd)) fun x =>
    Except.bind (mov x.1) fun y =>
      match y.1 with
      | some (_, ob) =>
        Except.bind (beValueN 8 ob) fun v =>
        Except.bind (iterLevelsM cd ct mov v rest x.2) fun w => .ok ((jump, y.2) :: w.1, w.2.1, w.2.2)
      | none => .ok ((jump, y.2) :: rest, false, x.2)

/-- What one iteration of the emitted loop is at level `pre.length` (the levels are `pre ++ x :: rest`). -/
def IterBodyEq (cd : Codec) (mov : Gen.BlockCursor → M (Option (Bytes × Bytes) × Gen.BlockCursor))
    (F : Nat → IterSt → M (ForInStep IterSt)) : Prop :=
  ∀ (pre : List (Nat × Gen.BlockCursor)) (x : Nat × Gen.BlockCursor) (rest : List (Nat × Gen.BlockCursor))
    (s : Gen.IndexBlockCursor) (rd : Src) (jump : Nat), s.inner = some (pre ++ x :: rest) →
    F pre.length (none, s, rd, jump) =
      Except.bind (if jump ≠ x.1 then genLoad cd rd jump s.compression_type else .ok (x.2, rd)) fun z =>
      Except.bind (mov z.1) fun y =>
        match y.1 with
        | some (_, ob) =>
          Except.bind (beValueN 8 ob) fun v =>
            .ok (.yield (none, { s with inner := some (pre ++ (jump, y.2) :: rest) }, z.2, v))
        | none =>
          .ok (.done (some (none, { s with inner := some (pre ++ (jump, y.2) :: rest) }, z.2),
            { s with inner := some (pre ++ (jump, y.2) :: rest) }, z.2, jump))

/-- the emitted loop, followed by anything that does not look at `jump_to_offset`, is `iterLevelsM` -/
theorem iter_loop_eq (cd : Codec) (mov : Gen.BlockCursor → M (Option (Bytes × Bytes) × Gen.BlockCursor))
    (F : Nat → IterSt → M (ForInStep IterSt)) (hF : IterBodyEq cd mov F) {β : Type} (K : IterSt → M β)
    (hK : ∀ o s rd j j', K (o, s, rd, j) = K (o, s, rd, j')) :
    ∀ (suf pre : List (Nat × Gen.BlockCursor)) (s : Gen.IndexBlockCursor) (rd : Src) (jump : Nat),
    s.inner = some (pre ++ suf) →
    Except.bind (forIn (List.range' pre.length suf.length) ((none, s, rd, jump) : IterSt) F) K =
      Except.bind (iterLevelsM cd s.compression_type mov jump suf rd) fun w =>
        K (if w.2.1 then none else some (none, { s with inner := some (pre ++ w.1) }, w.2.2),
          { s with inner := some (pre ++ w.1) }, w.2.2, jump) := by
  intro suf
  induction suf with
  | nil =>
    intro pre s rd jump hinner
    have hs : ({ s with inner := some (pre ++ []) } : Gen.IndexBlockCursor) = s := by
      cases s; simp only at hinner; simp [hinner]
    simp only [iterLevelsM, ok_bind, hs]
    rfl
  | cons x rest ih =>
    intro pre s rd jump hinner
    obtain ⟨xo, xc⟩ := x
    rw [List.length_cons, List.range'_succ, List.forIn_cons, hF pre (xo, xc) rest s rd jump hinner]
    simp only [iterLevelsM, bind, bind_assoc']
    refine bind_congr fun z => bind_congr fun y => ?_
    obtain ⟨r, c'⟩ := y
    cases r with
    | none => rfl
    | some e =>
      simp only [bind_assoc', ok_bind]
      refine bind_congr fun v => ?_
      have hlen : pre.length + 1 = (pre ++ [(jump, c')]).length := by simp
      have hinner2 : ({ s with inner := some (pre ++ (jump, c') :: rest) } : Gen.IndexBlockCursor).inner
          = some ((pre ++ [(jump, c')]) ++ rest) := by simp
      rw [hlen, ih (pre ++ [(jump, c')]) _ z.2 v hinner2]
      refine bind_congr fun w => ?_
      simp only [List.append_assoc, List.singleton_append]
      exact hK _ _ _ _ _

/-- the final `match self.inner.as_ref().and_then(|inner| inner.last())` -/
def lastM (s : Gen.IndexBlockCursor) (rd : Src) : M (Option (Bytes × Bytes) × Gen.IndexBlockCursor × Src) :=
  match s.inner.bind (fun inner => inner.getLast?) with
  | some (_, cursor) => Except.bind (Gen.BlockCursor.current cursor) fun v => .ok (v, s, rd)
  | none => .ok (none, s, rd)

theorem iter_index_blocks_eq (cd : Codec) (s : Gen.IndexBlockCursor) (rd : Src)
    (mov : Gen.BlockCursor → M (Option (Bytes × Bytes) × Gen.BlockCursor)) :
    Gen.IndexBlockCursor.iter_index_blocks (fun _ => cd.decompress) s rd mov =
      match s.inner with
      | some inner =>
        Except.bind (iterLevelsM cd s.compression_type mov s.base_block_offset inner rd) fun w =>
          if w.2.1 then lastM { s with inner := some w.1 } w.2.2 else .ok (none, { s with inner := some w.1 }, w.2.2)
      | none =>
        Except.bind (Gen.IndexBlockCursor.initial_index_blocks (fun _ => cd.decompress) s rd mov) fun x =>
          lastM { x.2.1 with inner := x.1 } x.2.2 := by
  unfold Gen.IndexBlockCursor.iter_index_blocks
  simp only [bind, pure]
  cases hinner : s.inner with
  | none => rfl
  | some inner =>
    simp only [Option.getD_some]
    refine (iter_loop_eq cd mov _ ?_ _ (fun _ _ _ _ _ => rfl) inner [] s rd _ hinner).trans
      (bind_congr fun w => ?_)
    · intro pre x rest s rd jump hinner
      obtain ⟨xo, xc⟩ := x
      simp only [hinner, Option.getD_some, getElem!_append_cons _ _ rfl, set_append_cons _ _ rfl]
      by_cases hj : jump = xo
      · subst hj
        simp only [bne_self_eq_false, Bool.false_eq_true, if_false, ne_eq, not_true_eq_false, ok_bind]
        rfl
      · have hne : (jump != xo) = true := by simp [hj]
        simp only [hne, if_true, ne_eq, hj, not_false_eq_true, genLoad, bind_assoc']
        rfl
    · obtain ⟨suf', done, rd'⟩ := w
      cases done <;> rfl

section
variable (cd : Codec) (file : Bytes) (Q : Grenad.Block → Prop)
  (ops : BlockOps Grenad.BlockCursor) (m : Mov)

variable (hs : SmallBlocks cd file) (hq : LoadsQ cd file Q)
  (mov : Gen.BlockCursor → M (Option (Bytes × Bytes) × Gen.BlockCursor))
  (htie : MovTie Q mov (ops.apply m)) (hcur : ops.current = Grenad.BlockCursor.current)
include hs hq htie hcur

omit hs hq htie in
/-- the final `match self.inner.as_ref().and_then(|inner| inner.last())`: `cursor.current()` of the last level is what
    the model reads there -/
theorem lastM_model (s : Gen.IndexBlockCursor) (hg : GoodIdx Q s) (rd : Src) (r : Option (Bytes × Bytes))
    (s' : Gen.IndexBlockCursor) (rd' : Src) (h : lastM s rd = .ok (r, s', rd')) :
    s' = s ∧ rd' = rd ∧ r = match s.inner with | some l => RC.lastCurrent ops (absL l) | none => none := by
  unfold lastM at h
  cases hin : s.inner with
  | none => rw [hin] at h; cases h; exact ⟨rfl, rfl, rfl⟩
  | some l =>
    rw [hin] at h
    simp only [Option.bind_some] at h
    have hl : (absL l).getLast? = l.getLast?.map (fun (o, c) => (o, toBC c)) := by
      simp [absL, List.getLast?_map]
    simp only [RC.lastCurrent, hl]
    cases hlast : l.getLast? with
    | none => rw [hlast] at h; cases h; exact ⟨rfl, rfl, rfl⟩
    | some p =>
      obtain ⟨o, c⟩ := p
      rw [hlast] at h
      obtain ⟨v, hv, h⟩ := bind_ok h
      have hvc := src_bc_current c ((hg l hin) _ (List.mem_of_getLast? hlast)).1 v hv
      cases h
      refine ⟨rfl, rfl, ?_⟩
      simp only [Option.map_some, hcur]
      exact hvc

omit hcur in
/-- whenever the loop returns, the model's `iterLevels` returns the same levels and the same verdict -/
theorem iterLevelsM_model (ct : CompressionType) : ∀ (suf : List (Nat × Gen.BlockCursor)) (jump : Nat) (rd : Src)
    (log : List Nat) (suf' : List (Nat × Gen.BlockCursor)) (done : Bool) (rd' : Src),
    GoodL Q suf → rd.bytes = file → iterLevelsM cd ct mov jump suf rd = .ok (suf', done, rd') →
    ∃ log', RC.iterLevels ops (loadCursor cd file) m jump (absL suf) log = some (absL suf', done, log') ∧
      GoodL Q suf' ∧ rd'.bytes = file := by
  intro suf
  induction suf with
  | nil =>
    intro jump rd log suf' done rd' hg hrd h
    cases h
    exact ⟨log, by simp [RC.iterLevels, absL], hg, hrd⟩
  | cons x rest ih =>
    intro jump rd log suf' done rd' hg hrd h
    obtain ⟨xo, xc⟩ := x
    unfold iterLevelsM at h
    obtain ⟨z, hz, h⟩ := bind_ok h
    obtain ⟨c, rd1⟩ := z
    -- the reload decision
    have hreload : ∃ log1, (if jump ≠ xo then (loadCursor cd file jump).map (fun c' => (jump, c', jump :: log))
          else some (xo, toBC xc, log)) = some (jump, toBC c, log1) ∧ Good Q c ∧ rd1.bytes = file := by
      by_cases hj : jump = xo
      · subst hj
        simp only [ne_eq, not_true_eq_false, if_false] at hz ⊢
        cases hz
        exact ⟨log, rfl, hg.head, hrd⟩
      · simp only [ne_eq, hj, not_false_eq_true, if_true] at hz ⊢
        obtain ⟨hmodel, hgood, _, hrd1⟩ := src_load_cursor cd file Q hs hq rd hrd jump _ c rd1 hz
        exact ⟨jump :: log, by rw [hmodel]; rfl, hgood, hrd1⟩
    obtain ⟨log1, hre, hgc, hrd1⟩ := hreload
    obtain ⟨y, hmov, h⟩ := bind_ok h
    obtain ⟨r, c'⟩ := y
    obtain ⟨happ, hblk⟩ := htie c r c' hgc hmov
    have hgc' : Good Q c' := hgc.of_block hblk
    cases r with
    | none =>
      cases h
      refine ⟨log1, ?_, GoodL.cons hgc' hg.tail, hrd1⟩
      simp only [absL_cons, RC.iterLevels]
      rw [hre]
      simp only [← happ]
    | some e =>
      obtain ⟨k, ob⟩ := e
      obtain ⟨v, hv, h⟩ := bind_ok h
      have hvo := beValueN8_ok ob v hv k
      obtain ⟨w, hw, h⟩ := bind_ok h
      obtain ⟨rest', done', rd2⟩ := w
      obtain ⟨log', hmodel, hg', hb'⟩ := ih v rd1 log1 rest' done' rd2 hg.tail hrd1 hw
      cases h
      refine ⟨log', ?_, GoodL.cons hgc' hg', hb'⟩
      simp only [absL_cons, RC.iterLevels]
      rw [hre]
      simp only [← happ, ← hvo, hmodel]

/-- **`iter_index_blocks`.**  Whenever the translated function returns `(r, self', reader')`, the model's
    `iterIndex` returns `r` and the state `self'` abstracts to; `self'` holds good cursors only, the reader
    still reads `file`, and `base_block_offset`, `index_levels`, `compression_type` are unchanged. -/
theorem src_iter_index_blocks (s : Gen.IndexBlockCursor) (hg : GoodIdx Q s) (rd : Src) (hrd : rd.bytes = file)
    (cur : Option Grenad.BlockCursor) (log : List Nat)
    (r : Option (Bytes × Bytes)) (s' : Gen.IndexBlockCursor) (rd' : Src)
    (h : Gen.IndexBlockCursor.iter_index_blocks (fun _ => cd.decompress) s rd mov = .ok (r, s', rd')) :
    ∃ log', RC.iterIndex ops (loadCursor cd file) m (toRC s cur log) = some (toRC s' cur log', r) ∧
      GoodIdx Q s' ∧ rd'.bytes = file ∧ s'.base_block_offset = s.base_block_offset ∧
      s'.index_levels = s.index_levels ∧ s'.compression_type = s.compression_type := by
  rw [iter_index_blocks_eq] at h
  cases hinner : s.inner with
  | some inner =>
    simp only [hinner] at h
    obtain ⟨w, hw, h⟩ := bind_ok h
    obtain ⟨suf', done, rd1⟩ := w
    obtain ⟨log', hmodel, hg', hb'⟩ := iterLevelsM_model cd file Q ops m hs hq mov htie _ inner s.base_block_offset rd
      log suf' done rd1 (hg inner hinner) hrd hw
    have hri : (toRC s cur log).inner = some (absL inner) := by rw [toRC_inner, hinner]; rfl
    have hgs' : GoodIdx Q { s with inner := some suf' } := by
      intro l hl; simp only [Option.some.injEq] at hl; subst hl; exact hg'
    cases done with
    | true =>
      obtain ⟨h1, h2, h3⟩ := lastM_model Q ops hcur _ hgs' rd1 r s' rd' h
      subst h1 h2 h3
      refine ⟨log', ?_, hgs', hb', rfl, rfl, rfl⟩
      rw [RC.iterIndex_some hri]
      exact (congrArg (Option.map _) hmodel).trans rfl
    | false =>
      cases h
      refine ⟨log', ?_, hgs', hb', rfl, rfl, rfl⟩
      rw [RC.iterIndex_some hri]
      exact (congrArg (Option.map _) hmodel).trans rfl
  | none =>
    simp only [hinner] at h
    obtain ⟨x, hinit, hlast⟩ := bind_ok h
    obtain ⟨ri, si, rdi⟩ := x
    obtain ⟨hsi, hrdi, hgi, log', hmodel⟩ :=
      src_initial_index_blocks cd file Q hs hq ops m mov htie s rd hrd log ri si rdi hinit
    subst hsi
    have hri : (toRC si cur log).inner = none := by rw [toRC_inner, hinner]; rfl
    have hgs' : GoodIdx Q { si with inner := ri } := fun l hl => hgi l hl
    obtain ⟨h1, h2, h3⟩ := lastM_model Q ops hcur _ hgs' rdi r s' rd' hlast
    subst h1 h2 h3
    refine ⟨log', ?_, hgs', hrdi, rfl, rfl, rfl⟩
    rw [RC.iterIndex_none hri]
    refine (congrArg (Option.map _) hmodel).trans ?_
    cases ri <;> rfl

end

end Grenad.SrcTie
