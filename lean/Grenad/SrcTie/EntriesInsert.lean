/-
  Grenad.SrcTie.EntriesInsert — translator tie for `Entries::insert` / `Entries::reallocate_buffer`
  (src/sorter.rs, regenerated from /repo/src on every run as `Gen.Entries.insert(.go)` /
  `Gen.Entries.reallocate_buffer`).  The buffer's content is not represented: slices, `copy_from_slice`,
  `cast_slice_mut` and `bounds[i] = …` are their bounds checks; `EntryBoundAlignedBuffer::new` (raw
  allocation) is the external parameter `extNew`, assumed to implement the model's `Entries.alloc`.
  Last, `Sorter::insert` with this `Entries::insert` inside (`src_sorter_insert_bounded`,
  `src_sorter_insert_entries`): the tie of SorterInsert.lean with the bound "`buffer.len` is a
  `usize`" carried along.
-/
import Grenad.SrcTie.SorterInsert
import Grenad.Proofs.SorterArith

set_option linter.unusedSimpArgs false
set_option linter.unusedVariables false

namespace Grenad.SrcTie
open Grenad Grenad.R Grenad.Gen

/-! ### the slice primitives, as conditional rewrite rules -/

theorem ei_ghostTo {len x : Nat} (h : x ≤ len) : ghostTo len x = .ok x := by
  simp [ghostTo, h, pure, Except.pure]
theorem ei_ghostFrom {len x : Nat} (h : x ≤ len) : ghostFrom len x = .ok (len - x) := by
  simp [ghostFrom, h, pure, Except.pure]
theorem ei_copy {a b : Nat} (h : a = b) : copyLenCheck a b = .ok () := by
  simp [copyLenCheck, h, pure, Except.pure]
theorem ei_cast {len sz : Nat} (h : len % sz = 0) : castSliceLen len sz = .ok (len / sz) := by
  simp [castSliceLen, h, pure, Except.pure]
theorem ei_idx {c i : Nat} (h : i < c) : idxCheck c i = .ok () := by
  simp [idxCheck, h, pure, Except.pure]
theorem ei_assert_true (msg : String) : assert true msg = .ok () := rfl

theorem ei_sub_panic {w a b : Nat} (h : ¬ b ≤ a) : ∃ msg, sub w a b = .error (.panic msg) :=
  ⟨"attempt to subtract with overflow", by simp [sub, h, throw, throwThe, MonadExceptOf.throw]⟩
theorem ei_mul_panic {w a b : Nat} (h : ¬ a * b < 2 ^ w) : ∃ msg, mul w a b = .error (.panic msg) :=
  ⟨"attempt to multiply with overflow", by simp [mul, h, throw, throwThe, MonadExceptOf.throw]⟩
theorem ei_ghostTo_panic {len x : Nat} (h : ¬ x ≤ len) : ∃ msg, ghostTo len x = .error (.panic msg) :=
  ⟨"range end index out of range for slice", by simp [ghostTo, h, throw, throwThe, MonadExceptOf.throw]⟩

/-! ### `fits` under the size condition "`buffer.len` is a `usize`" -/

/-- `src_entries_fits` with `buffer.len < 2^64` in place of `bounds_count * 16 < 2^64`: when the product
    overflows a `usize`, `bounds_count > buffer.len / 16` and both sides fail at the first subtraction. -/
theorem ei_fits (e : Gen.Entries) (items : List Entry) (k v : Bytes)
    (hl : e.buffer.len < 2 ^ 64) (hkv : 16 + k.length + v.length < 2 ^ 64) :
    match Grenad.Entries.fits (toEntries e items) k v with
    | .ok b => Gen.Entries.fits e k v = .ok b
    | .error _ => ∃ msg, Gen.Entries.fits e k v = .error (.panic msg) := by
  by_cases hb : e.bounds_count * 16 < 2 ^ 64
  · exact src_entries_fits e items k v hb hkv
  · have h1 : ¬ e.bounds_count ≤ e.buffer.len / 16 := by omega
    have hm : ∃ t, Grenad.Entries.fits (toEntries e items) k v = .error t := by
      unfold Grenad.Entries.fits
      simp only [toEntries, Grenad.Entries.sub, boundSize, h1, Bool.not_true, Bool.false_eq_true, if_false]
      exact ⟨_, rfl⟩
    obtain ⟨t, ht⟩ := hm
    rw [ht]
    obtain ⟨msg, hp⟩ := ei_sub_panic (w := 64) h1
    exact ⟨msg, by simp only [Gen.Entries.fits, hp, bind, Except.bind]⟩

/-- **`Entries::reallocate_buffer` on regenerated code is the model's `Entries.reallocate`.**
    The code slices the OLD buffer (`&self.buffer[..bounds_end]`, `&self.buffer[entries_start..]`,
    checked `buffer.len() - entries_len`) before it allocates; the model's `reallocate` has no
    counterpart for these three checks, hence the hypotheses `hb`, `he` (both follow from the buffer
    invariant `Inv.room`, and both hold whenever `fits` has just answered: `Entries.fits_ok`).  The result
    keeps `entries_len`, `bounds_count`, and its buffer is a fresh allocation (`len < 2^63`). -/
theorem src_entries_reallocate (extNew : Nat → M Gen.EntryBoundAlignedBuffer)
    (hNew : ∀ n, match Grenad.Entries.alloc n with
      | .ok (sz, _) => ∃ b, extNew n = .ok b ∧ b.len = sz
      | .error _ => ∃ msg, extNew n = .error (.panic msg))
    (ge : Gen.Entries) (items : List Entry)
    (hb : ge.bounds_count * 16 ≤ ge.buffer.len) (he : ge.entries_len ≤ ge.buffer.len) :
    match Grenad.Entries.reallocate (toEntries ge items) with
    | .ok (e', _) => ∃ ge', Gen.Entries.reallocate_buffer extNew ge = .ok ge' ∧
        toEntries ge' items = e' ∧ ge'.buffer.len < 2 ^ 63 ∧
        ge'.entries_len = ge.entries_len ∧ ge'.bounds_count = ge.bounds_count
    | .error _ => ∃ msg, Gen.Entries.reallocate_buffer extNew ge = .error (.panic msg) := by
  unfold Grenad.Entries.reallocate
  simp only [toEntries, Bool.not_true, Bool.false_eq_true, if_false, boundSize, usizeLimit]
  by_cases h2 : ge.buffer.len * 2 ≥ 2 ^ 64
  · simp only [h2, if_true]
    by_cases h16 : ge.bounds_count * 16 < 2 ^ 64
    · obtain ⟨msg, hp⟩ := ei_mul_panic (w := 64) (a := ge.buffer.len) (b := 2) (by omega)
      refine ⟨msg, ?_⟩
      unfold Gen.Entries.reallocate_buffer
      simp only [mul_ok h16, ei_ghostTo hb, sub_ok he, ei_ghostFrom (Nat.sub_le _ _), hp, bind,
        Except.bind, pure, Except.pure]
    · obtain ⟨msg, hp⟩ := ei_mul_panic (w := 64) h16
      exact ⟨msg, by simp only [Gen.Entries.reallocate_buffer, hp, bind, Except.bind]⟩
  · simp only [h2, if_false]
    -- the reads of the old buffer and the doubling succeed; what is left depends on `extNew`
    unfold Gen.Entries.reallocate_buffer
    simp only [mul_ok (show ge.bounds_count * 16 < 2 ^ 64 by omega), ei_ghostTo hb, sub_ok he,
      ei_ghostFrom (Nat.sub_le _ _), mul_ok (show ge.buffer.len * 2 < 2 ^ 64 by omega), bind,
      Except.bind, pure, Except.pure]
    have hn := hNew (ge.buffer.len * 2)
    cases ha : Grenad.Entries.alloc (ge.buffer.len * 2) with
    | error t =>
      rw [ha] at hn
      obtain ⟨msg, hp⟩ := hn
      exact ⟨msg, by simp only [hp]⟩
    | ok p =>
      obtain ⟨sz, ev⟩ := p
      rw [ha] at hn
      obtain ⟨b, hx, hsz⟩ := hn
      have hsz63 : sz < 2 ^ 63 := by
        rw [Grenad.Entries.alloc_eq] at ha
        split at ha; · cases ha
        split at ha; · cases ha
        cases ha; omega
      subst hsz
      simp only [hx]
      by_cases hr1 : ge.bounds_count * 16 ≤ b.len
      · by_cases hr2 : ge.entries_len ≤ b.len
        · simp only [hr1, hr2, and_self, if_true]
          have hcopy : b.len - (b.len - ge.entries_len) =
              ge.buffer.len - (ge.buffer.len - ge.entries_len) := by omega
          exact ⟨{ ge with buffer := b }, by simp only [ei_ghostTo hr1, ei_copy rfl, sub_ok hr2,
            ei_ghostFrom (Nat.sub_le _ _), ei_copy hcopy], rfl, hsz63, rfl, rfl⟩
        · simp only [hr1, hr2, and_false, if_false]
          obtain ⟨msg, hp⟩ := ei_sub_panic (w := 64) hr2
          exact ⟨msg, by simp only [ei_ghostTo hr1, ei_copy rfl, hp]⟩
      · simp only [hr1, false_and, if_false]
        obtain ⟨msg, hp⟩ := ei_ghostTo_panic hr1
        exact ⟨msg, by simp only [hp]⟩

/-! One step of the regenerated loop, exit by exit. -/

theorem ei_go_key (extNew : Nat → M Gen.EntryBoundAlignedBuffer) (ge : Gen.Entries) (k v : Bytes)
    (fuel : Nat) (hk : ¬ k.length ≤ 4294967295) :
    ∃ msg, Gen.Entries.insert.go extNew ge k v (fuel + 1) = .error (.panic msg) :=
  ⟨_, by simp only [Gen.Entries.insert.go, assert, hk, decide_false, bind, Except.bind, throw,
    throwThe, MonadExceptOf.throw]; rfl⟩

theorem ei_go_val (extNew : Nat → M Gen.EntryBoundAlignedBuffer) (ge : Gen.Entries) (k v : Bytes)
    (fuel : Nat) (hk : k.length ≤ 4294967295) (hv : ¬ v.length ≤ 4294967295) :
    ∃ msg, Gen.Entries.insert.go extNew ge k v (fuel + 1) = .error (.panic msg) :=
  ⟨_, by simp only [Gen.Entries.insert.go, assert, hk, hv, decide_true, decide_false, bind,
    Except.bind, pure, Except.pure, throw, throwThe, MonadExceptOf.throw]; rfl⟩

theorem ei_go_fits_err (extNew : Nat → M Gen.EntryBoundAlignedBuffer) (ge : Gen.Entries)
    (k v : Bytes) (fuel : Nat) (hk : k.length ≤ 4294967295) (hv : v.length ≤ 4294967295)
    (e : Fail) (hf : Gen.Entries.fits ge k v = .error e) :
    Gen.Entries.insert.go extNew ge k v (fuel + 1) = .error e := by
  simp only [Gen.Entries.insert.go, assert, hk, hv, decide_true, hf, bind, Except.bind, pure,
    Except.pure, if_true]

/-- The entry fits: the two copies, the cast of the bounds area and the bound store are in range. -/
theorem ei_go_fit (extNew : Nat → M Gen.EntryBoundAlignedBuffer) (ge : Gen.Entries) (k v : Bytes)
    (fuel : Nat) (hk : k.length ≤ 4294967295) (hv : v.length ≤ 4294967295)
    (hf : Gen.Entries.fits ge k v = .ok true) (hl : ge.buffer.len < 2 ^ 64)
    (hroom : ge.entries_len + 16 * ge.bounds_count + (16 + k.length + v.length) ≤ ge.buffer.len) :
    Gen.Entries.insert.go extNew ge k v (fuel + 1) =
      .ok { ge with entries_len := ge.entries_len + (k.length + v.length),
                    bounds_count := ge.bounds_count + 1 } := by
  -- every bound the checked operations of this branch ask for, at once
  have hin : k.length + v.length < 2 ^ 64 ∧
      ge.entries_len + (k.length + v.length) < 2 ^ 64 ∧
      ge.entries_len + (k.length + v.length) ≤ ge.buffer.len ∧
      k.length ≤ ge.buffer.len - (ge.buffer.len - (ge.entries_len + (k.length + v.length))) ∧
      ge.buffer.len - (ge.entries_len + (k.length + v.length)) + k.length < 2 ^ 64 ∧
      ge.buffer.len - (ge.entries_len + (k.length + v.length)) + k.length ≤ ge.buffer.len ∧
      v.length ≤ ge.buffer.len -
        (ge.buffer.len - (ge.entries_len + (k.length + v.length)) + k.length) ∧
      ge.bounds_count + 1 < 2 ^ 64 ∧ (ge.bounds_count + 1) * 16 < 2 ^ 64 ∧
      (ge.bounds_count + 1) * 16 ≤ ge.buffer.len ∧
      ge.bounds_count < (ge.bounds_count + 1) * 16 / 16 := by omega
  obtain ⟨h1, h2, h3, h5, h6, h7, h8, h9, h10, h11, h13⟩ := hin
  unfold Gen.Entries.insert.go
  simp only [hf, hk, hv, decide_true, ei_assert_true, if_true, add_ok h1, add_ok h2, sub_ok h3,
    ei_ghostFrom (Nat.sub_le _ _), ei_ghostTo h5, add_ok h6, ei_ghostFrom h7, ei_ghostTo h8,
    add_ok h9, mul_ok h10, ei_ghostTo h11, ei_cast (Nat.mul_mod_left _ _), ei_idx h13,
    ei_copy rfl, bind, Except.bind, pure, Except.pure]

/-- The entry does not fit: reallocate, then the loop again. -/
theorem ei_go_grow (extNew : Nat → M Gen.EntryBoundAlignedBuffer) (ge : Gen.Entries) (k v : Bytes)
    (fuel : Nat) (hk : k.length ≤ 4294967295) (hv : v.length ≤ 4294967295)
    (hf : Gen.Entries.fits ge k v = .ok false) :
    Gen.Entries.insert.go extNew ge k v (fuel + 1) =
      match Gen.Entries.reallocate_buffer extNew ge with
      | .error e => .error e
      | .ok ge1 => Gen.Entries.insert.go extNew ge1 k v fuel := by
  rw [Gen.Entries.insert.go]
  simp only [assert, hk, hv, decide_true, hf, bind, Except.bind, pure, Except.pure, if_true,
    Bool.false_eq_true, if_false]
  cases Gen.Entries.reallocate_buffer extNew ge with
  | error e => rfl
  | ok ge1 =>
    simp only
    cases Gen.Entries.insert.go extNew ge1 k v fuel <;> rfl

/-- **`Entries::insert` on regenerated code is the model's `Entries.insert`, for every fuel.**
    The only size condition is that `buffer.len` is a `usize`; it is preserved by a reallocation (the new
    length is a successful allocation's, `< 2^63`). -/
theorem ei_insert_go (extNew : Nat → M Gen.EntryBoundAlignedBuffer)
    (hNew : ∀ n, match Grenad.Entries.alloc n with
      | .ok (sz, _) => ∃ b, extNew n = .ok b ∧ b.len = sz
      | .error _ => ∃ msg, extNew n = .error (.panic msg))
    (k v : Bytes) :
    ∀ (fuel : Nat) (ge : Gen.Entries) (items : List Entry), ge.buffer.len < 2 ^ 64 →
    match (toEntries ge items).insert k v fuel with
    | .ok (e', _) => ∃ ge', Gen.Entries.insert.go extNew ge k v fuel = .ok ge' ∧
        toEntries ge' e'.items = e' ∧ ge'.buffer.len < 2 ^ 64
    | .error _ => ∃ msg, Gen.Entries.insert.go extNew ge k v fuel = .error (.panic msg) := by
  intro fuel
  induction fuel with
  | zero =>
    intro ge items hl
    exact ⟨_, rfl⟩
  | succ fuel ih =>
    intro ge items hl
    rw [Grenad.Entries.insert]
    by_cases hk : k.length > u32Max
    · rw [if_pos hk]
      exact ei_go_key extNew ge k v fuel (by simp only [u32Max] at hk; omega)
    rw [if_neg hk]
    have hk' : k.length ≤ 4294967295 := by simp only [u32Max] at hk; omega
    by_cases hv : v.length > u32Max
    · rw [if_pos hv]
      exact ei_go_val extNew ge k v fuel hk' (by simp only [u32Max] at hv; omega)
    rw [if_neg hv]
    have hv' : v.length ≤ 4294967295 := by simp only [u32Max] at hv; omega
    have hf := ei_fits ge items k v hl (by omega)
    cases hfit : Grenad.Entries.fits (toEntries ge items) k v with
    | error t =>
      rw [hfit] at hf
      obtain ⟨msg, hp⟩ := hf
      exact ⟨msg, ei_go_fits_err extNew ge k v fuel hk' hv' _ hp⟩
    | ok fit =>
      rw [hfit] at hf
      -- an answer of `fits` means the two ends do not overlap, and says how much room is left
      obtain ⟨hroom, hfit'⟩ := Grenad.Entries.fits_ok hfit
      have hused : (toEntries ge items).used = ge.entries_len + 16 * ge.bounds_count := rfl
      have hbl : (toEntries ge items).bufLen = ge.buffer.len := rfl
      rw [hused, hbl] at hroom hfit'
      cases fit with
      | true =>
        have hfits : ge.entries_len + 16 * ge.bounds_count + (16 + k.length + v.length)
            ≤ ge.buffer.len := of_decide_eq_true (Bool.and_eq_true_iff.1 hfit'.symm).1
        rw [Grenad.Entries.store_eq k v (by rw [hused, hbl]; exact hfits)]
        exact ⟨_, ei_go_fit extNew ge k v fuel hk' hv' hf hl hfits,
          by simp only [toEntries, Grenad.Entries.push, Nat.add_assoc], hl⟩
      | false =>
        simp only
        rw [ei_go_grow extNew ge k v fuel hk' hv' hf]
        have hr := src_entries_reallocate extNew hNew ge items (by omega) (by omega)
        cases hre : Grenad.Entries.reallocate (toEntries ge items) with
        | error t =>
          rw [hre] at hr
          obtain ⟨msg, hp⟩ := hr
          exact ⟨msg, by rw [hp]⟩
        | ok p =>
          obtain ⟨e1, ev⟩ := p
          rw [hre] at hr
          obtain ⟨ge1, hg, hte, hl1, _, _⟩ := hr
          rw [hg]
          dsimp only
          have hi := ih ge1 items (by omega)
          rw [hte] at hi
          cases hins : Grenad.Entries.insert e1 k v fuel with
          | error t =>
            rw [hins] at hi
            exact hi
          | ok p =>
            obtain ⟨e2, ev2⟩ := p
            rw [hins] at hi
            exact hi

/-- **`Entries::insert` on regenerated code is the model's `Entries.insert`** (fuel 64 on both sides),
    relative to the raw allocator: same bookkeeping on success, a panic exactly where the model traps
    (the two `u32::MAX` asserts, the checked subtractions of `fits`, `buffer.len() * 2` overflowing,
    the allocation's layout check / zero size, the range checks of the copies, the recursion bound).

    Size condition: only `hl` — `buffer.len` is a `usize`.  Everything else the checked arithmetic needs
    is forced by the code's own control flow: the two asserts bound `16 + key.len() + data.len()`;
    an answer of `fits` gives `entries_len + 16·bounds_count ≤ buffer.len` (`Entries.fits_ok`), which is what
    the slices of the old buffer in `reallocate_buffer` need; `fits = true` bounds
    `entries_len + key.len() + data.len()` and `(bounds_count + 1) * 16` by `buffer.len`.
    `hl` is preserved (third conjunct), also across reallocations (`src_entries_reallocate`: `< 2^63`).
    `hl` cannot be dropped: see `ei_hl_needed` below. -/
theorem src_entries_insert (extNew : Nat → M Gen.EntryBoundAlignedBuffer)
    (hNew : ∀ n, match Grenad.Entries.alloc n with
      | .ok (sz, _) => ∃ b, extNew n = .ok b ∧ b.len = sz
      | .error _ => ∃ msg, extNew n = .error (.panic msg))
    (k v : Bytes) (ge : Gen.Entries) (me : Grenad.Entries) (hR : toEntries ge me.items = me)
    (hl : ge.buffer.len < 2 ^ 64) :
    match me.insert k v 64 with
    | .ok (e', _) => ∃ ge', Gen.Entries.insert extNew ge k v = .ok ge' ∧ toEntries ge' e'.items = e' ∧
        ge'.buffer.len < 2 ^ 64
    | .error _ => ∃ msg, Gen.Entries.insert extNew ge k v = .error (.panic msg) := by
  have h := ei_insert_go extNew hNew k v 64 ge me.items hl
  rw [hR] at h
  exact h

#print axioms src_entries_reallocate
#print axioms src_entries_insert

/-- the model's allocator as an `extNew`: the hypothesis `hNew` is satisfiable -/
def ei_modelNew (n : Nat) : M Gen.EntryBoundAlignedBuffer :=
  match Grenad.Entries.alloc n with
  | .ok (sz, _) => .ok ⟨sz⟩
  | .error _ => .error (.panic "alloc")

theorem ei_modelNew_ok : ∀ n, match Grenad.Entries.alloc n with
    | .ok (sz, _) => ∃ b, ei_modelNew n = .ok b ∧ b.len = sz
    | .error _ => ∃ msg, ei_modelNew n = .error (.panic msg) := by
  intro n
  unfold ei_modelNew
  cases Grenad.Entries.alloc n with
  | error t => exact ⟨_, rfl⟩
  | ok p => exact ⟨_, rfl, rfl⟩

/-- a concrete instance with a reallocation: a 32-byte buffer, a 20-byte entry (needs 36) -/
example : ∃ ge', Gen.Entries.insert ei_modelNew ⟨⟨32⟩, 0, 0⟩ (List.replicate 10 1) (List.replicate 10 2) = .ok ge' ∧
    ge' = ⟨⟨64⟩, 20, 1⟩ := ⟨_, rfl, rfl⟩

/-- `hl` is needed: the model has no `usize` bound on `bounds_count * 16`, the code multiplies checked. -/
theorem ei_hl_needed :
    (∃ e', (toEntries ⟨⟨2 ^ 65⟩, 0, 2 ^ 60⟩ []).insert [] [] 64 = .ok e') ∧
    (∃ msg, Gen.Entries.insert ei_modelNew ⟨⟨2 ^ 65⟩, 0, 2 ^ 60⟩ [] [] = .error (.panic msg)) :=
  ⟨⟨_, rfl⟩, ⟨_, rfl⟩⟩

/-! ### `Sorter::insert` over the regenerated `Entries::insert`

`src_sorter_insert` (SorterInsert.lean) asks of its `extIns` the tie for EVERY translated `Entries`
(`hIns` has no size bound on `ge`).  `Gen.Entries.insert extNew` satisfies it only for
`ge.buffer.len < 2^64` (`ei_hl_needed`), so `hIns` cannot be discharged as stated.
`src_sorter_insert_bounded` is the same theorem with that bound threaded through: `hIns` is asked only
on `usize` buffer lengths and has to preserve the bound, the sorter's buffer is assumed to have one
(`hl`), and the bound is part of the conclusion (so the theorem iterates).  In place of `hb` of
`src_sorter_insert`, the tie of the one `fits` call comes from `hl` (`ei_fits`). -/

theorem src_sorter_insert_bounded (mf : MergeFn)
    (extIns : Gen.Entries → List UInt8 → List UInt8 → M Gen.Entries)
    (extWc extMc : Gen.Sorter → M (Nat × Gen.Sorter))
    (k v : Bytes)
    (hIns : ∀ (ge : Gen.Entries) (me : Grenad.Entries), toEntries ge me.items = me →
      ge.buffer.len < 2 ^ 64 →
      match me.insert k v 64 with
      | .ok (e', _) => ∃ ge', extIns ge k v = .ok ge' ∧ toEntries ge' e'.items = e' ∧
          ge'.buffer.len < 2 ^ 64
      | .error _ => ∃ msg, extIns ge k v = .error (.panic msg))
    (hWc : ∀ (s : Gen.Sorter) (ms : Grenad.Sorter), RelS s ms →
      match Grenad.Sorter.writeChunk mf ms with
      | .ok ms' => ∃ n s', extWc s = .ok (n, s') ∧ RelS s' ms' ∧
          s'.chunks_total_size = s.chunks_total_size ∧ n < 2 ^ 63
      | .error .merge => extWc s = .error (Fail.err RErr.merge)
      | .error (.trap _) => ∃ msg, extWc s = .error (.panic msg))
    (hMc : ∀ (s : Gen.Sorter) (ms : Grenad.Sorter), RelS s ms →
      match Grenad.Sorter.mergeChunks mf ms with
      | .ok ms' => ∃ n s', extMc s = .ok (n, s') ∧ RelS s' ms'
      | .error .merge => extMc s = .error (Fail.err RErr.merge)
      | .error (.trap _) => ∃ msg, extMc s = .error (.panic msg))
    (s : Gen.Sorter) (ms : Grenad.Sorter) (hR : RelS s ms)
    (hl : s.entries.buffer.len < 2 ^ 64) (hkv : 16 + k.length + v.length < 2 ^ 64)
    (hts : s.chunks_total_size < 2 ^ 63) :
    match Grenad.Sorter.insert mf ms k v with
    | .ok ms' => ∃ s', Gen.Sorter.insert extIns extWc extMc s k v = .ok s' ∧ RelS s' ms' ∧
        s'.entries.buffer.len < 2 ^ 64
    | .error .merge => Gen.Sorter.insert extIns extWc extMc s k v = .error (Fail.err RErr.merge)
    | .error (.trap _) => ∃ msg, Gen.Sorter.insert extIns extWc extMc s k v = .error (.panic msg) := by
  have hf := ei_fits s.entries ms.entries.items k v hl hkv
  rw [hR.1] at hf
  exact sorter_insert_core mf (· < 2 ^ 64) extIns extWc extMc k v hIns hWc hMc s ms hR hl hf hts

/-- **`Sorter::insert` with the regenerated `Entries::insert` inside is the model's `Sorter.insert`**,
    relative to the raw allocator (`hNew`), `write_chunk` and `merge_chunks`. -/
theorem src_sorter_insert_entries (mf : MergeFn)
    (extNew : Nat → M Gen.EntryBoundAlignedBuffer)
    (extWc extMc : Gen.Sorter → M (Nat × Gen.Sorter))
    (k v : Bytes)
    (hNew : ∀ n, match Grenad.Entries.alloc n with
      | .ok (sz, _) => ∃ b, extNew n = .ok b ∧ b.len = sz
      | .error _ => ∃ msg, extNew n = .error (.panic msg))
    (hWc : ∀ (s : Gen.Sorter) (ms : Grenad.Sorter), RelS s ms →
      match Grenad.Sorter.writeChunk mf ms with
      | .ok ms' => ∃ n s', extWc s = .ok (n, s') ∧ RelS s' ms' ∧
          s'.chunks_total_size = s.chunks_total_size ∧ n < 2 ^ 63
      | .error .merge => extWc s = .error (Fail.err RErr.merge)
      | .error (.trap _) => ∃ msg, extWc s = .error (.panic msg))
    (hMc : ∀ (s : Gen.Sorter) (ms : Grenad.Sorter), RelS s ms →
      match Grenad.Sorter.mergeChunks mf ms with
      | .ok ms' => ∃ n s', extMc s = .ok (n, s') ∧ RelS s' ms'
      | .error .merge => extMc s = .error (Fail.err RErr.merge)
      | .error (.trap _) => ∃ msg, extMc s = .error (.panic msg))
    (s : Gen.Sorter) (ms : Grenad.Sorter) (hR : RelS s ms)
    (hl : s.entries.buffer.len < 2 ^ 64) (hkv : 16 + k.length + v.length < 2 ^ 64)
    (hts : s.chunks_total_size < 2 ^ 63) :
    match Grenad.Sorter.insert mf ms k v with
    | .ok ms' => ∃ s', Gen.Sorter.insert (Gen.Entries.insert extNew) extWc extMc s k v = .ok s' ∧
        RelS s' ms' ∧ s'.entries.buffer.len < 2 ^ 64
    | .error .merge =>
        Gen.Sorter.insert (Gen.Entries.insert extNew) extWc extMc s k v = .error (Fail.err RErr.merge)
    | .error (.trap _) =>
        ∃ msg, Gen.Sorter.insert (Gen.Entries.insert extNew) extWc extMc s k v = .error (.panic msg) :=
  src_sorter_insert_bounded mf (Gen.Entries.insert extNew) extWc extMc k v
    (fun ge me hR hl => src_entries_insert extNew hNew k v ge me hR hl) hWc hMc s ms hR hl hkv hts

#print axioms src_sorter_insert_entries

end Grenad.SrcTie
