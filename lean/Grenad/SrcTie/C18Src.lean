/-
  Grenad.SrcTie.C18Src — the order assertion of C18 stated on the code regenerated from
  /repo/src/block_writer.rs.
-/
import Grenad.SrcTie.BlockWriter
import Grenad.Proofs.Frame

set_option linter.unusedSimpArgs false
set_option linter.unusedVariables false

namespace Grenad.SrcTie
open Grenad Grenad.R Grenad.Gen

/-- A key that is not strictly greater than the last key of the block under construction makes the
    translated `BlockWriter::insert` panic — it is never stored next to its predecessor. -/
theorem src_C18_out_of_order_panics (w : Gen.BlockWriter) (k v lk : Bytes)
    (hc : w.index_key_counter ≤ w.index_key_interval) (hi : w.index_key_interval < 2 ^ 64)
    (hlk : w.last_key = some lk) (hn : ¬ lk < k) :
    ∃ msg, BlockWriter.insert w k v = .error (.panic msg) := by
  have h := src_bw_insert w [] k v hc hi
  cases hm : BW.insert (toBW w []) k v with
  | ok bw' => exact absurd (((BW.insert_ok_iff _ _ k v).mp hm).2.2.1 lk hlk) hn
  | error t => rw [hm] at h; exact h

/-- When the translated insert succeeds the new last key is the inserted key, and it was strictly above
    the previous one. -/
theorem src_C18_accepted_is_ascending (w w' : Gen.BlockWriter) (k v : Bytes)
    (hc : w.index_key_counter ≤ w.index_key_interval) (hi : w.index_key_interval < 2 ^ 64)
    (hok : BlockWriter.insert w k v = .ok w') :
    w'.last_key = some k ∧ ∀ lk, w.last_key = some lk → lk < k := by
  have h := src_bw_insert w [] k v hc hi
  cases hm : BW.insert (toBW w []) k v with
  | error t =>
    rw [hm] at h
    obtain ⟨msg, hmsg⟩ := h
    rw [hok] at hmsg
    cases hmsg
  | ok bw' =>
    rw [hm] at h
    obtain ⟨w'', hw'', hto⟩ := h
    rw [hok] at hw''
    cases hw''
    obtain ⟨_, _, hord, rfl⟩ := (BW.insert_ok_iff _ _ k v).mp hm
    exact ⟨congrArg BW.lastKey hto, hord⟩

end Grenad.SrcTie
