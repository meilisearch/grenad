/-
  Grenad.SrcTie.EndToEnd — the block level on regenerated code, total form: for every strictly ascending
  list of entries (lengths below 2^32, payload below 2^32 bytes) pushed through the TRANSLATED block writer
  and every sequence of moves of the TRANSLATED in-block cursor over the finished block, the run returns —
  no panic, no loop-fuel exhaustion — and its answers are the list cursor's over exactly those entries.
-/
import Grenad.SrcTie.BuiltSrc
import Grenad.SrcTie.NoPanic

set_option linter.unusedSimpArgs false
set_option linter.unusedVariables false

namespace Grenad.SrcTie
open Grenad Grenad.R Grenad.Gen

theorem src_tblock_run_total {iv : Nat} {es : List Entry} : ∀ (ms : List Mov) (c : Gen.BlockCursor) (l : LC)
    (acc : List (Option (Bytes × Bytes))),
    OKBlock c.block → BlockOf iv es (toBlock c.block) → BRepr es (toBlock c.block) (toBC c) l →
    ∃ c', genRun ms c acc = .ok (c', specRun ms l acc) := by
  intro ms
  induction ms with
  | nil => intro c l acc _ _ _; exact ⟨c, rfl⟩
  | cons m ms ih =>
    intro c l acc hok hb hrep
    obtain ⟨c1, hm, hrep1, hblk⟩ := src_tblock_total c hok hb hrep m
    have hok1 : OKBlock c1.block := by rw [hblk]; exact hok
    have hb1 : BlockOf iv es (toBlock c1.block) := by rw [hblk]; exact hb
    obtain ⟨c', h'⟩ := ih c1 (LC.ops.apply m l).1 (acc ++ [(LC.ops.apply m l).2]) hok1 hb1 hrep1
    refine ⟨c', ?_⟩
    simp only [genRun, specRun, List.foldlM, List.foldl, bind, Except.bind, hm, pure, Except.pure] at h' ⊢
    exact h'

theorem src_block_end_to_end_total {iv : Nat} (hiv : 1 ≤ iv) (hi : iv < 2 ^ 64) {es : List Entry}
    (hasc : StrictAsc es) (hl : ∀ e ∈ es, e.1.length < 2 ^ 32 ∧ e.2.length < 2 ^ 32)
    (hsz : (frames es).length < 2 ^ 32) (ct : Gen.CompressionType) :
    ∃ (w wf : Gen.BlockWriter) (b : Grenad.Block),
      genInsertAll (genNew iv) es = .ok w ∧ BlockWriter.finish w = .ok wf ∧
      Grenad.Block.parse wf.buffer = some b ∧
      ∀ (ms : List Mov), ∃ c',
        genRun ms { block := { compression_type := ct, buffer := wf.buffer, payload_size := b.payload.length,
                               index_offsets := b.offsets }, current_offset := none } []
          = .ok (c', specRun ms (LC.ofList es) []) := by
  obtain ⟨w, wf, b, h1, h2, h3, hbo, h5⟩ := src_block_end_to_end hiv hi hasc hl hsz ct
  refine ⟨w, wf, b, h1, h2, h3, ?_⟩
  intro ms
  simp only at h5
  obtain ⟨hgb, hok, _⟩ := h5
  exact src_tblock_run_total ms _ (LC.ofList es) [] hok (by rw [hgb]; exact hbo) (BRepr.ofBlock es _)

end Grenad.SrcTie
