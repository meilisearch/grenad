/-
  Grenad.SrcTie.Meta — translator tie for src/metadata.rs (`Metadata::read_from`, `write_into`) and
  `CompressionType::from_u8`, regenerated from /repo/src on every run.
-/
import Grenad.Generated.Src.SrcMeta
import Grenad.Model.Meta
import Grenad.SrcTie.Bits
import Grenad.SrcTie.Prim

set_option linter.unusedSimpArgs false
set_option linter.unusedVariables false

namespace Grenad.SrcTie
open Grenad Grenad.R Grenad.Gen

theorem leValue_eq_leVal : ∀ bs, leValue bs = leVal bs
  | [] => rfl
  | b :: bs => by simp [leValue, leVal, leValue_eq_leVal bs]

/-- `CompressionType::from_u8` accepts exactly the ids 0..5 and maps each to the variant with that id. -/
theorem src_from_u8 (v : Nat) :
    (CompressionType.from_u8 v).map (Option.map CompressionType.toNat) = .ok (if v ≤ 5 then some v else none) := by
  unfold CompressionType.from_u8
  split <;> simp [pure, Except.pure, Except.map, CompressionType.toNat]
  rename_i h0 h1 h2 h3 h4 h5
  have h0 : v ≠ 0 := h0
  have h1 : v ≠ 1 := h1
  have h2 : v ≠ 2 := h2
  have h3 : v ≠ 3 := h3
  have h4 : v ≠ 4 := h4
  have h5 : v ≠ 5 := h5
  omega

/-- the translated `Metadata` as the model's record -/
def toModelMeta (m : Gen.Metadata) : Meta.Meta :=
  { version := match m.file_version with | .formatV1 => 1 | .formatV2 => 2,
    root := m.index_block_offset, codec := m.compression_type.toNat, count := m.entries_count,
    levels := m.index_levels }

/-- `Metadata::write_into` appends exactly the model's trailer bytes and reports their number. -/
theorem src_write_into (m : Gen.Metadata) (w : List UInt8) :
    Metadata.write_into m w = .ok ((Meta.encode (toModelMeta m)).length, w ++ Meta.encode (toModelMeta m)) := by
  unfold Metadata.write_into
  cases hv : m.file_version <;>
  simp [hv, toModelMeta, Meta.encode, bind, Except.bind, pure, Except.pure, add, MAGIC_V1, MAGIC_V2,
    METADATA_V1_SIZE, METADATA_V2_SIZE, leBytes_eq_leN, le64, le32, castU, leN, Meta.magicV1, Meta.magicV2, ofNat_mod256]

theorem seekEnd_ok (b : List UInt8) (p k : Nat) (h : k ≤ b.length) :
    (({ bytes := b, pos := p } : Src).seekEnd (-(k : Int))) = (.ok (b.length - k), { bytes := b, pos := b.length - k }) := by
  have : ¬ ((b.length : Int) + -(k : Int) < 0) := by omega
  have h2 : ((b.length : Int) + -(k : Int)).toNat = b.length - k := by omega
  simp [Src.seekEnd, this, h2]

theorem seekEnd_err (b : List UInt8) (p k : Nat) (h : b.length < k) :
    (({ bytes := b, pos := p } : Src).seekEnd (-(k : Int))) = (.error .invalidSeek, { bytes := b, pos := p }) := by
  have : ((b.length : Int) + -(k : Int) < 0) := by omega
  simp [Src.seekEnd, this]

theorem readLE_ok (b : List UInt8) (p k : Nat) (h : p + k ≤ b.length) :
    (({ bytes := b, pos := p } : Src).readLE k) = (.ok (leVal ((b.drop p).take k)), { bytes := b, pos := p + k }) := by
  simp [Src.readLE, Src.readN, h, leValue_eq_leVal]

/-- how a result of the translated `read_from` reads in the model's vocabulary (`none`: a panic) -/
def errToModel : Fail → Option Meta.OpenErr
  | .err (.io _) => some .io
  | .err .invalidFormatVersion => some .badMagic
  | .err .invalidCompressionType => some .badCodec
  | .err .cursor => none
  | .err .decompress => none
  | .err .merge => none
  | .panic _ => none

def resToModel : M Gen.Metadata → Option (Except Meta.OpenErr Meta.Meta)
  | .ok m => some (.ok (toModelMeta m))
  | .error f => (errToModel f).map .error

theorem castI64_small (k : Nat) (h : k < 2 ^ 63) : castI 64 k = (k : Int) := by
  have h1 : k % 2 ^ 64 = k := Nat.mod_eq_of_lt (by omega)
  simp [castI, h1, h]

theorem from_u8_le (v : Nat) (h : v ≤ 5) : ∃ c, CompressionType.from_u8 v = .ok (some c) ∧ c.toNat = v := by
  have := src_from_u8 v
  simp only [h, if_true] at this
  cases hr : CompressionType.from_u8 v with
  | error e => simp [hr, Except.map] at this
  | ok o =>
    cases o with
    | none => simp [hr, Except.map] at this
    | some c => exact ⟨c, rfl, by simpa [hr, Except.map] using this⟩

theorem from_u8_gt (v : Nat) (h : 5 < v) : CompressionType.from_u8 v = .ok none := by
  have := src_from_u8 v
  have h' : ¬ v ≤ 5 := by omega
  simp only [h', if_false] at this
  cases hr : CompressionType.from_u8 v with
  | error e => simp [hr, Except.map] at this
  | ok o =>
    cases o with
    | none => rfl
    | some c => simp [hr, Except.map] at this

/-- A `read_u8` at position `j + i` delivers the byte at offset `i` of the tail from `j`. -/
theorem leVal_take1 (b : List UInt8) {p j i : Nat} (h : p = j + i) (hlt : p < b.length) :
    leVal ((b.drop p).take 1) = ((b.drop j).getD i 0).toNat := by
  subst h
  have h1 : (b.drop (j + i)).take 1 = [b[j + i]] := by
    rw [List.drop_eq_getElem_cons hlt]; rfl
  simp [h1, leVal, List.getD_eq_getElem?_getD, List.getElem?_drop, hlt]

/-- `Metadata::read_from` over an in-memory source is the model's `Meta.parse`: same accepted
    strings, same fields, same error class, and it never panics. -/
theorem src_read_from (b : List UInt8) (p : Nat) :
    resToModel (Metadata.read_from { bytes := b, pos := p }) = some (Meta.parse b) := by
  unfold Metadata.read_from Meta.parse
  have c4 : castI 64 4 = ((4 : Nat) : Int) := castI64_small 4 (by decide)
  have c17 : castI 64 METADATA_V1_SIZE = ((17 : Nat) : Int) := castI64_small 17 (by decide)
  have c18 : castI 64 METADATA_V2_SIZE = ((18 : Nat) : Int) := castI64_small 18 (by decide)
  have a21 : addI 64 ((17 : Nat) : Int) ((4 : Nat) : Int) = .ok ((21 : Nat) : Int) := by simp [addI, pure, Except.pure]
  have a22 : addI 64 ((18 : Nat) : Int) ((4 : Nat) : Int) = .ok ((22 : Nat) : Int) := by simp [addI, pure, Except.pure]
  simp only [bind, pure, c4, c17, c18]
  by_cases h4 : b.length < 4
  · rw [seekEnd_err b p 4 h4]
    simp [liftIo, Except.bind, resToModel, errToModel, h4, throw, throwThe, MonadExceptOf.throw]
  · have h4' : 4 ≤ b.length := Nat.le_of_not_lt h4
    rw [seekEnd_ok b p 4 h4', readLE_ok b (b.length - 4) 4 (by omega)]
    have htake : (b.drop (b.length - 4)).take 4 = b.drop (b.length - 4) := by
      apply List.take_of_length_le; simp; omega
    simp only [htake, liftIo, Except.bind, h4, if_false, pure, Except.pure]
    have hm1 : MAGIC_V1 = Meta.magicV1 := by decide
    have hm2 : MAGIC_V2 = Meta.magicV2 := by decide
    have hne : Meta.magicV1 ≠ Meta.magicV2 := by decide
    rw [a21, a22, hm1, hm2]
    simp only [beq_iff_eq]
    have hpos : b.length - 4 + 4 = b.length := by omega
    rw [hpos]
    generalize hmagic : leVal (List.drop (b.length - 4) b) = magic
    by_cases hv1 : magic = Meta.magicV1
    · simp only [hv1, if_true]
      by_cases h21 : b.length < 21
      · rw [seekEnd_err b _ 21 h21]
        simp [resToModel, errToModel, h21, throw, throwThe, MonadExceptOf.throw]
      · -- the three reads after the seek stay inside the data
        have hin : b.length - 21 + 8 < b.length ∧ b.length - 21 + 8 + 1 + 8 ≤ b.length := by omega
        rw [seekEnd_ok b _ 21 (Nat.le_of_not_lt h21), readLE_ok b _ 8 (Nat.le_of_lt hin.1),
          readLE_ok b _ 1 hin.1]
        simp only [h21, if_false]
        rw [leVal_take1 b (j := b.length - 21) (i := 8) rfl hin.1]
        generalize hc : ((List.drop (b.length - 21) b).getD 8 0).toNat = codec
        by_cases h5 : codec > 5
        · rw [from_u8_gt codec h5]
          simp [okOr, resToModel, errToModel, h5, throw, throwThe, MonadExceptOf.throw]
        · obtain ⟨c, hfc, hcn⟩ := from_u8_le codec (Nat.le_of_not_lt h5)
          rw [hfc, readLE_ok b _ 8 hin.2]
          simp [okOr, resToModel, toModelMeta, h5, pure, Except.pure, hcn, List.drop_drop, List.take_drop]
    · simp only [hv1, if_false]
      by_cases hv2 : magic = Meta.magicV2
      · simp only [hv2, if_true]
        by_cases h22 : b.length < 22
        · rw [seekEnd_err b _ 22 h22]
          simp [resToModel, errToModel, h22, throw, throwThe, MonadExceptOf.throw]
        · -- the four reads after the seek stay inside the data
          have hin : b.length - 22 + 8 < b.length ∧ b.length - 22 + 8 + 1 + 8 < b.length ∧
              b.length - 22 + 8 + 1 + 8 = b.length - 22 + 17 := by omega
          rw [seekEnd_ok b _ 22 (Nat.le_of_not_lt h22), readLE_ok b _ 8 (Nat.le_of_lt hin.1),
            readLE_ok b _ 1 hin.1]
          simp only [h22, if_false]
          rw [leVal_take1 b (j := b.length - 22) (i := 8) rfl hin.1]
          generalize hc : ((List.drop (b.length - 22) b).getD 8 0).toNat = codec
          by_cases h5 : codec > 5
          · rw [from_u8_gt codec h5]
            simp [okOr, resToModel, errToModel, h5, throw, throwThe, MonadExceptOf.throw]
          · obtain ⟨c, hfc, hcn⟩ := from_u8_le codec (Nat.le_of_not_lt h5)
            rw [hfc, readLE_ok b _ 8 (Nat.le_of_lt hin.2.1), readLE_ok b _ 1 hin.2.1]
            rw [leVal_take1 b (j := b.length - 22) (i := 17) hin.2.2 hin.2.1]
            simp [okOr, resToModel, toModelMeta, h5, pure, Except.pure, hcn, List.drop_drop, List.take_drop]
      · simp [hv2, resToModel, errToModel, throw, throwThe, MonadExceptOf.throw]

/-- Read through the model: `Meta.parse` accepts with `m` exactly when the translated `read_from`
    returns a `Metadata` that reads as `m`. -/
theorem read_from_ok_iff (b : List UInt8) (p : Nat) (m : Meta.Meta) :
    Meta.parse b = .ok m ↔
      ∃ m', Metadata.read_from { bytes := b, pos := p } = .ok m' ∧ toModelMeta m' = m := by
  have h := src_read_from b p
  cases hr : Metadata.read_from { bytes := b, pos := p } with
  | ok m' =>
    rw [hr] at h
    simp only [resToModel, Option.some.injEq] at h
    rw [← h]
    exact ⟨fun e => ⟨m', rfl, Except.ok.inj e⟩, fun ⟨_, e1, e2⟩ => by cases e1; rw [e2]⟩
  | error f =>
    rw [hr] at h
    refine ⟨fun e => ?_, fun ⟨_, e1, _⟩ => nomatch e1⟩
    rw [e] at h
    cases f with
    | panic s => simp [resToModel, errToModel] at h
    | err e => cases e <;> simp [resToModel, errToModel] at h

end Grenad.SrcTie
