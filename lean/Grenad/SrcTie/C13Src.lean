/-
  Grenad.SrcTie.C13Src — C13 (and the trailer half of C09/C10) stated directly on the code regenerated
  from /repo/src/metadata.rs.
-/
import Grenad.Props.C13
import Grenad.SrcTie.Meta
import Grenad.Proofs.MetaProofs

set_option linter.unusedSimpArgs false
set_option linter.unusedVariables false

namespace Grenad.SrcTie
open Grenad Grenad.R Grenad.Gen

/-- The translated `Metadata::read_from` never panics, on any byte string. -/
theorem src_C13_never_panics (b : List UInt8) (p : Nat) (msg : String) :
    Metadata.read_from { bytes := b, pos := p } ≠ .error (.panic msg) := by
  intro h
  have := src_read_from b p
  rw [h] at this
  simp [resToModel, errToModel] at this

/-- The translated `Metadata::read_from` succeeds exactly on byte strings ending in a valid trailer. -/
theorem src_C13_open_iff (b : List UInt8) (p : Nat) :
    (∃ m, Metadata.read_from { bytes := b, pos := p } = .ok m) ↔ Props.C13.ValidTrailer b := by
  rw [← Props.C13.C13_open_iff]
  exact ⟨fun ⟨m, hm⟩ => ⟨_, (read_from_ok_iff b p _).mpr ⟨m, hm, rfl⟩⟩,
    fun ⟨m, hm⟩ => let ⟨m', h, _⟩ := (read_from_ok_iff b p m).mp hm; ⟨m', h⟩⟩

/-- Trailer round trip on translated code: what `write_into` appends, `read_from` accepts and returns
    (format V2, any codec variant, fields within their widths). -/
theorem src_C09_trailer_roundtrip (m : Gen.Metadata) (pre : List UInt8) (p : Nat)
    (hv : m.file_version = .formatV2) (h1 : m.index_block_offset < 2 ^ 64) (h2 : m.entries_count < 2 ^ 64)
    (h3 : m.index_levels < 256) :
    ∃ n out, Metadata.write_into m pre = .ok (n, out) ∧ n = 22 ∧
      (Metadata.read_from { bytes := out, pos := p }).map toModelMeta = .ok (toModelMeta m) := by
  refine ⟨_, _, src_write_into m pre, ?_, ?_⟩
  · simp [Meta.encode, toModelMeta, hv, le64, le32, leN]
  · have hc : (toModelMeta m).codec ≤ 5 := by
      simp only [toModelMeta]; cases m.compression_type <;> simp [CompressionType.toNat]
    have hp := Meta.parse_encode pre (toModelMeta m) (.inr (by simp [toModelMeta, hv])) h1 hc h2 h3
    obtain ⟨m', hr, hm'⟩ := (read_from_ok_iff _ p _).mp hp
    rw [hr, Except.map, hm']

end Grenad.SrcTie
