/-
  Grenad.SrcTie.CountWrite — translator tie for src/count_write.rs (regenerated from /repo/src on every
  run).  The writer under the `CountWrite` stays abstract in the translation (`wwrite`, `wflush`); here
  it is instantiated with a raw sink that answers every `write` call from a schedule (short writes,
  `Interrupted`, other errors), and std's `write_all` loop — written out from its documented source —
  is run over the TRANSLATED `CountWrite::write`.  The result is the model's `IOM.writeAll` (C11, C09:
  `count` is the number of bytes the sink really took, under every schedule).
-/
import Grenad.Generated.Src.SrcCountWrite
import Grenad.Model.IO
import Grenad.Proofs.IOProofs

set_option linter.unusedSimpArgs false
set_option linter.unusedVariables false

namespace Grenad.SrcTie
open Grenad Grenad.R Grenad.Gen Grenad.IOM

/-- the raw sink below the `CountWrite`: bytes taken so far and the schedule of answers still to give -/
structure Raw where
  data : Bytes
  sch  : List WResp
  deriving Repr, DecidableEq

/-- one `write(buf)` call on the raw sink, answered from the schedule exactly as `IOM.writeAll` reads it -/
def rawWrite (r : Raw) (buf : Bytes) : Raw × Except IoErr Nat :=
  match r.sch with
  | [] => ({ r with data := r.data ++ buf }, .ok buf.length)
  | .accept n :: rs => ({ data := r.data ++ buf.take (max 1 (min n buf.length)), sch := rs }, .ok (max 1 (min n buf.length)))
  | .interrupted :: rs => ({ r with sch := rs }, .error .interrupted)
  | .fail t :: rs => ({ r with sch := rs }, .error (.other t))

/-- One call of the translated `CountWrite::write`, keeping the receiver on the `Err` path too
    (`?` returns before `self.count` is touched; the inner writer has consumed its answer). -/
def cwWrite (cw : CountWrite Raw) (buf : Bytes) : CountWrite Raw × Except Fail Nat :=
  match Gen.CountWrite.write rawWrite cw buf with
  | .ok (n, cw') => (cw', .ok n)
  | .error e => ({ cw with inner := (rawWrite cw.inner buf).1 }, .error e)

/-- std's `Write::write_all` (library/std/src/io/mod.rs): loop while the buffer is not empty, `Ok(0)` is
    `WriteZero`, `Interrupted` is retried, any other error is returned.  `none`: out of fuel. -/
def stdWriteAll : Nat → CountWrite Raw → Bytes → CountWrite Raw × Option (Option Fail)
  | 0, cw, buf => if buf.isEmpty then (cw, some none) else (cw, none)
  | f + 1, cw, buf =>
    if buf.isEmpty then (cw, some none) else
    match cwWrite cw buf with
    | (cw', .ok n) => if n = 0 then (cw', some (some (.err (.io (.other 0))))) else stdWriteAll f cw' (buf.drop n)
    | (cw', .error (.err (.io .interrupted))) => stdWriteAll f cw' buf
    | (cw', .error e) => (cw', some (some e))

/-- how the model's error tag reads on the code side -/
def tagFail : Option Nat → Option Fail
  | none => none
  | some t => some (.err (.io (.other t)))

theorem cwWrite_ok (cw : CountWrite Raw) (buf : Bytes) (r' : Raw) (n : Nat)
    (h : rawWrite cw.inner buf = (r', .ok n)) (hc : cw.count + n < 2 ^ 64) :
    cwWrite cw buf = ({ inner := r', count := cw.count + n }, .ok n) := by
  simp [cwWrite, Gen.CountWrite.write, h, liftIo, add, hc, bind, Except.bind, pure, Except.pure]

theorem cwWrite_err (cw : CountWrite Raw) (buf : Bytes) (r' : Raw) (e : IoErr)
    (h : rawWrite cw.inner buf = (r', .error e)) :
    cwWrite cw buf = ({ cw with inner := r' }, .error (.err (.io e))) := by
  simp [cwWrite, Gen.CountWrite.write, h, liftIo, bind, Except.bind, throw, throwThe, MonadExceptOf.throw]

/-- **`write_all` through the translated `CountWrite::write` is `IOM.writeAll`**: same bytes in the sink,
    same `count`, same unused schedule, same outcome — for every buffer and every schedule of short
    writes, interruptions and failures (no `u64` overflow of the byte count). -/
theorem src_countwrite_write_all : ∀ (sch : List WResp) (buf d : Bytes) (c : Nat),
    c + buf.length < 2 ^ 64 →
    stdWriteAll (sch.length + 1) { inner := { data := d, sch := sch }, count := c } buf =
      (let r := writeAll buf { data := d, count := c } sch
       ({ inner := { data := r.1.data, sch := r.2.1 }, count := r.1.count }, some (tagFail r.2.2)))
  | [], buf, d, c, hc => by
    by_cases hb : buf = []
    · subst hb; simp [stdWriteAll, writeAll, tagFail]
    · have hne : buf.isEmpty = false := by cases buf <;> simp_all
      have hl : buf.length ≠ 0 := by cases buf <;> simp_all
      have h1 := cwWrite_ok { inner := { data := d, sch := [] }, count := c } buf
        { data := d ++ buf, sch := [] } buf.length (by simp [rawWrite]) hc
      simp only [stdWriteAll, hne, Bool.false_eq_true, if_false, h1, hl, List.length_nil, Nat.zero_add,
        List.drop_length, List.isEmpty_nil, if_true, writeAll, tagFail]
  | r :: rs, buf, d, c, hc => by
    by_cases hb : buf = []
    · subst hb; simp [stdWriteAll, writeAll, tagFail]
    · have hne : buf.isEmpty = false := by cases buf <;> simp_all
      have hl : 0 < buf.length := by cases buf <;> simp_all
      cases r with
      | accept n =>
        have hm : max 1 (min n buf.length) ≤ buf.length :=
          Nat.max_le.mpr ⟨hl, Nat.min_le_right _ _⟩
        have hm0 : max 1 (min n buf.length) ≠ 0 := Nat.ne_of_gt (Nat.le_max_left 1 _)
        rw [writeAll_accept hb]
        -- `m` bytes go through in this call
        generalize hmd : max 1 (min n buf.length) = m at hm hm0 ⊢
        have h1 := cwWrite_ok { inner := { data := d, sch := .accept n :: rs }, count := c } buf
          { data := d ++ buf.take m, sch := rs } m (by simp [rawWrite, hmd]) (by simp only []; omega)
        have ih := src_countwrite_write_all rs (buf.drop m) (d ++ buf.take m) (c + m)
          (by rw [List.length_drop]; omega)
        simp only [List.length_cons]
        rw [stdWriteAll]
        simp only [hne, Bool.false_eq_true, if_false, h1, hm0]
        rw [ih]
      | interrupted =>
        have h1 := cwWrite_err { inner := { data := d, sch := .interrupted :: rs }, count := c } buf
          { data := d, sch := rs } .interrupted (by simp [rawWrite])
        have ih := src_countwrite_write_all rs buf d c hc
        simp only [List.length_cons]
        rw [stdWriteAll]
        simp only [hne, Bool.false_eq_true, if_false, h1]
        rw [ih]
        simp [writeAll, hne]
      | fail t =>
        have h1 := cwWrite_err { inner := { data := d, sch := .fail t :: rs }, count := c } buf
          { data := d, sch := rs } (.other t) (by simp [rawWrite])
        simp only [List.length_cons]
        rw [stdWriteAll]
        simp only [hne, Bool.false_eq_true, if_false, h1]
        simp [writeAll, hne, tagFail]

/-- Corollary on the regenerated code: `count` equals the number of bytes the sink holds after any
    `write_all`, completed or failed, whenever it did before. -/
theorem src_countwrite_count_is_len (sch : List WResp) (buf d : Bytes) (hc : d.length + buf.length < 2 ^ 64) :
    let r := stdWriteAll (sch.length + 1) { inner := { data := d, sch := sch }, count := d.length } buf
    r.1.count = r.1.inner.data.length := by
  simp only [src_countwrite_write_all sch buf d d.length hc]
  exact writeAll_count_inv sch buf { data := d, count := d.length } rfl

/-- `CountWrite::new` starts the count at zero and `count()` reads it. -/
theorem src_countwrite_new (r : Raw) :
    Gen.CountWrite.new r = .ok { inner := r, count := 0 } ∧
    ∀ cw : CountWrite Raw, Gen.CountWrite.count_fn cw = .ok cw.count := by
  constructor <;> intros <;> rfl

/-- `into_inner` flushes first: the inner writer comes back only when its `flush` succeeded, and a
    failing `flush` is the call's error. -/
theorem src_countwrite_into_inner {γ : Type} (wflush : γ → γ × Except IoErr Unit) (cw : CountWrite γ) :
    Gen.CountWrite.into_inner wflush cw =
      (match (wflush cw.inner).2 with
       | .ok _ => .ok (wflush cw.inner).1
       | .error e => .error (.err (.io e))) := by
  unfold Gen.CountWrite.into_inner
  cases h : (wflush cw.inner).2 <;>
    simp [h, liftIo, bind, Except.bind, pure, Except.pure, throw, throwThe, MonadExceptOf.throw]

end Grenad.SrcTie
