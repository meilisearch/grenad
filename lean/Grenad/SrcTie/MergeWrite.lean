/-
  Grenad.SrcTie.MergeWrite — translator tie for `Merger::write_into_stream_writer` (src/merger.rs): the
  translated merger streamed into the translated writer is exactly the translated `insert`s of the entries
  the model merger yields, in order (`src_merge_into_writer`), and C06_into_writer on the regenerated code
  (`src_C06_into_writer`).
-/
import Grenad.SrcTie.MergerIterRun
import Grenad.SrcTie.WriterBounds
import Grenad.Generated.Src.SrcMergeWrite

set_option linter.unusedSimpArgs false
set_option linter.unusedVariables false

namespace Grenad.SrcTie
open Grenad Grenad.R Grenad.Gen Grenad.Wave3

/-! ### the loop of `write_into_stream_writer` as a recursion -/

/-- the loop of `write_into_stream_writer` together with the fuel check that follows it -/
def mw_loop (merge : List UInt8 → List (List UInt8) → Except Unit Cow) (C : CompressFn) :
    Nat → Gen.MergerIter LCur → Gen.Writer → M Gen.Writer
  | 0, _, _ => .error (Fail.panic "r2l: loop fuel exhausted")
  | fuel + 1, it, g =>
    match Gen.MergerIter.next lstep merge it with
    | .error f => .error f
    | .ok (none, _) => .ok g
    | .ok (some (k, v), it') =>
      match Gen.Writer.insert C g k v with
      | .error f => .error f
      | .ok g' => mw_loop merge C fuel it' g'

/-- body of the loop of `write_into_stream_writer`; the state is (writer, iterator, ended by `break`) -/
def mwBody (merge : List UInt8 → List (List UInt8) → Except Unit Cow) (C : CompressFn) (_x : Nat)
    (s : Gen.Writer × Gen.MergerIter LCur × Bool) :
    M (ForInStep (Gen.Writer × Gen.MergerIter LCur × Bool)) := do
  let (r_2, m_3) ← Gen.MergerIter.next lstep merge s.2.1
  match r_2 with
  | Option.some (key, val) =>
    let m_5 ← Gen.Writer.insert C s.1 key val
    pure (ForInStep.yield (m_5, m_3, s.2.2))
  | _ => pure (ForInStep.done (s.1, m_3, true))

theorem mw_forIn (merge : List UInt8 → List (List UInt8) → Except Unit Cow) (C : CompressFn) :
    ∀ (n s : Nat) (it : Gen.MergerIter LCur) (g : Gen.Writer),
    (do let st ← forIn (List.range' s n) (g, it, false) (mwBody merge C)
        if !st.2.2 then throw (Fail.panic "r2l: loop fuel exhausted")
        pure st.1) = mw_loop merge C n it g := by
  intro n
  induction n with
  | zero => intro s it g; rfl
  | succ n ih =>
    intro s it g
    have ih' := ih (s + 1)
    simp only [bind, Except.bind, pure, Except.pure] at ih'
    simp only [List.range'_succ, List.forIn_cons, mw_loop, mwBody, bind, Except.bind, pure, Except.pure]
    cases hn : Gen.MergerIter.next lstep merge it with
    | error f => rfl
    | ok p =>
      obtain ⟨r, it'⟩ := p
      cases r with
      | none => rfl
      | some kv =>
        obtain ⟨k, v⟩ := kv
        simp only
        cases hi : Gen.Writer.insert C g k v with
        | error f => rfl
        | ok g' => exact ih' it' g'

theorem mw_unfold (merge : List UInt8 → List (List UInt8) → Except Unit Cow) (C : CompressFn) (fuel : Nat)
    (ms : Gen.Merger LCur) (g : Gen.Writer) :
    Gen.Merger.write_into_stream_writer lstep merge fuel C ms g =
      match Gen.Merger.into_stream_merger_iter lstep ms with
      | .error f => .error f
      | .ok it => mw_loop merge C fuel it g := by
  cases h : Gen.Merger.into_stream_merger_iter lstep ms with
  | error f => simp only [Gen.Merger.write_into_stream_writer, h]; rfl
  | ok it =>
    show _ = mw_loop merge C fuel it g
    rw [← mw_forIn merge C fuel 0 it g]
    simp only [Gen.Merger.write_into_stream_writer, h]
    rfl

/-! ### what the model merger yields before it stops -/

/-- The entries the model merger yields, in order, until it is drained or the merge function fails, and
    whether it stopped on a failure of the merge function. -/
def mw_trace (mf : MergeFn) : Nat → Merger → List Entry × Bool
  | 0, _ => ([], false)
  | fuel + 1, m =>
    match Merger.next mf m with
    | (_, .ok none) => ([], false)
    | (m', .ok (some e)) => (e :: (mw_trace mf fuel m').1, (mw_trace mf fuel m').2)
    | (_, .mergeErr) => ([], true)

/-- `Merger.collect` in terms of the trace -/
theorem mw_collect_trace (mf : MergeFn) : ∀ (fuel : Nat) (m : Merger) (acc : List Entry),
    (Merger.collect mf fuel m acc).1 =
      if (mw_trace mf fuel m).2 then none else some (acc.reverse ++ (mw_trace mf fuel m).1) := by
  intro fuel
  induction fuel with
  | zero => intro m acc; simp [Merger.collect, mw_trace]
  | succ fuel ih =>
    intro m acc
    cases hn : Merger.next mf m with
    | mk m' res =>
      match res, hn with
      | .ok none, hn => simp [Merger.collect, mw_trace, hn]
      | .ok (some e), hn =>
        simp only [Merger.collect, mw_trace, hn, ih m' (e :: acc)]
        simp
      | .mergeErr, hn => simp [Merger.collect, mw_trace, hn]

/-- The entries the model merger over `srcs` yields, in order, before it is drained or the merge function
    fails (`Merger.run`'s output when it succeeds: `mw_yielded_of_run`). -/
def mw_yielded (mf : MergeFn) (srcs : List (List Entry)) : List Entry :=
  (mw_trace mf (Merger.totalLen srcs + 1) (Merger.start srcs)).1

theorem mw_run_trace (mf : MergeFn) (srcs : List (List Entry)) :
    (Merger.run mf srcs).1 =
      if (mw_trace mf (Merger.totalLen srcs + 1) (Merger.start srcs)).2 then none
      else some (mw_yielded mf srcs) := by
  unfold Merger.run
  rw [mw_collect_trace]
  simp [mw_yielded]

theorem mw_yielded_of_run (mf : MergeFn) (srcs : List (List Entry)) (out : List Entry)
    (h : (Merger.run mf srcs).1 = some out) : mw_yielded mf srcs = out := by
  rw [mw_run_trace] at h
  split at h
  · cases h
  · exact (Option.some.inj h)

/-! ### the entries yielded before a failure are a prefix of the merged content -/

theorem mw_next_agree (mf mf2 : MergeFn) (hag : ∀ k vs v, mf k vs = some v → mf2 k vs = some v) (m m' : Merger)
    (r : Option Entry) (h : Merger.next mf m = (m', .ok r)) : Merger.next mf2 m = (m', .ok r) := by
  cases hpop : heapPop m.heap with
  | none =>
    rw [Merger.next_of_empty mf hpop] at h
    rw [Merger.next_of_empty mf2 hpop]
    exact h
  | some p =>
    obtain ⟨first, h1⟩ := p
    cases hps : popSame first.key (h1.length + 1) h1 [] with
    | mk S h2 =>
      rw [Merger.next_of_round mf hpop hps] at h
      rw [Merger.next_of_round mf2 hpop hps]
      cases hmf : mf first.key (first.val :: S.map MSrc.val) with
      | none => rw [hmf] at h; cases h
      | some v =>
        rw [hmf] at h
        simp only [hag _ _ _ hmf]
        exact h

theorem mw_trace_prefix (mf mf2 : MergeFn) (hag : ∀ k vs v, mf k vs = some v → mf2 k vs = some v) :
    ∀ (fuel : Nat) (m : Merger), (mw_trace mf fuel m).1 <+: (mw_trace mf2 fuel m).1 := by
  intro fuel
  induction fuel with
  | zero => intro m; exact List.prefix_refl _
  | succ fuel ih =>
    intro m
    cases hn : Merger.next mf m with
    | mk m' res =>
      match res, hn with
      | .ok none, hn => simp only [mw_trace, hn]; exact List.nil_prefix
      | .mergeErr, hn => simp only [mw_trace, hn]; exact List.nil_prefix
      | .ok (some e), hn =>
        simp only [mw_trace, hn, mw_next_agree mf mf2 hag m m' _ hn]
        exact List.cons_prefix_cons.mpr ⟨rfl, ih m'⟩

/-- For strictly ascending sources and any merge function `mf`: the entries yielded before the merge function
    fails are a prefix of the merged content `Spec.mergeSpec mf' sources`, for every total `mf'` that agrees with
    `mf` where `mf` succeeds (e.g. `fun k vs => (mf k vs).getD []`). -/
theorem mw_yielded_prefix (mf : MergeFn) (mf' : Bytes → List Bytes → Bytes)
    (hag : ∀ k vs v, mf k vs = some v → mf' k vs = v) (sources : List (List Entry))
    (hasc : ∀ s ∈ sources, StrictAsc s) : mw_yielded mf sources <+: Spec.mergeSpec mf' sources := by
  have h := mw_trace_prefix mf (Grenad.Props.C06.total mf')
    (by intro k vs v hv; simp only [Grenad.Props.C06.total, hag k vs v hv])
    (Merger.totalLen sources + 1) (Merger.start sources)
  have h2 := mw_yielded_of_run (Grenad.Props.C06.total mf') sources _ (Grenad.Props.C06.C06_merge mf' sources hasc)
  rw [← h2]
  exact h

/-- what `write_into_stream_writer` does, in terms of the trace: the translated `insert`s of the yielded
    entries, then `Err(Error::Merge(_))` if the merger stopped on a failure -/
def mw_outcome (C : CompressFn) (g : Gen.Writer) (t : List Entry × Bool) : M Gen.Writer :=
  match genWriterGo C g t.1 with
  | .error f => .error f
  | .ok g' => if t.2 then .error (Fail.err RErr.merge) else .ok g'

theorem mw_sim (mf : MergeFn) (merge : List UInt8 → List (List UInt8) → Except Unit Cow)
    (hm : ∀ k vs, (merge k vs).toOption.map cowBytes = mf k vs) (C : CompressFn) :
    ∀ (fuel fuel' : Nat) (it : Gen.MergerIter LCur) (m : Merger) (g : Gen.Writer),
      RunInv it m → heapLen m.heap < fuel → heapLen m.heap < fuel' →
      mw_loop merge C fuel it g = mw_outcome C g (mw_trace mf fuel' m) := by
  intro fuel
  induction fuel with
  | zero => intro fuel' it m g _ h; omega
  | succ fuel ih =>
    intro fuel' it m g hI hfuel hfuel'
    obtain ⟨fuel', rfl⟩ : ∃ n, fuel' = n + 1 := ⟨fuel' - 1, by omega⟩
    have hsim := next_sim_run mf merge hm it m hI
    simp only [mw_loop, mw_trace]
    cases hn : Merger.next mf m with
    | mk m' res =>
      rw [hn] at hsim
      match res, hsim with
      | .ok none, hsim =>
        obtain ⟨it', h1⟩ := hsim
        rw [h1]
        rfl
      | .ok (some e), hsim =>
        obtain ⟨it', h1, hI', hlt⟩ := hsim
        obtain ⟨k, v⟩ := e
        rw [h1]
        simp only [mw_outcome, genWriterGo, bind, Except.bind]
        cases hi : Gen.Writer.insert C g k v with
        | error f => rfl
        | ok g' =>
          simp only
          exact ih fuel' it' m' g' hI' (by omega) (by omega)
      | .mergeErr, hsim =>
        rw [hsim]
        rfl

/-- Both outcomes in one equation: `write_into_stream_writer` is the translated `insert`s of the entries the
    model merger yields, in order, followed by `Err(Error::Merge(_))` if the model run fails. -/
theorem mw_into_writer (mf : MergeFn) (merge : List UInt8 → List (List UInt8) → Except Unit Cow)
    (hm : ∀ k vs, (merge k vs).toOption.map cowBytes = mf k vs) (C : CompressFn)
    (srcs : List (List Entry)) (fuel : Nat) (hfuel : Merger.totalLen srcs + 1 ≤ fuel) (g : Gen.Writer) :
    Gen.Merger.write_into_stream_writer lstep merge fuel C
        { sources := srcs.map (fun l => ({ fresh := true, rest := l } : LCur)) } g =
      match genWriterGo C g (mw_yielded mf srcs) with
      | .error f => .error f
      | .ok g' => if (Merger.run mf srcs).1 = none then .error (Fail.err RErr.merge) else .ok g' := by
  obtain ⟨it, h1, h2, -, -, -, h6⟩ := src_merger_start srcs
  rw [mw_unfold, h1]
  simp only
  have hlen : heapLen (Merger.start srcs).heap = Merger.totalLen srcs := by
    rw [start_heap, heapLen_start_go]
  rw [mw_sim mf merge hm C fuel (Merger.totalLen srcs + 1) it (Merger.start srcs) g
    ⟨h6, by rw [h2], start_idxNe srcs⟩ (by omega) (by omega)]
  rw [mw_run_trace]
  unfold mw_outcome mw_yielded
  cases genWriterGo C g (mw_trace mf (Merger.totalLen srcs + 1) (Merger.start srcs)).1 with
  | error f => rfl
  | ok g' =>
    cases (mw_trace mf (Merger.totalLen srcs + 1) (Merger.start srcs)).2 <;> simp

/-- **src_merge_into_writer.**  The translated `Merger::write_into_stream_writer` over fresh list cursors on
    `srcs`, any merge function (tied to the model's by `hm`), any compressor, any writer state `g`, any loop
    fuel of at least `totalLen srcs + 1`:
    * when the model run returns `some out`, it is exactly the translated `Writer::insert`s of the merged
      entries `out`, in order (`genWriterGo`) — the same result, `Ok` or panic of an `insert`; in particular
      the loop fuel never runs out;
    * when the model run fails in the merge function, it is the translated `insert`s of the entries
      `mw_yielded mf srcs` the merger yields before the failing call, and if all of those succeed it returns
      `Err(Error::Merge(_))`. -/
theorem src_merge_into_writer (mf : MergeFn) (merge : List UInt8 → List (List UInt8) → Except Unit Cow)
    (hm : ∀ k vs, (merge k vs).toOption.map cowBytes = mf k vs) (C : CompressFn)
    (srcs : List (List Entry)) (fuel : Nat) (hfuel : Merger.totalLen srcs + 1 ≤ fuel) (g : Gen.Writer) :
    (∀ out, (Merger.run mf srcs).1 = some out →
      Gen.Merger.write_into_stream_writer lstep merge fuel C
        { sources := srcs.map (fun l => ({ fresh := true, rest := l } : LCur)) } g = genWriterGo C g out) ∧
    ((Merger.run mf srcs).1 = none →
      Gen.Merger.write_into_stream_writer lstep merge fuel C
        { sources := srcs.map (fun l => ({ fresh := true, rest := l } : LCur)) } g =
        match genWriterGo C g (mw_yielded mf srcs) with
        | .error f => .error f
        | .ok _ => .error (Fail.err RErr.merge)) := by
  have h := mw_into_writer mf merge hm C srcs fuel hfuel g
  constructor
  · intro out ho
    rw [h, mw_yielded_of_run mf srcs out ho, ho]
    cases genWriterGo C g out <;> simp
  · intro hn
    rw [h, hn]
    cases genWriterGo C g (mw_yielded mf srcs) <;> simp

theorem src_merge_into_writer_err (mf : MergeFn) (merge : List UInt8 → List (List UInt8) → Except Unit Cow)
    (hm : ∀ k vs, (merge k vs).toOption.map cowBytes = mf k vs) (C : CompressFn)
    (srcs : List (List Entry)) (fuel : Nat) (hfuel : Merger.totalLen srcs + 1 ≤ fuel) (g g' : Gen.Writer)
    (hn : (Merger.run mf srcs).1 = none) (hins : genWriterGo C g (mw_yielded mf srcs) = .ok g') :
    Gen.Merger.write_into_stream_writer lstep merge fuel C
      { sources := srcs.map (fun l => ({ fresh := true, rest := l } : LCur)) } g =
      .error (Fail.err RErr.merge) := by
  rw [(src_merge_into_writer mf merge hm C srcs fuel hfuel g).2 hn, hins]

/-- **src_merge_into_writer, model side.**  With a generated writer `g` related to a model writer `w`: when the
    model merger returns `out` and the model writer accepts `out` from `w` (ending in `w'`, bounds `WSmall` along
    the way), `write_into_stream_writer` returns `Ok` of a writer related to `w'`. -/
theorem src_merge_into_writer_rw (mf : MergeFn) (merge : List UInt8 → List (List UInt8) → Except Unit Cow)
    (hm : ∀ k vs, (merge k vs).toOption.map cowBytes = mf k vs)
    (cd : Codec) (hcd : ∀ b : Bytes, b.length < 2 ^ 63 → (cd.compress b).length < 2 ^ 64)
    (srcs : List (List Entry)) (fuel : Nat) (hfuel : Merger.totalLen srcs + 1 ≤ fuel)
    (g : Gen.Writer) (w w' : W) (hr : RW g w) (out : List Entry)
    (ho : (Merger.run mf srcs).1 = some out) (hgo : W.run.go cd w out = .ok w')
    (hsm : ∀ pre w1, pre <+: out → W.run.go cd w pre = .ok w1 → WSmall w1) :
    ∃ g', Gen.Merger.write_into_stream_writer lstep merge fuel (codecFn cd)
        { sources := srcs.map (fun l => ({ fresh := true, rest := l } : LCur)) } g = .ok g' ∧ RW g' w' ∧
      g'.compression_type = g.compression_type ∧ g'.compression_level = g.compression_level := by
  rw [(src_merge_into_writer mf merge hm (codecFn cd) srcs fuel hfuel g).1 out ho]
  have := mw_writer_go cd hcd out g w hr hsm
  rw [hgo] at this
  exact this

/-! ### C06_into_writer on the regenerated code -/

/-- **src_C06_into_writer.**  `Props.C06.C06_into_writer` on the regenerated code.  Strictly ascending sources,
    a merge function that never fails (`merge k vs = Ok(cow)` with `cow`'s bytes `mf' k vs`), a writer
    configuration admitted by `C01_roundtrip` (lawful codec with id ≤ 5, at most 255 index levels,
    `index_key_interval` a nonzero `usize`), source keys and merged values shorter than 2^32 bytes, fewer than
    2^26 pairs in all sources together, a compressor as in `src_C01_writer_roundtrip_bounded`, any loop fuel of at
    least `totalLen sources + 1`: the regenerated `Merger::write_into_stream_writer` into a fresh regenerated
    writer followed by the regenerated `Writer::into_inner` returns `Ok(file)` where `file` is the file the
    model's `W.run cd cfg` writes from `Spec.mergeSpec mf' sources` (the model merger's output) — so, under the
    two output-size conditions of `C01_roundtrip`, it opens with `count = (mergeSpec mf' sources).length` and its
    forward and backward scans return exactly the merged entries. -/
theorem src_C06_into_writer (mf' : Bytes → List Bytes → Bytes)
    (merge : List UInt8 → List (List UInt8) → Except Unit Cow)
    (hm : ∀ k vs, (merge k vs).toOption.map cowBytes = some (mf' k vs))
    (sources : List (List Entry)) (hasc : ∀ s ∈ sources, StrictAsc s)
    (hk : ∀ s ∈ sources, ∀ e ∈ s, e.1.length < 2 ^ 32)
    (hv : ∀ g ∈ Spec.group sources.flatten, (mf' g.1 g.2).length < 2 ^ 32)
    (hn : Merger.totalLen sources < 2 ^ 26) (fuel : Nat) (hfuel : Merger.totalLen sources + 1 ≤ fuel)
    (cd : Codec) (cfg : WCfg) (ct : CompressionType) (lvl : Nat)
    (hlaw : cd.Lawful) (hid : cd.id ≤ 5) (hlv : cfg.levels ≤ 255) (hiv : 1 ≤ cfg.interval)
    (hiv2 : cfg.interval < 2 ^ 64)
    (hcd : ∀ b : Bytes, b.length < 2 ^ 63 → (cd.compress b).length < 2 ^ 64) (hct : ct.toNat = cd.id) :
    ∃ file log,
      (do let g ← Gen.Merger.write_into_stream_writer lstep merge fuel (codecFn cd)
                    { sources := sources.map (fun l => ({ fresh := true, rest := l } : LCur)) }
                    (genWriterNew cfg ct lvl)
          Gen.Writer.into_inner (codecFn cd) g : M Sink) = .ok file ∧
      (Merger.run (Grenad.Props.C06.total mf') sources).1 = some (Spec.mergeSpec mf' sources) ∧
      W.run cd cfg (Spec.mergeSpec mf' sources) = .ok (file, log) ∧
      (file.length < 2 ^ 64 → (∀ e ∈ log, e.raw.length < 2 ^ 32) →
        ∃ m, Meta.parse file = .ok m ∧
          m.count = (Spec.mergeSpec mf' sources).length ∧ m.codec = cd.id ∧ m.version = 2 ∧
          m.levels = cfg.levels ∧
          Props.C01.scanForward cd file ((Spec.mergeSpec mf' sources).length + 1) (RC.new m) =
            (Spec.mergeSpec mf' sources).map (fun e => Res.ok (some e)) ++ [Res.ok none] ∧
          Props.C01.scanBackward cd file ((Spec.mergeSpec mf' sources).length + 1) (RC.new m) =
            (Spec.mergeSpec mf' sources).reverse.map (fun e => Res.ok (some e)) ++ [Res.ok none]) := by
  have hrun := Grenad.Props.C06.C06_merge mf' sources hasc
  have hsz := Grenad.Props.C06.mergeSpec_sizes mf' sources hk hv (by omega)
  have hlen : (Spec.mergeSpec mf' sources).length < 2 ^ 26 := by
    have := Grenad.length_group_flatten_le sources
    simp only [Spec.mergeSpec, List.length_map]
    omega
  obtain ⟨file, log, hgen, hw, hread⟩ :=
    src_C01_writer_roundtrip_bounded cd cfg (Spec.mergeSpec mf' sources) ct lvl hlaw hid hlv hiv hiv2
      (Grenad.Props.C06.mergeSpec_asc mf' sources) hsz.lens hlen hcd hct
  refine ⟨file, log, ?_, hrun, hw, hread⟩
  rw [(src_merge_into_writer (Grenad.Props.C06.total mf') merge hm (codecFn cd) sources fuel hfuel
    (genWriterNew cfg ct lvl)).1 _ hrun]
  exact hgen

/-- `src_merge_into_writer`, `some` case, evaluated: three sources sharing keys streamed into a fresh
    regenerated writer give the state the four merged inserts give -/
example : Gen.Merger.write_into_stream_writer lstep exMerge 7 (codecFn Codec.none)
      { sources := Grenad.Props.C06.exSources.map (fun l => ({ fresh := true, rest := l } : LCur)) }
      (genWriterNew Grenad.Props.C06.exWCfg .none 0) =
    genWriterGo (codecFn Codec.none) (genWriterNew Grenad.Props.C06.exWCfg .none 0)
      [([1], [10, 11]), ([2], [20]), ([3], [30, 31]), ([4, 0], [40])] := by
  refine (src_merge_into_writer (Grenad.Props.C06.total Grenad.Props.C06.exConcat) exMerge exMerge_spec _
    Grenad.Props.C06.exSources 7 (by decide +kernel) _).1 _ ?_
  rw [Grenad.Props.C06.C06_merge _ _ Grenad.Props.C06.exAsc, Grenad.Props.C06.exMerged]

/-- `none` case: the merge function fails on key `[3]`; keys `[1]` and `[2]` are inserted first, then
    `Err(Error::Merge(_))` -/
example : mw_yielded Grenad.Props.C06.exFail Grenad.Props.C06.exSources = [([1], [10, 11]), ([2], [20])] ∧
    Gen.Merger.write_into_stream_writer lstep exMergeFail 7 (codecFn Codec.none)
      { sources := Grenad.Props.C06.exSources.map (fun l => ({ fresh := true, rest := l } : LCur)) }
      (genWriterNew Grenad.Props.C06.exWCfg .none 0) = .error (Fail.err RErr.merge) := by
  have hy : mw_yielded Grenad.Props.C06.exFail Grenad.Props.C06.exSources = [([1], [10, 11]), ([2], [20])] := by
    decide +kernel
  refine ⟨hy, ?_⟩
  have hm : ∀ k vs, (exMergeFail k vs).toOption.map cowBytes = Grenad.Props.C06.exFail k vs := by
    intro k vs; simp only [exMergeFail, Grenad.Props.C06.exFail]; split <;> rfl
  have hnone : (Merger.run Grenad.Props.C06.exFail Grenad.Props.C06.exSources).1 = none := by decide +kernel
  rw [(src_merge_into_writer Grenad.Props.C06.exFail exMergeFail hm _ Grenad.Props.C06.exSources 7
    (by decide +kernel) _).2 hnone]
  rw [hy]
  have hok : (WriterSmoke.okOf (genWriterGo (codecFn Codec.none) (genWriterNew Grenad.Props.C06.exWCfg .none 0)
      [([1], [10, 11]), ([2], [20])])).isSome = true := by decide +kernel
  cases h : genWriterGo (codecFn Codec.none) (genWriterNew Grenad.Props.C06.exWCfg .none 0)
      [([1], [10, 11]), ([2], [20])] with
  | ok g' => rfl
  | error f => rw [h] at hok; cases hok

/-- the hypotheses of `src_C06_into_writer` are jointly satisfiable (`Codec.none`, `exSources`, `exConcat`) -/
example : ∃ file log,
    (do let g ← Gen.Merger.write_into_stream_writer lstep exMerge 7 (codecFn Codec.none)
                  { sources := Grenad.Props.C06.exSources.map (fun l => ({ fresh := true, rest := l } : LCur)) }
                  (genWriterNew Grenad.Props.C06.exWCfg .none 0)
        Gen.Writer.into_inner (codecFn Codec.none) g : M Sink) = .ok file ∧
    W.run Codec.none Grenad.Props.C06.exWCfg
      (Spec.mergeSpec Grenad.Props.C06.exConcat Grenad.Props.C06.exSources) = .ok (file, log) := by
  obtain ⟨file, log, h1, -, h2, -⟩ := src_C06_into_writer Grenad.Props.C06.exConcat exMerge exMerge_spec
    Grenad.Props.C06.exSources Grenad.Props.C06.exAsc (by decide +kernel) (by decide +kernel) (by decide +kernel) 7 (by decide +kernel)
    Codec.none Grenad.Props.C06.exWCfg .none 0 (fun _ => rfl) (by decide +kernel) (by decide +kernel) (by decide +kernel) (by decide +kernel)
    (by intro b hb; show b.length < 2 ^ 64; omega) rfl
  exact ⟨file, log, h1, h2⟩

end Grenad.SrcTie

section Axioms
open Grenad.SrcTie
#print axioms mw_into_writer
#print axioms src_merge_into_writer
#print axioms src_merge_into_writer_err
#print axioms src_merge_into_writer_rw
#print axioms src_C06_into_writer
#print axioms mw_yielded_prefix
end Axioms
