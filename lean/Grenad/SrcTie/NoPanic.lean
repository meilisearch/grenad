/-
  Grenad.SrcTie.NoPanic — on blocks built by a block writer the TRANSLATED in-block cursor never panics and
  never runs out of loop fuel: every move returns.  Together with `src_tblock_sim` this upgrades the
  partial-correctness ties of `SrcTie/BlockCursor.lean` to total statements on those blocks.
-/
import Grenad.SrcTie.TBlockSrc
import Grenad.Proofs.TBlock

set_option linter.unusedSimpArgs false
set_option linter.unusedVariables false

namespace Grenad.SrcTie
open Grenad Grenad.R Grenad.Gen

section
variable {iv : Nat} {es : List Entry} {b : Gen.Block}

/-- the translated `entry_at` at the offset of entry `i` (or at the end of the payload) returns -/
theorem entry_at_offAt (hok : OKBlock b) (hb : BlockOf iv es (toBlock b)) {i : Nat} (hi : i ≤ es.length) :
    Gen.Block.entry_at b (offAt es i) = .ok (Grenad.Block.entryAt (toBlock b) (offAt es i)) := by
  rcases Nat.lt_or_ge i es.length with hlt | hge
  · have hm := hb.entryAt_lt hlt
    have := src_entry_at b (offAt es i) hok.hp hok.hl
    rw [hm] at this ⊢
    exact this
  · have hie : i = es.length := by omega
    subst hie
    have hm := hb.entryAt_end
    rw [hm]
    -- past the end: the first test of `entry_at` answers `None`
    unfold Gen.Block.entry_at
    simp [bind, Except.bind, src_block_payload b hok.hp, hb.payload_length, pure, Except.pure]

/-- the cursor is unpositioned or sits on an entry boundary -/
def GoodPos (es : List Entry) (c : Gen.BlockCursor) : Prop :=
  ∀ o, c.current_offset = some o → ∃ i, i ≤ es.length ∧ o = offAt es i

theorem current_total (c : Gen.BlockCursor) (hok : OKBlock c.block) (hb : BlockOf iv es (toBlock c.block))
    (hg : GoodPos es c) : ∃ r, Gen.BlockCursor.current c = .ok r := by
  unfold Gen.BlockCursor.current
  cases ho : c.current_offset with
  | none => exact ⟨none, by simp [ho, bind, Except.bind, pure, Except.pure]⟩
  | some o =>
    obtain ⟨i, hi, rfl⟩ := hg o ho
    simp only [ho, bind, Except.bind, pure, Except.pure, entry_at_offAt hok hb hi]
    exact ⟨_, rfl⟩

theorem GoodPos.none (blk : Gen.Block) : GoodPos es { block := blk, current_offset := none } := by
  intro o ho; cases ho

theorem GoodPos.at (blk : Gen.Block) {i : Nat} (hi : i ≤ es.length) :
    GoodPos es { block := blk, current_offset := some (offAt es i) } := by
  intro o ho; exact ⟨i, hi, (Option.some.inj ho).symm⟩

/-- every move ends with `(self.current(), self)`: it returns from an entry boundary -/
theorem ret_current_total (c : Gen.BlockCursor) (hok : OKBlock c.block) (hb : BlockOf iv es (toBlock c.block))
    (hg : GoodPos es c) : ∃ y, Except.bind c.current (fun y => Except.pure (y, c)) = .ok y := by
  obtain ⟨r, hr⟩ := current_total c hok hb hg
  exact bind_total hr ⟨_, rfl⟩

theorem first_total (c : Gen.BlockCursor) (hok : OKBlock c.block) (hb : BlockOf iv es (toBlock c.block)) :
    ∃ r c', Gen.BlockCursor.move_on_first c = .ok (r, c') := by
  unfold Gen.BlockCursor.move_on_first
  have hhead : c.block.index_offsets.head? = some (offAt es 0) := by rw [offAt_zero]; exact hb.offs_head?
  simp only [bind, pure, Gen.Block.index_offsets_fn, Except.pure, Except.bind, Option.map_id', hhead]
  obtain ⟨⟨r, c'⟩, hy⟩ := ret_current_total { block := c.block, current_offset := some (offAt es 0) } hok hb
    (GoodPos.at c.block (Nat.zero_le _))
  exact ⟨r, c', hy⟩

theorem next_total (c : Gen.BlockCursor) (hok : OKBlock c.block) (hb : BlockOf iv es (toBlock c.block))
    (hg : GoodPos es c) : ∃ r c', Gen.BlockCursor.move_on_next c = .ok (r, c') := by
  unfold Gen.BlockCursor.move_on_next
  cases ho : c.current_offset with
  | none =>
    obtain ⟨r, c', h⟩ := first_total c hok hb
    simp only [ho, bind, Except.bind, pure, Except.pure, h]
    exact ⟨_, _, rfl⟩
  | some o =>
    obtain ⟨i, hi, rfl⟩ := hg o ho
    simp only [ho, bind, Except.bind, pure, Except.pure, entry_at_offAt hok hb hi]
    rcases Nat.lt_or_ge i es.length with hlt | hge
    · rw [hb.entryAt_lt hlt]
      simp only
      obtain ⟨⟨r, c'⟩, hy⟩ := ret_current_total { block := c.block, current_offset := some (offAt es (i + 1)) }
        hok hb (GoodPos.at c.block (by omega))
      exact ⟨r, c', hy⟩
    · have hie : i = es.length := by omega
      subst hie
      rw [hb.entryAt_end]
      exact ⟨_, _, rfl⟩

theorem scan_loop_total (stop : Bytes → Bool) {α} : ∀ (l : List α) (c : Gen.BlockCursor) (i : Nat),
    OKBlock c.block → BlockOf iv es (toBlock c.block) → GoodPos es c → i ≤ es.length →
    es.length - i + 1 ≤ l.length →
    ∃ st', forIn l (c, offAt es i, false) (scanBody stop) = .ok st' ∧ st'.2.2 = true ∧
      st'.1.block = c.block ∧ GoodPos es st'.1 := by
  intro l
  induction l with
  | nil => intro c i _ _ _ _ hlen; simp at hlen
  | cons a l ih =>
    intro c i hok hb hg hi hlen
    rw [List.forIn_cons]
    simp only [scanBody, entry_at_offAt hok hb hi, bind, Except.bind]
    rcases Nat.lt_or_ge i es.length with hlt | hge
    · rw [hb.entryAt_lt hlt]
      simp only
      by_cases hs : stop es[i].1 = true
      · simp only [hs, if_true, Except.pure]
        exact ⟨_, rfl, rfl, rfl, hg⟩
      · simp only [hs, if_false, Except.pure]
        simp only [List.length_cons] at hlen
        exact ih { block := c.block, current_offset := some (offAt es i) } (i + 1) hok hb
          (GoodPos.at c.block hi) (by omega) (by omega)
    · have hie : i = es.length := by omega
      subst hie
      rw [hb.entryAt_end]
      simp only [Except.pure]
      exact ⟨_, rfl, rfl, rfl, hg⟩

/-- a scanning move from an entry boundary: the loop returns within its fuel with the flag set, and so does
    the rest of the move -/
theorem scan_finish_total (stop : Bytes → Bool) (c : Gen.BlockCursor) (i : Nat) (hok : OKBlock c.block)
    (hb : BlockOf iv es (toBlock c.block)) (hg : GoodPos es c) (hi : i ≤ es.length) :
    ∃ y, Except.bind (forIn (List.range' 0 (c.block.payload_size + 1)) (c, offAt es i, false) (scanBody stop))
      (fun st =>
        if (!st.2.2) = true then
          Except.bind (throw (Fail.panic "r2l: loop fuel exhausted")) fun (_ : PUnit) =>
            Except.bind st.1.current fun y => Except.pure (y, st.1)
        else Except.bind st.1.current fun y => Except.pure (y, st.1)) = .ok y := by
  -- the fuel the translator was given (`payload_size + 1`) covers every scan
  have hfuel : es.length - i + 1 ≤ (List.range' 0 (c.block.payload_size + 1)).length := by
    have h2 := length_le_frames es
    rw [← hb.payload, hok.payload_length] at h2
    simp only [List.length_range']
    omega
  obtain ⟨st, hloop, hfin, hblk, hgst⟩ := scan_loop_total stop _ c i hok hb hg hi hfuel
  refine bind_total hloop ?_
  simp only [hfin, Bool.not_true, Bool.false_eq_true, if_false]
  exact ret_current_total st.1 (by rw [hblk]; exact hok) (by rw [hblk]; exact hb) hgst

theorem last_total (c : Gen.BlockCursor) (hok : OKBlock c.block) (hb : BlockOf iv es (toBlock c.block))
    (hg : GoodPos es c) : ∃ y, Gen.BlockCursor.move_on_last c = .ok y := by
  unfold Gen.BlockCursor.move_on_last
  simp only [bind, pure]
  obtain ⟨s, hlast, hs⟩ := hb.offs_getLast?
  have hoffs : (toBlock c.block).offsets = c.block.index_offsets := rfl
  rw [hoffs] at hlast
  refine bind_total (a := c.block.index_offsets) rfl ?_
  simp only [hlast, Option.map_some]
  exact scan_finish_total (fun _ => false) c s hok hb hg (by omega)

theorem prev_total (c : Gen.BlockCursor) (hok : OKBlock c.block) (hb : BlockOf iv es (toBlock c.block))
    (hg : GoodPos es c) : ∃ y, Gen.BlockCursor.move_on_prev c = .ok y := by
  unfold Gen.BlockCursor.move_on_prev
  simp only [bind, pure]
  cases ho : c.current_offset with
  | none =>
    simp only
    obtain ⟨y, hy⟩ := last_total c hok hb hg
    exact bind_total hy ⟨_, rfl⟩
  | some cur =>
    obtain ⟨i, hi, rfl⟩ := hg _ ho
    simp only
    refine bind_total (a := c.block.index_offsets) rfl ?_
    have hoffs : (toBlock c.block).offsets = c.block.index_offsets := rfl
    have hasc : c.block.index_offsets.Pairwise (· < ·) := by
      rw [← hoffs]; exact BinSearch.offsets_pairwise_of_blockOf hb
    have hj : Grenad.okOrErr (binarySearch c.block.index_offsets (offAt es i)) ≤ c.block.index_offsets.length := by
      rw [binarySearch_eq, ← (BinSearch.searchOffsets_is_binSearch _ _ hasc).2]
      exact (searchOffsets_spec hb hi).2.1
    simp only [okOrErr_eq]
    generalize Grenad.okOrErr (binarySearch c.block.index_offsets (offAt es i)) = j at hj
    by_cases hj0 : j = 0
    · subst hj0
      simp only [checkedSub]
      exact ⟨_, rfl⟩
    · have hcs : checkedSub j 1 = some (j - 1) := by simp [checkedSub]; omega
      simp only [hcs]
      refine bind_total (entry_at_offAt hok hb hi) ?_
      rcases Nat.lt_or_ge i es.length with hlt | hge
      · rw [hb.entryAt_lt hlt]
        simp only [Option.map_some]
        have hjl : j - 1 < (toBlock c.block).offsets.length := by rw [hoffs]; omega
        have hstart : idx c.block.index_offsets (j - 1) = .ok (offAt es ((j - 1) * iv)) :=
          idx_of_getElem? (hb.offs_get? hjl)
        refine bind_total hstart ?_
        have hidx := hb.offs_idx hjl
        exact scan_finish_total (fun k => es[i].1 == k) c ((j - 1) * iv) hok hb hg (by omega)
      · have hie : i = es.length := by omega
        subst hie
        rw [hb.entryAt_end]
        exact ⟨_, rfl⟩

theorem le_total (c : Gen.BlockCursor) (hok : OKBlock c.block) (hb : BlockOf iv es (toBlock c.block))
    (key : Bytes) : ∃ y, Gen.BlockCursor.move_on_key_lower_than_or_equal_to c key = .ok y := by
  unfold Gen.BlockCursor.move_on_key_lower_than_or_equal_to
  simp only [bind, pure]
  refine bind_total (a := c.block.index_offsets) rfl ?_
  have hoffs : (toBlock c.block).offsets = c.block.index_offsets := rfl
  have hkeys : BinSearch.TableKeysAsc (toBlock c.block) := BinSearch.tableKeysAsc_of_blockOf hb
  -- every comparison of the search decodes an entry at a table offset: it returns
  have hsearch : binarySearchByKeyM cmpOptBytes c.block.index_offsets (some key)
      (fun off => Except.bind (c.block.entry_at off) fun e => Except.pure (Option.map (fun x => x.fst) e))
      = .ok (binSearchBy' (BinSearch.cmpKey (toBlock c.block) key) c.block.index_offsets) := by
    unfold binarySearchByKeyM
    apply binSearchByM_total
    intro off hoff
    obtain ⟨m, hm, hget⟩ := List.getElem_of_mem hoff
    have hm' : m < (toBlock c.block).offsets.length := by rw [hoffs]; exact hm
    have hoffeq : off = offAt es (m * iv) := by
      have := hb.offs_get hm'
      simp only [hoffs] at this
      rw [← hget, this]
    have hidx := hb.offs_idx hm'
    subst hoffeq
    simp only [bind, Except.bind, pure, Except.pure, entry_at_offAt hok hb (show m * iv ≤ es.length by omega), cmpOptBytes_eq]
    rfl
  refine bind_total hsearch ?_
  -- what T-block knows of the model's search result bounds the index the loop returned
  obtain ⟨found, j, hsk, hjl, _, hT, _⟩ := searchKey_cases hb key
  rw [(BinSearch.searchKey_is_binSearch (toBlock c.block) key hkeys).2, hoffs] at hsk
  generalize binSearchBy' (BinSearch.cmpKey (toBlock c.block) key) c.block.index_offsets = res at hsk
  cases res with
  | ok i =>
    simp only [foundAt, Prod.mk.injEq] at hsk
    obtain ⟨rfl, rfl⟩ := hsk
    have hi' := (hT rfl).1
    refine bind_total (idx_of_getElem? (hb.offs_get? hi')) ?_
    have hidx := hb.offs_idx hi'
    exact ret_current_total { block := c.block, current_offset := some (offAt es (i * iv)) } hok hb
      (GoodPos.at c.block (by omega))
  | error i =>
    simp only [foundAt, Prod.mk.injEq] at hsk
    obtain ⟨rfl, rfl⟩ := hsk
    simp only
    by_cases hi0 : i = 0
    · subst hi0
      have hcs0 : checkedSub 0 1 = none := by decide
      simp only [hcs0, Option.bind]
      exact ret_current_total { block := c.block, current_offset := none } hok hb (GoodPos.none c.block)
    · have hcs : checkedSub i 1 = some (i - 1) := by simp [checkedSub]; omega
      have hi' : i - 1 < (toBlock c.block).offsets.length := by omega
      have hget := hb.offs_get? hi'
      rw [hoffs] at hget
      simp only [hcs, Option.bind, hget]
      have hidx := hb.offs_idx hi'
      exact scan_finish_total (fun k => decide (key < k)) { block := c.block, current_offset := none }
        ((i - 1) * iv) hok hb (GoodPos.none c.block) (by omega)

theorem goodPos_of_brepr {c : Gen.BlockCursor} {bb : Grenad.Block} {l : LC} (h : BRepr es bb (toBC c) l) :
    GoodPos es c := by
  obtain ⟨_, _, h3, h4⟩ := h
  intro o ho
  have : (toBC c).off = some o := ho
  rw [this] at h3
  cases hp : l.pos with
  | none => simp [hp] at h3
  | some i =>
    simp only [hp, Option.map_some, Option.some.injEq] at h3
    exact ⟨i, h4 i hp, h3⟩

theorem ge_total (c : Gen.BlockCursor) (hok : OKBlock c.block) (hb : BlockOf iv es (toBlock c.block))
    (key : Bytes) : ∃ y, Gen.BlockCursor.move_on_key_greater_than_or_equal_to c key = .ok y := by
  unfold Gen.BlockCursor.move_on_key_greater_than_or_equal_to
  simp only [bind, pure]
  obtain ⟨y, hle⟩ := le_total c hok hb key
  obtain ⟨r1, c1⟩ := y
  refine bind_total hle ?_
  have hkeys : BinSearch.TableKeysAsc (toBC c).block := BinSearch.tableKeysAsc_of_blockOf hb
  have hmodel := src_bc_le_model c c1 hok key r1 hkeys hle
  obtain ⟨_, hb1⟩ := src_bc_le c c1 hok key r1 hle
  have hspec := (le_spec hb c.current_offset key).1
  have hc1 : toBC c1 = ((toBC c).le key).1 := (congrArg Prod.fst hmodel)
  have hg1 : GoodPos es c1 := by
    apply goodPos_of_brepr (bb := toBlock c.block)
    rw [hc1]
    exact hspec
  have hok1 : OKBlock c1.block := by rw [hb1]; exact hok
  have hbo1 : BlockOf iv es (toBlock c1.block) := by rw [hb1]; exact hb
  cases r1 with
  | none =>
    simp only
    obtain ⟨r, c', h⟩ := first_total c1 hok1 hbo1
    exact bind_total h ⟨_, rfl⟩
  | some kv =>
    obtain ⟨k, v⟩ := kv
    simp only
    by_cases hk : (k == key) = true
    · simp only [hk, if_true]
      exact ⟨_, rfl⟩
    · simp only [hk, if_false]
      obtain ⟨r, c', h⟩ := next_total c1 hok1 hbo1 hg1
      exact bind_total h ⟨_, rfl⟩

/-- **On writer-built blocks every move of the translated cursor returns.** -/
theorem src_genMove_total (c : Gen.BlockCursor) (hok : OKBlock c.block) (hb : BlockOf iv es (toBlock c.block))
    {l : LC} (hrep : BRepr es (toBlock c.block) (toBC c) l) (m : Mov) :
    ∃ r c', genMove m c = .ok (r, c') := by
  have hg := goodPos_of_brepr hrep
  cases m with
  | first => exact first_total c hok hb
  | next => exact next_total c hok hb hg
  | last => obtain ⟨⟨r, c'⟩, h⟩ := last_total c hok hb hg; exact ⟨r, c', h⟩
  | prev => obtain ⟨⟨r, c'⟩, h⟩ := prev_total c hok hb hg; exact ⟨r, c', h⟩
  | ge q => obtain ⟨⟨r, c'⟩, h⟩ := ge_total c hok hb q; exact ⟨r, c', h⟩

/-- **T-block on regenerated code, total form**: on a writer-built block each move of the translated
    cursor returns, with the list cursor's answer, and keeps representing the list cursor. -/
theorem src_tblock_total (c : Gen.BlockCursor) (hok : OKBlock c.block) (hb : BlockOf iv es (toBlock c.block))
    {l : LC} (hrep : BRepr es (toBlock c.block) (toBC c) l) (m : Mov) :
    ∃ c', genMove m c = .ok ((LC.ops.apply m l).2, c') ∧
      BRepr es (toBlock c'.block) (toBC c') (LC.ops.apply m l).1 ∧ c'.block = c.block := by
  obtain ⟨r, c', h⟩ := src_genMove_total c hok hb hrep m
  obtain ⟨h1, h2, h3⟩ := src_tblock_sim c c' hok hb hrep m r h
  exact ⟨c', by rw [← h2]; exact h, h1, h3⟩

end
end Grenad.SrcTie