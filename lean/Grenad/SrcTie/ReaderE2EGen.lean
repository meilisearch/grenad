/-
  Grenad.SrcTie.ReaderE2EGen — reader side, end to end, on the code regenerated from
  src/reader/reader_cursor.rs (+ src/block.rs, src/metadata.rs) on every run.

  Composition of
    * the translator tie of `ReaderCursor` (`src_rc_step`, `src_rc_history`, ReaderCursorTieStep.lean): whenever the
      generated calls return `.ok`, their results are those of `RC.step srcOps (loadCursor cd file) true`;
    * the tie of the index level, instantiated (`e2e_idxTie_src`, ReaderE2EIdx.lean) — hypothesis `SmallBlocks cd file`;
    * the model level (`srcReader_main`, ReaderE2E.lean): on a file the writer produced, that model reader simulates the
      specification cursor over the inserted entries (and coincides with the `byteOps` reader of Props/C01.lean);
    * the tie of `Metadata::read_from` (`src_read_from`, Meta.lean) for opening.

  Shape of every statement: a `Setting cd cfg es file log` (the writer's hypotheses and a successful run producing
  `file`), `SmallBlocks cd file`, a generated cursor `s0` over `file` that abstracts to the freshly opened model
  cursor (`GoodRC`, `toRCfull s0 [] = RC.new m` — what `Reader::new` + `into_cursor` give, `e2e_open_cursor`), a list
  of public calls run through the generated functions (`genRcRun`); IF every call returns `.ok`, THEN every result
  agrees (`Spec.Agree`) with the specification cursor over `es`.
  Partial correctness: that the generated calls do return is not part of the translator tie (it is proved in
  ReaderTotal.lean, and shown by evaluation on a concrete written file in ReaderE2ESmoke.lean).
-/
import Grenad.SrcTie.ReaderE2E
import Grenad.SrcTie.ReaderE2EIdx
import Grenad.SrcTie.ReaderCursorTieStep

set_option linter.unusedSimpArgs false
set_option linter.unusedVariables false

namespace Grenad.SrcTie
open Grenad Grenad.R Grenad.Gen Grenad.Assembly Grenad.IterP

/-- The results the specification cursor determines along a history (`none` = left open). -/
def e2eSpecRun (es : List Entry) : Spec.Pos → List Op → List Spec.SRes
  | _, [] => []
  | p, op :: ops => (Spec.step es p op).2 :: e2eSpecRun es (Spec.step es p op).1 ops

/-- It is the specification column of `runBothG` (Props/C01.lean, `C01_bytes_history`). -/
theorem e2e_runBothG_snd {γ : Type} (step' : γ → Op → γ × Res) (es : List Entry) :
    ∀ (ops : List Op) (c : γ) (p : Spec.Pos), (runBothG step' es c p ops).map (·.2) = e2eSpecRun es p ops
  | [], _, _ => rfl
  | op :: ops, c, p => by
    simp only [runBothG, e2eSpecRun, List.map_cons, e2e_runBothG_snd step' es ops]

theorem e2e_specRun_length (es : List Entry) : ∀ (ops : List Op) (p : Spec.Pos), (e2eSpecRun es p ops).length = ops.length
  | [], _ => rfl
  | op :: ops, p => by simp only [e2eSpecRun, List.length_cons, e2e_specRun_length es ops]

theorem e2e_run_replicate_eq_scan {β : Type} (ops : BlockOps β) (load : Nat → Option β) (fx : Bool) (op : Op) :
    ∀ (n : Nat) (c : RC β), (RC.run ops load fx c (List.replicate n op)).2 = scan (RC.step ops load fx) op n c
  | 0, _ => rfl
  | n + 1, c => by
    simp only [List.replicate_succ, RC.run, scan, e2e_run_replicate_eq_scan ops load fx op n]

/-! ### the generated cursor against any relation the model reader simulates the specification on -/

/-- The generated cursor `s` (over `file`) is at specification position `p`: it is good, and its abstraction is
    `R`-related to `p` (for some load log — the log is instrumentation of the model only). -/
def E2EGenAt (file : Bytes) (R : RC Grenad.BlockCursor → Spec.Pos → Prop) (s : Gen.ReaderCursor) (p : Spec.Pos) :
    Prop :=
  GoodRC (fun _ => True) file s ∧ ∃ lg, R (toRCfull s lg) p

/-- `src_rc_step` / `src_rc_history` for the operations as the code computes them, with no hypothesis on the blocks -/
theorem e2e_rc_step {cd : Codec} {file : Bytes} (hs : SmallBlocks cd file) (s s' : Gen.ReaderCursor) (op : Op)
    (log : List Nat) (r : Option (Bytes × Bytes)) (hg : GoodRC (fun _ => True) file s)
    (h : genRcStep cd s op = .ok (r, s')) :
    GoodRC (fun _ => True) file s' ∧ s'.reader.metadata = s.reader.metadata ∧
      ∃ log', RC.step srcOps (loadCursor cd file) true (toRCfull s log) op = (toRCfull s' log', .ok r) :=
  src_rc_step cd file (fun _ => True) srcOps hs (loadsQ_true cd file) (e2e_idxTie_src cd file hs) (opsTie_src _)
    s s' op log r hg h

theorem e2e_rc_history {cd : Codec} {file : Bytes} (hs : SmallBlocks cd file) (hist : List Op)
    (s s' : Gen.ReaderCursor) (rs : List (Option (Bytes × Bytes))) (hg : GoodRC (fun _ => True) file s)
    (h : genRcRun cd s hist = .ok (rs, s')) :
    ∃ log', RC.run srcOps (loadCursor cd file) true (toRCfull s []) hist = (toRCfull s' log', rs.map Res.ok) :=
  (src_rc_history cd file (fun _ => True) srcOps hs (loadsQ_true cd file) (e2e_idxTie_src cd file hs) (opsTie_src _)
    hist s s' [] rs hg h).2.2

section
variable {cd : Codec} {file : Bytes} {es : List Entry} {R : RC Grenad.BlockCursor → Spec.Pos → Prop}

/-- One generated call that returns: the new cursor is at the specification's new position and the result agrees
    with the specification's. -/
theorem e2e_gen_step (hs : SmallBlocks cd file) (hsim : Sim es (srcReader cd file) R)
    {s s' : Gen.ReaderCursor} {p : Spec.Pos} (hat : E2EGenAt file R s p) (op : Op) (r : Option (Bytes × Bytes))
    (h : genRcStep cd s op = .ok (r, s')) :
    E2EGenAt file R s' (Spec.step es p op).1 ∧ Spec.Agree (.ok r) (Spec.step es p op).2 := by
  obtain ⟨hg, lg, hR⟩ := hat
  obtain ⟨hg', -, lg', hstep⟩ := e2e_rc_step hs s s' op lg r hg h
  have h2 := hsim _ p op hR
  simp only [srcReader, hstep] at h2
  exact ⟨⟨hg', lg', h2.1⟩, h2.2⟩

theorem e2e_gen_history (hs : SmallBlocks cd file) (hsim : Sim es (srcReader cd file) R) :
    ∀ (hist : List Op) (s s' : Gen.ReaderCursor) (p : Spec.Pos) (rs : List (Option (Bytes × Bytes))),
      E2EGenAt file R s p → genRcRun cd s hist = .ok (rs, s') →
      E2EGenAt file R s' (posAfter es p hist) ∧ rs.length = hist.length ∧
        ∀ x ∈ (rs.map Res.ok).zip (e2eSpecRun es p hist), Spec.Agree x.1 x.2
  | [], s, s', p, rs, hat, h => by
    simp only [genRcRun, Except.pure, Except.ok.injEq, Prod.mk.injEq] at h
    obtain ⟨h1, h2⟩ := h
    subst h1 h2
    exact ⟨hat, rfl, fun x hx => by simp [e2eSpecRun] at hx⟩
  | op :: rest, s, s', p, rs, hat, h => by
    simp only [genRcRun] at h
    obtain ⟨x, hx, h⟩ := bind_ok h
    obtain ⟨r1, s1⟩ := x
    obtain ⟨y, hy, h⟩ := bind_ok h
    obtain ⟨rs1, s2⟩ := y
    cases h
    obtain ⟨hat1, hag1⟩ := e2e_gen_step hs hsim hat op r1 hx
    obtain ⟨hat2, hlen, hag2⟩ := e2e_gen_history hs hsim rest s1 s2 _ rs1 hat1 hy
    refine ⟨hat2, by simp only [List.length_cons, hlen], ?_⟩
    intro x hx
    simp only [List.map_cons, e2eSpecRun, List.zip_cons_cons, List.mem_cons] at hx
    rcases hx with rfl | hx
    · exact hag1
    · exact hag2 x hx

end

/-- `Reader::new` on a source over `file`: if it returns, the model's `Meta.parse file` succeeds with the same
    metadata, and the reader holds the source. -/
theorem e2e_reader_new (file : Bytes) (pos : Nat) (rdr : Gen.Reader)
    (h : Gen.Reader.new { bytes := file, pos := pos } = .ok rdr) :
    Meta.parse file = .ok (toModelMeta rdr.metadata) ∧ rdr.reader.bytes = file := by
  unfold Gen.Reader.new at h
  simp only [bind, pure] at h
  obtain ⟨md, hmd, h⟩ := bind_ok h
  simp only [Except.pure, Except.ok.injEq] at h
  subst h
  have := src_read_from file pos
  rw [hmd] at this
  simp only [resToModel, Option.some.injEq] at this
  exact ⟨this.symm, rfl⟩

/-- Conversely, where the model's `Meta.parse` succeeds, `Reader::new` returns (with that metadata). -/
theorem e2e_reader_new_ok (file : Bytes) (pos : Nat) (m : Meta.Meta) (hm : Meta.parse file = .ok m) :
    ∃ rdr, Gen.Reader.new { bytes := file, pos := pos } = .ok rdr ∧ toModelMeta rdr.metadata = m := by
  have := src_read_from file pos
  rw [hm] at this
  cases hr : Gen.Metadata.read_from { bytes := file, pos := pos } with
  | error f =>
    rw [hr] at this
    simp only [resToModel] at this
    cases hf : errToModel f with
    | none => rw [hf] at this; cases this
    | some e => rw [hf] at this; simp at this
  | ok md =>
    rw [hr] at this
    simp only [resToModel, Option.some.injEq, Except.ok.injEq] at this
    refine ⟨{ metadata := md, reader := { bytes := file, pos := pos } }, ?_, this⟩
    unfold Gen.Reader.new
    simp only [bind, pure, hr, Except.bind, Except.pure]

/-- `Reader::new` then `into_cursor` over a file whose trailer parses to `m` with `m.levels ≤ 255`: the cursor is
    good and abstracts to the model's freshly opened cursor. -/
theorem e2e_open_cursor (file : Bytes) (pos : Nat) (m : Meta.Meta) (hm : Meta.parse file = .ok m)
    (hlv : m.levels ≤ 255) (rdr : Gen.Reader) (s0 : Gen.ReaderCursor)
    (hopen : Gen.Reader.new { bytes := file, pos := pos } = .ok rdr)
    (hcur : Gen.Reader.into_cursor rdr = .ok s0) :
    GoodRC (fun _ => True) file s0 ∧ toRCfull s0 [] = RC.new m ∧ toModelMeta s0.reader.metadata = m := by
  obtain ⟨hparse, hbytes⟩ := e2e_reader_new file pos rdr hopen
  rw [hm] at hparse
  simp only [Except.ok.injEq] at hparse
  have hnew : Gen.ReaderCursor.new rdr = .ok s0 := by
    unfold Gen.Reader.into_cursor at hcur
    exact hcur
  obtain ⟨hrc, hreader, _, _, _, _, _, hgood⟩ := src_rc_new rdr s0 hnew
  have hl : rdr.metadata.index_levels ≤ 255 := by
    have : m.levels = rdr.metadata.index_levels := by rw [hparse]; rfl
    omega
  refine ⟨hgood _ file hbytes hl, ?_, ?_⟩
  · rw [hrc, ← hparse]
  · rw [hreader, ← hparse]

section
variable {cd : Codec} {cfg : WCfg} {es : List Entry} {file : Bytes} {log : List Emitted} {m : Meta.Meta}

/-- The trailer of a written file carries `index_levels ≤ 255`. -/
theorem e2e_setting_levels_le (S : Setting cd cfg es file log) (hm : Meta.parse file = .ok m) : m.levels ≤ 255 := by
  obtain ⟨⟨-, -, -, h4⟩, -⟩ := S.main hm
  rw [h4]
  exact S.H.levels

/-- **C01/C03 on the regenerated reader cursor, every history.**  On a file the writer produced, from a generated
    cursor that abstracts to the freshly opened cursor: for every finite list of public cursor calls run through the
    generated functions, if every call returns `.ok`, then there are as many results as calls and every result
    agrees with the specification cursor over the inserted entries `es` wherever the latter determines the result —
    the results depend only on the content and on the logical position, not on the path of calls that led there,
    nor on the block/index layout (`cfg`) or the codec. -/
theorem src_C03_history (S : Setting cd cfg es file log) (hm : Meta.parse file = .ok m)
    (hs : SmallBlocks cd file) (s0 : Gen.ReaderCursor) (hg : GoodRC (fun _ => True) file s0)
    (h0 : toRCfull s0 [] = RC.new m) (hist : List Op) (rs : List (Option (Bytes × Bytes)))
    (s' : Gen.ReaderCursor) (h : genRcRun cd s0 hist = .ok (rs, s')) :
    rs.length = hist.length ∧ ∀ x ∈ (rs.map Res.ok).zip (e2eSpecRun es .fresh hist), Spec.Agree x.1 x.2 := by
  obtain ⟨R, hsim, hR, -⟩ := srcReader_main S hm
  have hat : E2EGenAt file R s0 .fresh := ⟨hg, [], by rw [h0]; exact hR⟩
  obtain ⟨-, hlen, hag⟩ := e2e_gen_history hs hsim hist s0 s' .fresh rs hat h
  exact ⟨hlen, hag⟩

/-- The same, call by call: after any history of returning calls, one more call that returns gives the result the
    specification determines at the position `posAfter es .fresh hist` (a function of `es` and the history's
    *logical* effect only). -/
theorem src_C03_step (S : Setting cd cfg es file log) (hm : Meta.parse file = .ok m)
    (hs : SmallBlocks cd file) (s0 : Gen.ReaderCursor) (hg : GoodRC (fun _ => True) file s0)
    (h0 : toRCfull s0 [] = RC.new m) (hist : List Op) (rs : List (Option (Bytes × Bytes)))
    (s1 : Gen.ReaderCursor) (h : genRcRun cd s0 hist = .ok (rs, s1))
    (op : Op) (r : Option (Bytes × Bytes)) (s2 : Gen.ReaderCursor) (h2 : genRcStep cd s1 op = .ok (r, s2)) :
    Spec.Agree (.ok r) (Spec.step es (posAfter es .fresh hist) op).2 := by
  obtain ⟨R, hsim, hR, -⟩ := srcReader_main S hm
  have hat : E2EGenAt file R s0 .fresh := ⟨hg, [], by rw [h0]; exact hR⟩
  obtain ⟨hat1, -⟩ := e2e_gen_history hs hsim hist s0 s1 .fresh rs hat h
  exact (e2e_gen_step hs hsim hat1 op r h2).2

/-- **C03, as independence of the path.**  Two histories of returning calls that lead to the same logical position,
    followed by the same call: wherever the specification determines the result, both calls return it. -/
theorem src_C03_path_independent (S : Setting cd cfg es file log) (hm : Meta.parse file = .ok m)
    (hs : SmallBlocks cd file) (s0 : Gen.ReaderCursor) (hg : GoodRC (fun _ => True) file s0)
    (h0 : toRCfull s0 [] = RC.new m) (hist1 hist2 : List Op) (rs1 rs2 : List (Option (Bytes × Bytes)))
    (s1 s2 : Gen.ReaderCursor) (h1 : genRcRun cd s0 hist1 = .ok (rs1, s1)) (h2 : genRcRun cd s0 hist2 = .ok (rs2, s2))
    (hpos : posAfter es .fresh hist1 = posAfter es .fresh hist2)
    (op : Op) (e : Option Entry) (hdet : (Spec.step es (posAfter es .fresh hist1) op).2 = some e)
    (r1 r2 : Option (Bytes × Bytes)) (s1' s2' : Gen.ReaderCursor)
    (g1 : genRcStep cd s1 op = .ok (r1, s1')) (g2 : genRcStep cd s2 op = .ok (r2, s2')) : r1 = e ∧ r2 = e := by
  have a1 := src_C03_step S hm hs s0 hg h0 hist1 rs1 s1 h1 op r1 s1' g1
  have a2 := src_C03_step S hm hs s0 hg h0 hist2 rs2 s2 h2 op r2 s2' g2
  rw [← hpos] at a2
  rw [hdet] at a1 a2
  simp only [Spec.Agree, Res.ok.injEq] at a1 a2
  exact ⟨a1, a2⟩

/-- The results of the generated calls are those of the byte-level model reader of Props/C01.lean
    (`RC.step byteOps (loadCursor cd file) true` from `RC.new m`), and — whenever the generated run returns — that
    model run reports no error. -/
theorem src_history_eq_model (S : Setting cd cfg es file log) (hm : Meta.parse file = .ok m)
    (hs : SmallBlocks cd file) (s0 : Gen.ReaderCursor) (hg : GoodRC (fun _ => True) file s0)
    (h0 : toRCfull s0 [] = RC.new m) (hist : List Op) (rs : List (Option (Bytes × Bytes)))
    (s' : Gen.ReaderCursor) (h : genRcRun cd s0 hist = .ok (rs, s')) :
    (RC.run byteOps (loadCursor cd file) true (RC.new m) hist).2 = rs.map Res.ok ∧
      ∃ lg, toRCfull s' lg = (RC.run byteOps (loadCursor cd file) true (RC.new m) hist).1 := by
  obtain ⟨R, hsim, hR, heq, -⟩ := srcReader_main S hm
  obtain ⟨lg, hrun⟩ := e2e_rc_history hs hist s0 s' rs hg h
  rw [h0] at hrun
  rw [← run_congr hsim heq hist _ _ hR, hrun]
  exact ⟨rfl, lg, rfl⟩

/-- `move_on_key_greater_than_or_equal_to(q)`, after any history of returning calls (in particular from the fresh
    cursor, `hist = []`): if it returns, it returns the ceiling of `q`. -/
theorem src_C02_ge_after (S : Setting cd cfg es file log) (hm : Meta.parse file = .ok m)
    (hs : SmallBlocks cd file) (s0 : Gen.ReaderCursor) (hg : GoodRC (fun _ => True) file s0)
    (h0 : toRCfull s0 [] = RC.new m) (hist : List Op) (rs : List (Option (Bytes × Bytes)))
    (s1 : Gen.ReaderCursor) (h : genRcRun cd s0 hist = .ok (rs, s1))
    (q : Bytes) (r : Option (Bytes × Bytes)) (s2 : Gen.ReaderCursor)
    (h2 : Gen.ReaderCursor.move_on_key_greater_than_or_equal_to (fun _ => cd.decompress) s1 q = .ok (r, s2)) :
    r = Spec.ceiling es q := by
  have := src_C03_step S hm hs s0 hg h0 hist rs s1 h (.ge q) r s2 h2
  rw [TCursor.step_ge_res] at this
  simpa only [Spec.Agree, Res.ok.injEq] using this

/-- `move_on_key_lower_than_or_equal_to(q)`: if it returns, it returns the floor of `q`. -/
theorem src_C02_le_after (S : Setting cd cfg es file log) (hm : Meta.parse file = .ok m)
    (hs : SmallBlocks cd file) (s0 : Gen.ReaderCursor) (hg : GoodRC (fun _ => True) file s0)
    (h0 : toRCfull s0 [] = RC.new m) (hist : List Op) (rs : List (Option (Bytes × Bytes)))
    (s1 : Gen.ReaderCursor) (h : genRcRun cd s0 hist = .ok (rs, s1))
    (q : Bytes) (r : Option (Bytes × Bytes)) (s2 : Gen.ReaderCursor)
    (h2 : Gen.ReaderCursor.move_on_key_lower_than_or_equal_to (fun _ => cd.decompress) s1 q = .ok (r, s2)) :
    r = Spec.floor es q := by
  have := src_C03_step S hm hs s0 hg h0 hist rs s1 h (.le q) r s2 h2
  rw [TCursor.step_le_res S.H.asc] at this
  simpa only [Spec.Agree, Res.ok.injEq] using this

/-- `move_on_key_equal_to(q)`: if it returns, it returns the entry with key `q`, if any. -/
theorem src_C02_eq_after (S : Setting cd cfg es file log) (hm : Meta.parse file = .ok m)
    (hs : SmallBlocks cd file) (s0 : Gen.ReaderCursor) (hg : GoodRC (fun _ => True) file s0)
    (h0 : toRCfull s0 [] = RC.new m) (hist : List Op) (rs : List (Option (Bytes × Bytes)))
    (s1 : Gen.ReaderCursor) (h : genRcRun cd s0 hist = .ok (rs, s1))
    (q : Bytes) (r : Option (Bytes × Bytes)) (s2 : Gen.ReaderCursor)
    (h2 : Gen.ReaderCursor.move_on_key_equal_to (fun _ => cd.decompress) s1 q = .ok (r, s2)) :
    r = Spec.lookup es q := by
  have := src_C03_step S hm hs s0 hg h0 hist rs s1 h (.eq q) r s2 h2
  rw [TCursor.step_eq_res S.H.asc] at this
  simpa only [Spec.Agree, Res.ok.injEq] using this

theorem src_C02_ge (S : Setting cd cfg es file log) (hm : Meta.parse file = .ok m)
    (hs : SmallBlocks cd file) (s0 : Gen.ReaderCursor) (hg : GoodRC (fun _ => True) file s0)
    (h0 : toRCfull s0 [] = RC.new m) (q : Bytes) (r : Option (Bytes × Bytes)) (s' : Gen.ReaderCursor)
    (h : Gen.ReaderCursor.move_on_key_greater_than_or_equal_to (fun _ => cd.decompress) s0 q = .ok (r, s')) :
    r = Spec.ceiling es q :=
  src_C02_ge_after S hm hs s0 hg h0 [] [] s0 rfl q r s' h

theorem src_C02_le (S : Setting cd cfg es file log) (hm : Meta.parse file = .ok m)
    (hs : SmallBlocks cd file) (s0 : Gen.ReaderCursor) (hg : GoodRC (fun _ => True) file s0)
    (h0 : toRCfull s0 [] = RC.new m) (q : Bytes) (r : Option (Bytes × Bytes)) (s' : Gen.ReaderCursor)
    (h : Gen.ReaderCursor.move_on_key_lower_than_or_equal_to (fun _ => cd.decompress) s0 q = .ok (r, s')) :
    r = Spec.floor es q :=
  src_C02_le_after S hm hs s0 hg h0 [] [] s0 rfl q r s' h

theorem src_C02_eq (S : Setting cd cfg es file log) (hm : Meta.parse file = .ok m)
    (hs : SmallBlocks cd file) (s0 : Gen.ReaderCursor) (hg : GoodRC (fun _ => True) file s0)
    (h0 : toRCfull s0 [] = RC.new m) (q : Bytes) (r : Option (Bytes × Bytes)) (s' : Gen.ReaderCursor)
    (h : Gen.ReaderCursor.move_on_key_equal_to (fun _ => cd.decompress) s0 q = .ok (r, s')) :
    r = Spec.lookup es q :=
  src_C02_eq_after S hm hs s0 hg h0 [] [] s0 rfl q r s' h

/-- a returning run of one call repeated `n` times returns what the model reader's `scan` does -/
theorem e2e_scan (hs : SmallBlocks cd file) (s0 : Gen.ReaderCursor) (hg : GoodRC (fun _ => True) file s0)
    (h0 : toRCfull s0 [] = RC.new m) (op : Op) (n : Nat) (l : List Entry) (rs : List (Option (Bytes × Bytes)))
    (s' : Gen.ReaderCursor) (h : genRcRun cd s0 (List.replicate n op) = .ok (rs, s'))
    (hscan : scan (srcReader cd file) op n (RC.new m) = l.map (fun e => Res.ok (some e)) ++ [Res.ok none]) :
    rs = l.map some ++ [none] := by
  obtain ⟨lg, hrun⟩ := e2e_rc_history hs _ s0 s' rs hg h
  rw [h0] at hrun
  have h1 := e2e_run_replicate_eq_scan srcOps (loadCursor cd file) true op n (RC.new m)
  rw [hrun] at h1
  apply (List.map_inj_right fun _ _ => Res.ok.inj).1
  rw [show rs.map Res.ok = _ from h1.trans hscan]
  simp only [List.map_append, List.map_map, List.map_cons, List.map_nil]
  rfl

/-- `move_on_next()` × `(n+1)` from the fresh cursor: if the calls return, they return exactly the inserted pairs
    in insertion order and then `None`. -/
theorem src_C01_scan_next (S : Setting cd cfg es file log) (hm : Meta.parse file = .ok m)
    (hs : SmallBlocks cd file) (s0 : Gen.ReaderCursor) (hg : GoodRC (fun _ => True) file s0)
    (h0 : toRCfull s0 [] = RC.new m) (rs : List (Option (Bytes × Bytes))) (s' : Gen.ReaderCursor)
    (h : genRcRun cd s0 (List.replicate (es.length + 1) .next) = .ok (rs, s')) :
    rs = es.map some ++ [none] :=
  e2e_scan hs s0 hg h0 .next _ es rs s' h (srcReader_roundtrip S hm).1

/-- `move_on_prev()` × `(n+1)` from the fresh cursor: the inserted pairs in reverse order, then `None`. -/
theorem src_C01_scan_prev (S : Setting cd cfg es file log) (hm : Meta.parse file = .ok m)
    (hs : SmallBlocks cd file) (s0 : Gen.ReaderCursor) (hg : GoodRC (fun _ => True) file s0)
    (h0 : toRCfull s0 [] = RC.new m) (rs : List (Option (Bytes × Bytes))) (s' : Gen.ReaderCursor)
    (h : genRcRun cd s0 (List.replicate (es.length + 1) .prev) = .ok (rs, s')) :
    rs = es.reverse.map some ++ [none] :=
  e2e_scan hs s0 hg h0 .prev _ es.reverse rs s' h (srcReader_roundtrip S hm).2

/-- On a written file `Reader::new` returns, with the metadata the writer recorded. -/
theorem e2e_open_ok (S : Setting cd cfg es file log) (pos : Nat) :
    ∃ rdr s0, Gen.Reader.new { bytes := file, pos := pos } = .ok rdr ∧ Gen.Reader.into_cursor rdr = .ok s0 ∧
      rdr.metadata.entries_count = es.length ∧ rdr.metadata.index_levels = cfg.levels ∧
      rdr.metadata.compression_type.toNat = cd.id ∧ rdr.metadata.file_version = .formatV2 := by
  obtain ⟨m, hm⟩ : ∃ m, Meta.parse file = .ok m := by
    obtain ⟨root, -, h⟩ := S.fileOK
    exact ⟨_, h⟩
  obtain ⟨⟨h1, h2, h3, h4⟩, -⟩ := S.main hm
  obtain ⟨rdr, hopen, hmeta⟩ := e2e_reader_new_ok file pos m hm
  obtain ⟨s0, hs0⟩ := src_rc_new_ok rdr
  refine ⟨rdr, s0, hopen, ?_, ?_, ?_, ?_, ?_⟩
  · unfold Gen.Reader.into_cursor
    simp only [bind, pure, hs0, Except.bind, Except.pure]
  · rw [← h3, ← hmeta]; rfl
  · rw [← h4, ← hmeta]; rfl
  · rw [← h2, ← hmeta]; rfl
  · rw [← hmeta] at h1
    simp only [toModelMeta] at h1
    cases hv : rdr.metadata.file_version with
    | formatV1 => rw [hv] at h1; simp at h1
    | formatV2 => rfl

/-- Opening a written file: the cursor `Reader::new` + `into_cursor` return meets the hypotheses of the theorems above. -/
theorem e2e_open (S : Setting cd cfg es file log) (pos : Nat) :
    ∃ rdr s0 m, Gen.Reader.new { bytes := file, pos := pos } = .ok rdr ∧ Gen.Reader.into_cursor rdr = .ok s0 ∧
      Meta.parse file = .ok m ∧ GoodRC (fun _ => True) file s0 ∧ toRCfull s0 [] = RC.new m ∧
      rdr.metadata.entries_count = es.length ∧ rdr.metadata.index_levels = cfg.levels ∧
      rdr.metadata.compression_type.toNat = cd.id ∧ rdr.metadata.file_version = .formatV2 := by
  obtain ⟨rdr, s0, hopen, hcur, h1, h2, h3, h4⟩ := e2e_open_ok S pos
  obtain ⟨hparse, -⟩ := e2e_reader_new file pos rdr hopen
  obtain ⟨hg, h0, -⟩ := e2e_open_cursor file pos _ hparse (e2e_setting_levels_le S hparse) rdr s0 hopen hcur
  exact ⟨rdr, s0, _, hopen, hcur, hparse, hg, h0, h1, h2, h3, h4⟩

/-- **End to end from `Reader::new`.**  `Reader::new(Cursor::new(file))`, `into_cursor()`, then any list of public
    cursor calls on the regenerated code: if they return, the results agree with the specification cursor over the
    entries that were inserted. -/
theorem src_C03_history_open (S : Setting cd cfg es file log) (hs : SmallBlocks cd file) (pos : Nat)
    (rdr : Gen.Reader) (s0 : Gen.ReaderCursor)
    (hopen : Gen.Reader.new { bytes := file, pos := pos } = .ok rdr)
    (hcur : Gen.Reader.into_cursor rdr = .ok s0)
    (hist : List Op) (rs : List (Option (Bytes × Bytes))) (s' : Gen.ReaderCursor)
    (h : genRcRun cd s0 hist = .ok (rs, s')) :
    rs.length = hist.length ∧ (∀ x ∈ (rs.map Res.ok).zip (e2eSpecRun es .fresh hist), Spec.Agree x.1 x.2) ∧
      rdr.metadata.entries_count = es.length := by
  obtain ⟨hparse, -⟩ := e2e_reader_new file pos rdr hopen
  obtain ⟨hg, h0, -⟩ := e2e_open_cursor file pos _ hparse (e2e_setting_levels_le S hparse) rdr s0 hopen hcur
  obtain ⟨⟨-, -, h3, -⟩, -⟩ := S.main hparse
  exact ⟨(src_C03_history S hparse hs s0 hg h0 hist rs s' h).1,
    (src_C03_history S hparse hs s0 hg h0 hist rs s' h).2, h3⟩

end

end Grenad.SrcTie

section Audit
open Grenad.SrcTie
#print axioms e2e_gen_step
#print axioms e2e_gen_history
#print axioms e2e_reader_new
#print axioms e2e_reader_new_ok
#print axioms e2e_open_cursor
#print axioms src_C03_history
#print axioms src_C03_step
#print axioms src_C03_path_independent
#print axioms src_history_eq_model
#print axioms src_C02_ge_after
#print axioms src_C02_le_after
#print axioms src_C02_eq_after
#print axioms src_C02_ge
#print axioms src_C02_le
#print axioms src_C02_eq
#print axioms src_C01_scan_next
#print axioms src_C01_scan_prev
#print axioms e2e_open_ok
#print axioms src_C03_history_open
end Audit
