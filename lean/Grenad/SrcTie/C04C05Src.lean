/-
  Grenad.SrcTie.C04C05Src — C04 and C05 stated on the iterators regenerated from /repo/src:
  over ANY cursor that simulates the specification cursor, calling the translated `next` until its first
  `None` yields exactly the in-range entries / the entries with the prefix, in order (reverse: in reverse
  order).  Composition of the translator tie (`src_range_next` …) with `C04_range_refines` … .
-/
import Grenad.Props.C04
import Grenad.Props.C05
import Grenad.SrcTie.IterNext

set_option linter.unusedSimpArgs false
set_option linter.unusedVariables false

namespace Grenad.SrcTie
open Grenad Grenad.R Grenad.Gen Grenad.IterP

/-- call a translated `next` until its first `None` (an `Err` or a panic ends the run) -/
def collectM {ι : Type} (nxt : ι → M (Option (Bytes × Bytes) × ι)) : Nat → ι → List Entry → M (List Entry)
  | 0, _, acc => pure acc.reverse
  | fuel + 1, it, acc =>
    match nxt it with
    | .error e => .error e
    | .ok (none, _) => pure acc.reverse
    | .ok (some e, it') => collectM nxt fuel it' (e :: acc)

/-- a translated iterator that is the model's (through an embedding `emb`) collects what the model collects -/
theorem collectM_eq {ι κ : Type} (nxtM : ι → ι × Res) (nxtG : κ → M (Option (Bytes × Bytes) × κ)) (emb : ι → κ)
    (h : ∀ it, nxtG (emb it) = outGen emb (nxtM it)) :
    ∀ fuel it acc, collectM nxtG fuel (emb it) acc =
      match collect nxtM fuel it acc with
      | some l => .ok l
      | none => .error (.err .cursor) := by
  intro fuel
  induction fuel with
  | zero => intro it acc; rfl
  | succ f ih =>
    intro it acc
    simp only [collectM, collect, h it]
    cases hn : nxtM it with
    | mk it' r =>
      cases r with
      | err => rfl
      | ok e =>
        cases e with
        | none => rfl
        | some x => exact ih it' (x :: acc)

section
variable {γ : Type} (es : List Entry) (hasc : StrictAsc es)
  (mstep : γ → Op → γ × Res) (R : γ → Spec.Pos → Prop) (hsim : Sim es mstep R)
  (c0 : γ) (pos0 : Spec.Pos) (hR : R c0 pos0)
include hasc hsim hR

theorem src_C04_range (lo hi : Grenad.Bound) (fuel : Nat) (hfuel : fuel > es.length) :
    collectM (Gen.RangeIter.next (gstep mstep)) fuel (toSrcRange { cursor := c0, lo := lo, hi := hi }) []
      = .ok (Spec.range es lo hi) := by
  rw [collectM_eq (Grenad.RangeIter.next mstep) (Gen.RangeIter.next (gstep mstep)) toSrcRange
        (fun it => by rw [src_range_next, outRange_eq])]
  rw [Props.C04.C04_range_refines es hasc mstep R hsim c0 pos0 hR lo hi fuel hfuel]

theorem src_C04_range_rev (lo hi : Grenad.Bound) (fuel : Nat) (hfuel : fuel > es.length) :
    collectM (Gen.RevRangeIter.next (gstep mstep)) fuel (toSrcRevRange { cursor := c0, lo := lo, hi := hi }) []
      = .ok (Spec.range es lo hi).reverse := by
  rw [collectM_eq (Grenad.RangeIter.nextRev mstep) (Gen.RevRangeIter.next (gstep mstep)) toSrcRevRange
        (fun it => by rw [src_range_next_rev, outRevRange_eq])]
  rw [Props.C04.C04_range_rev_refines es hasc mstep R hsim c0 pos0 hR lo hi fuel hfuel]

theorem src_C05_prefix (p : Bytes) (fuel : Nat) (hfuel : fuel > es.length) :
    collectM (Gen.PrefixIter.next (gstep mstep)) fuel (toSrcPrefix { cursor := c0, pre := p }) []
      = .ok (Spec.withPrefix es p) := by
  rw [collectM_eq (Grenad.PrefixIter.next mstep) (Gen.PrefixIter.next (gstep mstep)) toSrcPrefix
        (fun it => by rw [src_prefix_next, outPrefix_eq])]
  rw [Props.C05.C05_prefix_refines es hasc mstep R hsim c0 pos0 hR p fuel hfuel]

/-- Under the side condition on `current()` after a failed floor seek, which the byte-level reader
    meets (`C05_bytes_side_condition`). -/
theorem src_C05_prefix_rev (p : Bytes) (hside : LostCurrentOK mstep c0 p) (fuel : Nat) (hfuel : fuel > es.length) :
    collectM (Gen.RevPrefixIter.next (gstep mstep)) fuel (toSrcRevPrefix { cursor := c0, pre := p }) []
      = .ok (Spec.withPrefix es p).reverse := by
  rw [collectM_eq (Grenad.PrefixIter.nextRev mstep) (Gen.RevPrefixIter.next (gstep mstep)) toSrcRevPrefix
        (fun it => by rw [src_prefix_next_rev, outRevPrefix_eq])]
  rw [Props.C05.C05_prefix_rev_refines es hasc mstep R hsim c0 pos0 hR p hside fuel hfuel]

end
end Grenad.SrcTie
