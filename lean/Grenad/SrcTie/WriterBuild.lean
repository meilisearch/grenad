/-
  Grenad.SrcTie.WriterBuild — translator tie for `WriterBuilder::build` of src/writer.rs and the block writer
  builder of src/block_writer.rs (regenerated from /repo/src on every run): the writer a builder constructs is
  the fresh state `genWriterNew` the whole-run tie starts from — same block size, `index_levels + 1` empty index
  block writers, the configured (or default, 8) index key interval, an empty sink.
-/
import Grenad.SrcTie.WriterBounds

set_option linter.unusedSimpArgs false
set_option linter.unusedVariables false

namespace Grenad.SrcTie
open Grenad Grenad.R Grenad.Gen

/-- the model configuration a translated builder stands for (its `block_size` is already clamped by the setter,
    `SrcTie.WriterBuilder`) -/
def cfgOf (wb : Gen.WriterBuilder) : WCfg :=
  { blockSize := wb.block_size, minBlock := wb.block_size,
    interval := wb.index_key_interval.getD Gen.DEFAULT_INDEX_KEY_INTERVAL, levels := wb.index_levels }

theorem src_writer_build (wb : Gen.WriterBuilder) (hl : wb.index_levels + 1 < 2 ^ 64) :
    Gen.WriterBuilder.build wb [] =
      .ok (genWriterNew (cfgOf wb) wb.compression_type wb.compression_level, []) := by
  unfold Gen.WriterBuilder.build
  cases hiv : wb.index_key_interval <;>
    simp [hiv, BlockWriter.builder, BlockWriterBuilder.new, BlockWriterBuilder.build,
      BlockWriterBuilder.index_key_interval_fn, bind, Except.bind, pure, Except.pure, add, hl, genWriterNew, bwNew,
      cfgOf, WCfg.clamped]

/-- The interval of the configuration a builder stands for is a nonzero `usize`. -/
theorem cfgOf_interval (wb : Gen.WriterBuilder)
    (hiv : ∀ iv, wb.index_key_interval = some iv → 1 ≤ iv ∧ iv < 2 ^ 64) :
    1 ≤ (cfgOf wb).interval ∧ (cfgOf wb).interval < 2 ^ 64 := by
  simp only [cfgOf]
  cases h : wb.index_key_interval with
  | none => simp [Gen.DEFAULT_INDEX_KEY_INTERVAL]
  | some iv => simpa using hiv iv h

/-- **From the builder to the file, all on regenerated code**: `WriterBuilder::build`, then `Writer::insert` for
    every entry, then `Writer::into_inner` return the model's file, which reads back exactly the entries. -/
theorem src_C01_builder_roundtrip (cd : Codec) (wb : Gen.WriterBuilder) (es : List Entry)
    (hlaw : cd.Lawful) (hid : cd.id ≤ 5) (hlv : wb.index_levels ≤ 255)
    (hiv : ∀ iv, wb.index_key_interval = some iv → 1 ≤ iv ∧ iv < 2 ^ 64)
    (hasc : StrictAsc es) (hlens : ∀ e ∈ es, e.1.length < 2 ^ 32 ∧ e.2.length < 2 ^ 32)
    (hcount : es.length < 2 ^ 26)
    (hcd : ∀ b : Bytes, b.length < 2 ^ 63 → (cd.compress b).length < 2 ^ 64) (hct : wb.compression_type.toNat = cd.id) :
    ∃ file log,
      (do let (w, _) ← Gen.WriterBuilder.build wb []
          genWriterRun (codecFn cd) w es : M Sink) = .ok file ∧
      W.run cd (cfgOf wb) es = .ok (file, log) ∧
      (file.length < 2 ^ 64 → (∀ e ∈ log, e.raw.length < 2 ^ 32) →
        ∃ m, Meta.parse file = .ok m ∧ m.count = es.length ∧ m.codec = cd.id ∧ m.version = 2 ∧
          m.levels = wb.index_levels ∧
          Props.C01.scanForward cd file (es.length + 1) (RC.new m) =
            es.map (fun e => Res.ok (some e)) ++ [Res.ok none] ∧
          Props.C01.scanBackward cd file (es.length + 1) (RC.new m) =
            es.reverse.map (fun e => Res.ok (some e)) ++ [Res.ok none]) := by
  have hivs := cfgOf_interval wb hiv
  obtain ⟨file, log, h1, h2, h3⟩ := src_C01_writer_roundtrip_bounded cd (cfgOf wb) es wb.compression_type
    wb.compression_level hlaw hid hlv hivs.1 hivs.2 hasc hlens hcount hcd hct
  refine ⟨file, log, ?_, h2, h3⟩
  rw [src_writer_build wb (by omega)]
  exact h1

end Grenad.SrcTie
