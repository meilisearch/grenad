/-
  Grenad.SrcTie.Varint — translator tie for src/varint.rs.
  `Grenad.Gen.varint_*` are REGENERATED from /repo/src/varint.rs on every run (r2l); the theorems
  below state that the hand-written model (`Grenad.Varint.*`, about which C14 is proved) is exactly
  that code.  A change of the Rust functions changes the generated definitions and breaks these proofs.
-/
import Grenad.Generated.Src.SrcVarint
import Grenad.Model.Varint
import Grenad.SrcTie.Bits
import Grenad.SrcTie.Prim

set_option linter.unusedSimpArgs false
set_option linter.unusedVariables false

namespace Grenad.SrcTie
open Grenad Grenad.R Grenad.Gen

/-- `varint_encode32(&mut buf, v)` returns exactly the model's bytes, for every value and every
    scratch buffer of at least 5 bytes (the only call sites pass `[0; 10]`); the scratch buffer keeps
    its length. -/
theorem src_varint_encode32_full (bs : List UInt8) (v : Nat) (hb : 5 ≤ bs.length) :
    ∃ bs', varint_encode32 bs v = .ok (Varint.encode32 v, bs') ∧ bs'.length = bs.length := by
  obtain ⟨b0, b1, b2, b3, b4, rest, rfl⟩ : ∃ b0 b1 b2 b3 b4 rest, bs = b0 :: b1 :: b2 :: b3 :: b4 :: rest := by
    match bs, hb with
    | b0 :: b1 :: b2 :: b3 :: b4 :: rest, _ => exact ⟨_, _, _, _, _, _, rfl⟩
  unfold varint_encode32 Varint.encode32
  by_cases h7 : v < 2 ^ 7
  · simp [shl, setIdx, sliceTo, castU, bind, Except.bind, pure, Except.pure, h7]
  by_cases h14 : v < 2 ^ 14
  · simp [shl, shr, setIdx, sliceTo, castU, bind, Except.bind, pure, Except.pure, h7, h14,
      or128_mod256, Nat.shiftRight_eq_div_pow]
  by_cases h21 : v < 2 ^ 21
  · simp [shl, shr, setIdx, sliceTo, castU, bind, Except.bind, pure, Except.pure, h7, h14, h21,
      or128_mod256, Nat.shiftRight_eq_div_pow]
  by_cases h28 : v < 2 ^ 28
  · simp [shl, shr, setIdx, sliceTo, castU, bind, Except.bind, pure, Except.pure, h7, h14, h21, h28,
      or128_mod256, Nat.shiftRight_eq_div_pow]
  · simp [shl, shr, setIdx, sliceTo, castU, bind, Except.bind, pure, Except.pure, h7, h14, h21, h28,
      or128_mod256, Nat.shiftRight_eq_div_pow]

theorem src_varint_encode32 (bs : List UInt8) (v : Nat) (hb : 5 ≤ bs.length) :
    (varint_encode32 bs v).map Prod.fst = .ok (Varint.encode32 v) := by
  obtain ⟨bs', h, _⟩ := src_varint_encode32_full bs v hb
  simp [h, Except.map]

/-- the body of the `for` loop of `varint_length_packed`, as the translator emits it -/
def lpBody (d : List UInt8) {α} (_ : α) (s : Nat) : M (ForInStep Nat) :=
  Except.bind (idx d s) fun b =>
    if (b.toNat &&& 128 == 0) = true then Except.pure (ForInStep.done s)
    else Except.bind (add 64 s 1) fun s' => Except.pure (ForInStep.yield s')

theorem lpBody_stop (d : List UInt8) {α} (a : α) (i : Nat) (h : i < d.length) (hb : d[i].toNat < 128) :
    lpBody d a i = .ok (.done i) := by
  have hidx := idx_ok d i h
  have h0 : d[i].toNat &&& 128 = 0 := (and128_eq_zero_iff _ (UInt8.toNat_lt _)).mpr hb
  simp [lpBody, hidx, Except.bind, h0, Except.pure]

theorem lpBody_go (d : List UInt8) {α} (a : α) (i : Nat) (h : i < d.length) (hd : d.length < 2 ^ 64)
    (hb : ¬ d[i].toNat < 128) : lpBody d a i = .ok (.yield (i + 1)) := by
  have hidx := idx_ok d i h
  have h0 : ¬ d[i].toNat &&& 128 = 0 := fun h => hb ((and128_eq_zero_iff _ (UInt8.toNat_lt _)).mp h)
  have hadd : add 64 i 1 = .ok (i + 1) := add_ok (by omega)
  simp [lpBody, hidx, Except.bind, h0, Except.pure, hadd]

theorem lp_loop (d : List UInt8) (hd : d.length < 2 ^ 64) {α} (l : List α) :
    ∀ i, i + l.length = d.length →
    forIn l i (lpBody d)
      = (.ok (i + ((d.drop i).takeWhile (fun b => decide (128 ≤ b.toNat))).length) : M Nat) := by
  induction l with
  | nil =>
    intro i hi
    simp at hi
    simp [hi, pure, Except.pure]
  | cons a l ih =>
    intro i hi
    simp only [List.length_cons] at hi
    have hlt : i < d.length := by omega
    have hdrop : d.drop i = d[i] :: d.drop (i + 1) := by simp
    have htw : (d.drop i).takeWhile (fun b => decide (128 ≤ b.toNat))
        = if 128 ≤ d[i].toNat then d[i] :: (d.drop (i + 1)).takeWhile (fun b => decide (128 ≤ b.toNat)) else [] := by
      rw [hdrop, List.takeWhile_cons]; simp
    rw [List.forIn_cons, htw]
    by_cases hb : d[i].toNat < 128
    · rw [lpBody_stop d a i hlt hb, if_neg (by omega)]
      simp [bind, Except.bind, pure, Except.pure]
    · rw [lpBody_go d a i hlt hd hb, if_pos (by omega)]
      simp only [bind, Except.bind]
      rw [ih (i + 1) (by omega)]
      simp only [List.length_cons]
      congr 1; omega

theorem src_varint_length_packed (d : List UInt8) (hd : d.length < 2 ^ 32) :
    varint_length_packed d = .ok (Varint.lengthPacked d) := by
  unfold varint_length_packed
  have hl := lp_loop d (by omega) (List.range' 0 (d.length - 0)) 0 (by simp)
  simp only [bind, pure]
  show Except.bind (forIn (List.range' 0 (d.length - 0)) 0 (lpBody d)) _ = _
  rw [hl]
  simp only [Except.bind, List.drop_zero, Nat.zero_add, Varint.lengthPacked]
  have hle : (List.takeWhile (fun b => decide (128 ≤ b.toNat)) d).length ≤ d.length :=
    (List.takeWhile_sublist _).length_le
  generalize (List.takeWhile (fun b => decide (128 ≤ b.toNat)) d).length = n at hle ⊢
  by_cases h : n = d.length
  · simp [h, Except.pure]
  · have h1 : n + 1 < 2 ^ 32 := by omega
    have h2 : n % 2 ^ 32 = n := Nat.mod_eq_of_lt (by omega)
    simp [h, add, castU, pure, Except.pure, h2, h1]

theorem lengthPacked_le (d : List UInt8) : Varint.lengthPacked d ≤ d.length := by
  unfold Varint.lengthPacked
  have hle : (List.takeWhile (fun b => decide (128 ≤ b.toNat)) d).length ≤ d.length :=
    (List.takeWhile_sublist _).length_le
  simp only
  split <;> omega

/-- shifting a seven-bit digit by at most 21 stays inside 32 bits -/
theorem shl32_digit (x k : Nat) (hx : x < 128) (hk : k ≤ 21) : shl 32 x k = .ok (x * 2 ^ k) := by
  apply shl32 _ _ (by omega)
  calc x * 2 ^ k < 128 * 2 ^ k := Nat.mul_lt_mul_of_pos_right hx (Nat.two_pow_pos k)
    _ ≤ 128 * 2 ^ 21 := Nat.mul_le_mul_left _ (Nat.pow_le_pow_right (by decide) hk)
    _ < 2 ^ 32 := by decide

theorem src_varint_decode32 (data : List UInt8) (v0 : Nat) :
    varint_decode32 data v0 =
      match Varint.decode32 data with
      | some (v, n) => .ok (n, v)
      | none => .error (.panic "index out of bounds") := by
  unfold varint_decode32 Varint.decode32
  have hslice : sliceTo data (min data.length 5) = .ok (data.take 5) := by
    rw [sliceTo_ok (Nat.min_le_left _ _)]
    simp [List.take_eq_take_iff]; omega
  have hlp := src_varint_length_packed (data.take 5) (by simp; omega)
  have hlen := lengthPacked_le (data.take 5)
  simp only [List.length_take] at hlen
  cases data with
  | nil => simp [bind, Except.bind, hslice, hlp, idx, pure, Except.pure]; rfl
  | cons d0 t =>
    simp only [bind, Except.bind, hslice, hlp, pure, Except.pure]
    -- `len ≤ data.length` guards every index: the shape of the list plays no part
    generalize Varint.lengthPacked (List.take 5 (d0 :: t)) = len at hlen ⊢
    generalize hD : d0 :: t = data at hlen ⊢
    have h0 : idx data 0 = .ok d0 := by subst hD; rfl
    have hle : len ≤ data.length := Nat.le_trans hlen (Nat.min_le_right _ _)
    -- the seven-bit digits, the shifts that cannot overflow, and `|` as `+` on disjoint bits
    generalize hx0 : d0.toNat % 128 = x0
    generalize hx1 : (data.getD 1 0).toNat % 128 = x1
    generalize hx2 : (data.getD 2 0).toNat % 128 = x2
    generalize hx3 : (data.getD 3 0).toNat % 128 = x3
    have m0 : x0 < 128 := by rw [← hx0]; exact Nat.mod_lt _ (by decide)
    have m1 : x1 < 128 := by rw [← hx1]; exact Nat.mod_lt _ (by decide)
    have m2 : x2 < 128 := by rw [← hx2]; exact Nat.mod_lt _ (by decide)
    have m3 : x3 < 128 := by rw [← hx3]; exact Nat.mod_lt _ (by decide)
    have s1 := shl32_digit x1 7 m1 (by decide)
    have s2 := shl32_digit x2 14 m2 (by decide)
    have s3 := shl32_digit x3 21 m3 (by decide)
    have s4 := fun y => shl32_wrap y 28 (by decide)
    have l1 := add_digit_lt x0 x1 7 m0 m1
    have l2 := add_digit_lt _ x2 14 l1 m2
    have l3 := add_digit_lt _ x3 21 l2 m3
    have o1 := or_digit x0 x1 7 m0
    have o2 := or_digit _ x2 14 l1
    have o3 := or_digit _ x3 21 l2
    have o4 := fun y => or_digit_wrap _ y 28 (by decide) l3
    simp only [h0, and127, hx0]
    by_cases h1 : 1 < len
    · simp only [h1, decide_true, if_true, idx_getD data 1 0 (Nat.lt_of_lt_of_le h1 hle), hx1, s1, o1, show len > 1 from h1]
      by_cases h2 : 2 < len
      · simp only [h2, decide_true, if_true, idx_getD data 2 0 (Nat.lt_of_lt_of_le h2 hle), hx2, s2, o2, show len > 2 from h2]
        by_cases h3 : 3 < len
        · simp only [h3, decide_true, if_true, idx_getD data 3 0 (Nat.lt_of_lt_of_le h3 hle), hx3, s3, o3, show len > 3 from h3]
          by_cases h4 : 4 < len
          · simp only [h4, decide_true, if_true, idx_getD data 4 0 (Nat.lt_of_lt_of_le h4 hle), s4, o4, show len > 4 from h4]
          · simp only [h4, decide_false, if_false, Bool.false_eq_true, show ¬ len > 4 from h4]
        · have h4 : ¬ 4 < len := fun h => h3 (Nat.lt_trans (by decide) h)
          simp only [h3, h4, decide_false, if_false, Bool.false_eq_true, show ¬ len > 3 from h3,
            show ¬ len > 4 from h4]
      · have h3 : ¬ 3 < len := fun h => h2 (Nat.lt_trans (by decide) h)
        have h4 : ¬ 4 < len := fun h => h2 (Nat.lt_trans (by decide) h)
        simp only [h2, h3, h4, decide_false, if_false, Bool.false_eq_true, show ¬ len > 2 from h2,
          show ¬ len > 3 from h3, show ¬ len > 4 from h4]
    · have h2 : ¬ 2 < len := fun h => h1 (Nat.lt_trans (by decide) h)
      have h3 : ¬ 3 < len := fun h => h1 (Nat.lt_trans (by decide) h)
      have h4 : ¬ 4 < len := fun h => h1 (Nat.lt_trans (by decide) h)
      simp only [h1, h2, h3, h4, decide_false, if_false, Bool.false_eq_true, show ¬ len > 1 from h1,
        show ¬ len > 2 from h2, show ¬ len > 3 from h3, show ¬ len > 4 from h4]

end Grenad.SrcTie
