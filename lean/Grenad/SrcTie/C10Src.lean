/-
  Grenad.SrcTie.C10Src — the version-1 trailer of C10 on the code regenerated from /repo/src/metadata.rs.
-/
import Grenad.Props.C10
import Grenad.SrcTie.Meta

set_option linter.unusedSimpArgs false
set_option linter.unusedVariables false

namespace Grenad.SrcTie
open Grenad Grenad.R Grenad.Gen

/-- The translated `Metadata::read_from` opens a V1 file (21-byte trailer: root, codec id, count as
    u64 LE around a one-byte codec id, magic 0x76324D4C) as format version 1 with exactly the stored root
    offset, codec and the FULL 64-bit entry count, and index depth 0. -/
theorem src_C10_open_v1 (body : Bytes) (root codec count p : Nat)
    (hr : root < 2 ^ 64) (hc : codec ≤ 5) (hn : count < 2 ^ 64) :
    ∃ m, Metadata.read_from { bytes := Props.C10.toV1 body root codec count, pos := p } = .ok m ∧
      m.file_version = .formatV1 ∧ m.index_block_offset = root ∧ m.compression_type.toNat = codec ∧
      m.entries_count = count ∧ m.index_levels = 0 := by
  obtain ⟨m, hr', h⟩ := (read_from_ok_iff _ p _).mp (Props.C10.C10_open body root codec count hr hc hn)
  refine ⟨m, hr', ?_, congrArg Meta.Meta.root h, congrArg Meta.Meta.codec h,
    congrArg Meta.Meta.count h, congrArg Meta.Meta.levels h⟩
  have h1 := congrArg Meta.Meta.version h
  cases hv : m.file_version with
  | formatV1 => rfl
  | formatV2 => simp [toModelMeta, hv] at h1

end Grenad.SrcTie
