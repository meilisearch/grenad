/-
  Grenad.SrcTie.MergerIterRun — translator tie for the k-way merger of src/merger.rs, part 4:
  draining the translated iterator (`genCollect`, `genMergerRun`) against `Merger.run` (`src_merger_run`),
  and C06 on the regenerated code (`src_C06_run`, `src_C06_merge`).
-/
import Grenad.SrcTie.MergerIterStep
import Grenad.Props.C06

set_option linter.unusedSimpArgs false
set_option linter.unusedVariables false

namespace Grenad.SrcTie
open Grenad Grenad.R Grenad.Gen Grenad.Wave3

/-! ### Every successful `next` consumes an entry -/

/-- entries the heap's sources still have to yield -/
def heapLen (h : List MSrc) : Nat := (h.map (fun s => s.rest.length)).sum

theorem heapLen_perm {h h' : List MSrc} (hp : h.Perm h') : heapLen h = heapLen h' :=
  (hp.map _).sum_nat

theorem heapLen_append (h h' : List MSrc) : heapLen (h ++ h') = heapLen h + heapLen h' := by
  simp [heapLen, List.sum_append]

theorem heapLen_cons (s : MSrc) (h : List MSrc) : heapLen (s :: h) = s.rest.length + heapLen h := by
  simp [heapLen]

theorem adv_len (s : MSrc) : heapLen (adv s).toList ≤ s.rest.length ∧
    (s.rest ≠ [] → heapLen (adv s).toList < s.rest.length) := by
  obtain ⟨i, r⟩ := s
  match r with
  | [] => simp [adv, heapLen]
  | [_] => simp [adv, heapLen]
  | _ :: _ :: _ => simp [adv, heapLen]

theorem heapLen_filterMap_cons (s : MSrc) (F : List MSrc) :
    heapLen ((s :: F).filterMap adv) = heapLen (adv s).toList + heapLen (F.filterMap adv) := by
  cases h : adv s <;> simp [List.filterMap_cons, h, heapLen]

theorem heapLen_filterMap_adv (F : List MSrc) : heapLen (F.filterMap adv) ≤ heapLen F := by
  induction F with
  | nil => simp
  | cons s F ih =>
    have h1 := (adv_len s).1
    rw [heapLen_filterMap_cons, heapLen_cons]
    omega

/-- A `next` that yields an entry leaves strictly fewer entries to yield. -/
theorem next_heapLen (mf : MergeFn) (m m' : Merger) (e : Entry) (hne : IdxNe m.heap)
    (hlive : ∀ s ∈ m.heap, s.rest ≠ []) (hn : Merger.next mf m = (m', .ok (some e))) :
    heapLen m'.heap < heapLen m.heap := by
  cases hpop : heapPop m.heap with
  | none => rw [Merger.next_of_empty mf hpop] at hn; cases hn
  | some p =>
    obtain ⟨first, h1⟩ := p
    obtain ⟨S, h2, hps, hF, -, hh2, hmem, -⟩ := heap_round hne.pairNe hpop
    have hall : ((first :: S) ++ h2).Perm m.heap := round_append_perm hF hh2
    rw [Merger.next_of_round mf hpop hps] at hn
    cases hmf : mf first.key (first.val :: List.map MSrc.val S) with
    | none => rw [hmf] at hn; simp at hn
    | some v =>
      rw [hmf] at hn
      simp only [Prod.mk.injEq] at hn
      obtain ⟨rfl, -⟩ := hn
      simp only
      rw [heapLen_perm (foldl_advance_perm (first :: S) h2), ← heapLen_perm hall, heapLen_append,
        heapLen_append, heapLen_cons]
      have h3 := heapLen_filterMap_adv S
      have h4 := (adv_len first).2 (hlive first hmem)
      rw [heapLen_filterMap_cons]
      omega

theorem heapLen_start_go (srcs : List (List Entry)) : ∀ n : Nat,
    heapLen (Merger.start.go n srcs) = Merger.totalLen srcs := by
  induction srcs with
  | nil => intro n; simp [heapLen, Merger.totalLen]
  | cons s srcs ih =>
    intro n
    cases s with
    | nil => simp only [tag_cons_nil, ih]; simp [Merger.totalLen]
    | cons e r =>
      simp only [tag_cons_cons, heapLen_cons, ih]
      simp [Merger.totalLen]

/-! ### Draining the translated iterator -/

/-- Call the translated `MergerIter::next` until it returns `None`, collecting what it yields; an `Err`
    is passed on; running out of fuel is a panic (so that `.ok` means: drained). -/
def genCollect (merge : List UInt8 → List (List UInt8) → Except Unit Cow) :
    Nat → Gen.MergerIter LCur → List Entry → M (List Entry)
  | 0, _, _ => .error (Fail.panic "genCollect: fuel exhausted")
  | fuel + 1, it, acc =>
    match Gen.MergerIter.next lstep merge it with
    | .ok (none, _) => .ok acc.reverse
    | .ok (some e, it') => genCollect merge fuel it' (e :: acc)
    | .error f => .error f

/-- The translated merger over the sources `srcs` (fresh list cursors): `into_stream_merger_iter`, then
    `next` until `None`. -/
def genMergerRun (merge : List UInt8 → List (List UInt8) → Except Unit Cow) (srcs : List (List Entry)) :
    M (List Entry) :=
  match Gen.Merger.into_stream_merger_iter lstep
      { sources := srcs.map (fun l => ({ fresh := true, rest := l } : LCur)) } with
  | .ok it => genCollect merge (Merger.totalLen srcs + 1) it []
  | .error f => .error f

/-- what the model's outcome is in the translated code's terms -/
def mergeOutcome : Option (List Entry) → M (List Entry)
  | some out => .ok out
  | none => .error (Fail.err RErr.merge)

/-- The invariant of a run: the translated heap holds live entries that abstract to the model heap in
    some order, and the model heap's entries come from pairwise different sources. -/
def RunInv (it : Gen.MergerIter LCur) (m : Merger) : Prop :=
  AllLive it.heap ∧ (it.heap.map absE).Perm m.heap ∧ IdxNe m.heap

/-- One `next` under the invariant of a run: the translated code answers what the model answers, and
    after a yielded entry the invariant holds again with strictly fewer entries left to yield. -/
theorem next_sim_run (mf : MergeFn) (merge : List UInt8 → List (List UInt8) → Except Unit Cow)
    (hm : ∀ k vs, (merge k vs).toOption.map cowBytes = mf k vs)
    (it : Gen.MergerIter LCur) (m : Merger) (hI : RunInv it m) :
    match Merger.next mf m with
    | (_, .ok none) => ∃ it', Gen.MergerIter.next lstep merge it = .ok (none, it')
    | (m', .ok (some e)) => ∃ it', Gen.MergerIter.next lstep merge it = .ok (some e, it') ∧
        RunInv it' m' ∧ heapLen m'.heap < heapLen m.heap
    | (_, .mergeErr) => Gen.MergerIter.next lstep merge it = .error (Fail.err RErr.merge) := by
  obtain ⟨hl, hp, hne⟩ := hI
  have hsim := next_sim mf merge hm it m hl hp (keyIdxNe_of_idxNe hne)
  have hne' := next_idxNe mf m hne
  have hlive : ∀ s ∈ m.heap, s.rest ≠ [] := by
    intro s hs
    obtain ⟨e, he, rfl⟩ := List.mem_map.mp (hp.symm.subset hs)
    exact (hl e he).2
  cases hn : Merger.next mf m with
  | mk m' res =>
    rw [hn] at hsim hne'
    match res, hsim, hn with
    | .ok none, hsim, _ =>
      obtain ⟨it', h1, -⟩ := hsim
      exact ⟨it', h1⟩
    | .ok (some e), hsim, hn =>
      obtain ⟨it', h1, h2, h3, -⟩ := hsim
      exact ⟨it', h1, ⟨h2, h3, hne'⟩, next_heapLen mf m m' e hne hlive hn⟩
    | .mergeErr, hsim, _ => exact hsim

theorem collect_sim (mf : MergeFn) (merge : List UInt8 → List (List UInt8) → Except Unit Cow)
    (hm : ∀ k vs, (merge k vs).toOption.map cowBytes = mf k vs) :
    ∀ (fuel : Nat) (it : Gen.MergerIter LCur) (m : Merger) (acc : List Entry),
      RunInv it m → heapLen m.heap < fuel →
      genCollect merge fuel it acc = mergeOutcome (Merger.collect mf fuel m acc).1 := by
  intro fuel
  induction fuel with
  | zero => intro it m acc _ h; omega
  | succ fuel ih =>
    intro it m acc hI hfuel
    have hsim := next_sim_run mf merge hm it m hI
    simp only [genCollect, Merger.collect]
    cases hn : Merger.next mf m with
    | mk m' res =>
      rw [hn] at hsim
      match res, hsim with
      | .ok none, hsim =>
        obtain ⟨it', h1⟩ := hsim
        rw [h1]
        rfl
      | .ok (some e), hsim =>
        obtain ⟨it', h1, hI', hlt⟩ := hsim
        rw [h1]
        exact ih it' m' (e :: acc) hI' (by omega)
      | .mergeErr, hsim =>
        rw [hsim]
        rfl

/-- **src_merger_run.**  The translated merger, started by `into_stream_merger_iter` on fresh list
    cursors over `srcs` and drained by calling `next` until `None` with fuel `totalLen srcs + 1`:
    it returns `Ok(out)` exactly when the model run returns `some out`, and `Err(Error::Merge(_))`
    when the model run fails in the merge function; it never panics (neither the loop fuel inside
    `next` nor the driver's fuel runs out).  Any sources, any merge function. -/
theorem src_merger_run (mf : MergeFn) (merge : List UInt8 → List (List UInt8) → Except Unit Cow)
    (hm : ∀ k vs, (merge k vs).toOption.map cowBytes = mf k vs) (srcs : List (List Entry)) :
    genMergerRun merge srcs = mergeOutcome (Merger.run mf srcs).1 := by
  obtain ⟨it, h1, h2, -, -, -, h6⟩ := src_merger_start srcs
  unfold genMergerRun Merger.run
  rw [h1]
  simp only
  refine collect_sim mf merge hm _ it (Merger.start srcs) [] ⟨h6, by rw [h2], start_idxNe srcs⟩ ?_
  rw [start_heap, heapLen_start_go]
  omega

theorem src_merger_run' (mf : MergeFn) (merge : List UInt8 → List (List UInt8) → Except Unit Cow)
    (hm : ∀ k vs, (merge k vs).toOption.map cowBytes = mf k vs) (srcs : List (List Entry)) :
    (∀ out, (Merger.run mf srcs).1 = some out → genMergerRun merge srcs = .ok out) ∧
    ((Merger.run mf srcs).1 = none → genMergerRun merge srcs = .error (Fail.err RErr.merge)) := by
  rw [src_merger_run mf merge hm srcs]
  constructor
  · intro out h; rw [h]; rfl
  · intro h; rw [h]; rfl

/-! ### C06 on the regenerated code -/

/-- **src_C06_run.**  Strictly ascending sources, any merge function: the translated merger returns
    `mergeAll` over the groups of the concatenated sources — the merge function applied to each key's
    values in source order, `Err(Error::Merge(_))` as soon as one call fails. -/
theorem src_C06_run (mf : MergeFn) (merge : List UInt8 → List (List UInt8) → Except Unit Cow)
    (hm : ∀ k vs, (merge k vs).toOption.map cowBytes = mf k vs) (sources : List (List Entry))
    (hasc : ∀ s ∈ sources, StrictAsc s) :
    genMergerRun merge sources = mergeOutcome (mergeAll mf (Spec.group sources.flatten)) := by
  rw [src_merger_run mf merge hm sources, (Grenad.Props.C06.C06_run mf sources hasc).1]

/-- **src_C06_merge.**  Strictly ascending sources and a merge function that never fails
    (`merge k vs = Ok(cow)` with `cow`'s bytes `mf' k vs`): the translated merger yields exactly the
    grouped union `Spec.mergeSpec mf' sources` — one entry per distinct key, ascending, its value the
    result of ONE call of the merge function on that key's values in source order. -/
theorem src_C06_merge (mf' : Bytes → List Bytes → Bytes)
    (merge : List UInt8 → List (List UInt8) → Except Unit Cow)
    (hm : ∀ k vs, (merge k vs).toOption.map cowBytes = some (mf' k vs))
    (sources : List (List Entry)) (hasc : ∀ s ∈ sources, StrictAsc s) :
    genMergerRun merge sources = .ok (Spec.mergeSpec mf' sources) := by
  rw [src_merger_run (Grenad.Props.C06.total mf') merge hm sources,
    Grenad.Props.C06.C06_merge mf' sources hasc]
  rfl

/-- concatenating merge function, answering `Cow::Owned` for several values and `Cow::Borrowed` for one -/
def exMerge : List UInt8 → List (List UInt8) → Except Unit Cow
  | _, [v] => .ok (.borrowed v)
  | _, vs => .ok (.owned vs.flatten)

/-- fails on key `[3]` -/
def exMergeFail : List UInt8 → List (List UInt8) → Except Unit Cow
  | k, vs => if k = [3] then .error () else .ok (.owned vs.flatten)

theorem exMerge_spec : ∀ k vs, (exMerge k vs).toOption.map cowBytes = some (Grenad.Props.C06.exConcat k vs) := by
  intro k vs
  match vs with
  | [] => rfl
  | [v] => simp [exMerge, Except.toOption, cowBytes, Grenad.Props.C06.exConcat]
  | _ :: _ :: _ => rfl

/-- three sources sharing keys (and an empty one), evaluated: `[1]` is in sources 0 and 2, `[3]` in 0 and 3 -/
example : genMergerRun exMerge Grenad.Props.C06.exSources =
    .ok [([1], [10, 11]), ([2], [20]), ([3], [30, 31]), ([4, 0], [40])] := by rfl

example : genMergerRun exMerge Grenad.Props.C06.exSources =
    .ok [([1], [10, 11]), ([2], [20]), ([3], [30, 31]), ([4, 0], [40])] := by
  rw [src_C06_merge Grenad.Props.C06.exConcat exMerge exMerge_spec _ Grenad.Props.C06.exAsc,
    Grenad.Props.C06.exMerged]

/-- a failing merge function: `Err(Error::Merge(_))` -/
example : genMergerRun exMergeFail Grenad.Props.C06.exSources = .error (Fail.err RErr.merge) := by rfl

/-- one step on a two-entry heap sharing the key `[1]` (source 2 listed first): both values are handed
    to the merge function in source order, both cursors advance, the exhausted one is dropped -/
example :
    (Gen.MergerIter.next lstep exMerge
      { heap := [⟨⟨false, [([1], [11]), ([2], [20])]⟩, 2⟩, ⟨⟨false, [([1], [10])]⟩, 0⟩],
        current_key := [9], merged_value := [9], tmp_entries := [] }).toOption.map
      (fun r => (r.1, r.2.heap.map absE, r.2.current_key, r.2.merged_value)) =
    some (some ([1], [10, 11]), [⟨2, [([2], [20])]⟩], [1], [10, 11]) := by decide +kernel

/-- the hypotheses of `src_merger_next` on that instance (the model heap lists source 0 first) -/
example : ∃ it',
    Gen.MergerIter.next lstep exMerge
      { heap := [⟨⟨false, [([1], [11]), ([2], [20])]⟩, 2⟩, ⟨⟨false, [([1], [10])]⟩, 0⟩],
        current_key := [9], merged_value := [9], tmp_entries := [] } =
      .ok (some ([1], [10, 11]), it') ∧
    AllLive it'.heap ∧ (it'.heap.map absE).Perm [⟨2, [([2], [20])]⟩] ∧
    it'.current_key = [1] ∧ it'.merged_value = [10, 11] := by
  obtain ⟨it', h1, h2, h3, -, -, h6⟩ :=
    (src_merger_next (Grenad.Props.C06.total Grenad.Props.C06.exConcat) exMerge exMerge_spec
      { heap := [⟨⟨false, [([1], [11]), ([2], [20])]⟩, 2⟩, ⟨⟨false, [([1], [10])]⟩, 0⟩],
        current_key := [9], merged_value := [9], tmp_entries := [] }
      ⟨[⟨0, [([1], [10])]⟩, ⟨2, [([1], [11]), ([2], [20])]⟩], []⟩
      (by simp [AllLive, Live]) (by decide +kernel) (by decide +kernel)).1 _ _ rfl
  exact ⟨it', h1, h2, h3, (h6 _ _ rfl).1, (h6 _ _ rfl).2.1⟩

/-- the error branch of `src_merger_next` on an instance -/
example :
    Gen.MergerIter.next lstep exMergeFail
      { heap := [⟨⟨false, [([3], [31])]⟩, 3⟩, ⟨⟨false, [([3], [30])]⟩, 0⟩],
        current_key := [], merged_value := [], tmp_entries := [] } =
      .error (Fail.err RErr.merge) :=
  (src_merger_next Grenad.Props.C06.exFail exMergeFail
      (by intro k vs; simp only [exMergeFail, Grenad.Props.C06.exFail]; split <;> rfl)
      { heap := [⟨⟨false, [([3], [31])]⟩, 3⟩, ⟨⟨false, [([3], [30])]⟩, 0⟩],
        current_key := [], merged_value := [], tmp_entries := [] }
      ⟨[⟨0, [([3], [30])]⟩, ⟨3, [([3], [31])]⟩], []⟩
      (by simp [AllLive, Live]) (by decide +kernel) (by decide +kernel)).2 _ rfl

end Grenad.SrcTie

section Axioms
open Grenad.SrcTie
#print axioms src_merger_start
#print axioms src_merger_next
#print axioms src_merger_run
#print axioms src_merger_run'
#print axioms src_C06_run
#print axioms src_C06_merge
end Axioms
