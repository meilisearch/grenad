/-
  Grenad.SrcTie.TBlockSrc — T-block stated on the code regenerated from /repo/src/block.rs:
  on every block a block writer builds (`BlockOf`), each move of the TRANSLATED in-block cursor that
  returns behaves exactly as the list cursor `LC` (the L1 specification of a block), and keeps representing it.
  Composition of the translator tie (`src_bc_*`) with `byteOps_sim`.
-/
import Grenad.SrcTie.BlockCursor
import Grenad.Proofs.TBlock5

set_option linter.unusedSimpArgs false
set_option linter.unusedVariables false

namespace Grenad.SrcTie
open Grenad Grenad.R Grenad.Gen

def genMove (m : Mov) (c : Gen.BlockCursor) : M (Option (Bytes × Bytes) × Gen.BlockCursor) :=
  match m with
  | .first => Gen.BlockCursor.move_on_first c
  | .last => Gen.BlockCursor.move_on_last c
  | .next => Gen.BlockCursor.move_on_next c
  | .prev => Gen.BlockCursor.move_on_prev c
  | .ge q => Gen.BlockCursor.move_on_key_greater_than_or_equal_to c q

/-- whenever a translated move returns, it is the model's move (writer-built block) -/
theorem src_genMove_model {iv : Nat} {es : List Entry} (c c' : Gen.BlockCursor) (h : OKBlock c.block)
    (hb : BlockOf iv es (toBlock c.block)) (m : Mov) (r : Option (Bytes × Bytes))
    (hr : genMove m c = .ok (r, c')) :
    (toBC c', r) = byteOps.apply m (toBC c) ∧ c'.block = c.block := by
  have hasc : (toBC c).block.offsets.Pairwise (· < ·) := BinSearch.offsets_pairwise_of_blockOf hb
  have hkeys : BinSearch.TableKeysAsc (toBC c).block := BinSearch.tableKeysAsc_of_blockOf hb
  cases m with
  | first => exact src_bc_first c c' h r hr
  | last => exact src_bc_last c c' h r hr
  | next => exact src_bc_next c c' h r hr
  | prev =>
    refine ⟨?_, (src_bc_prev c c' h r hr).2⟩
    exact src_bc_prev_model c c' h r hasc hr
  | ge q =>
    refine ⟨?_, (src_bc_ge c c' h q r hr).2⟩
    exact src_bc_ge_model c c' h q r hkeys hr

theorem src_tblock_sim {iv : Nat} {es : List Entry} (c c' : Gen.BlockCursor) (h : OKBlock c.block)
    (hb : BlockOf iv es (toBlock c.block)) {l : LC} (hrep : BRepr es (toBlock c.block) (toBC c) l)
    (m : Mov) (r : Option (Bytes × Bytes)) (hr : genMove m c = .ok (r, c')) :
    BRepr es (toBlock c'.block) (toBC c') (LC.ops.apply m l).1 ∧ r = (LC.ops.apply m l).2 ∧ c'.block = c.block := by
  obtain ⟨hm, hblk⟩ := src_genMove_model c c' h hb m r hr
  have hs := byteOps_sim hb hrep m
  simp only at hs
  rw [← hm] at hs
  rw [hblk]
  exact ⟨hs.1, hs.2, rfl⟩

/-- a run of translated moves, collecting the answers -/
def genRun (ms : List Mov) (c : Gen.BlockCursor) (acc : List (Option (Bytes × Bytes))) :
    M (Gen.BlockCursor × List (Option (Bytes × Bytes))) :=
  ms.foldlM (fun (s : Gen.BlockCursor × List (Option (Bytes × Bytes))) m => do
    let (r, c1) ← genMove m s.1
    pure (c1, s.2 ++ [r])) (c, acc)

/-- the list cursor's answers to the same moves -/
def specRun (ms : List Mov) (l : LC) (acc : List (Option Entry)) : List (Option Entry) :=
  (ms.foldl (fun (s : LC × List (Option Entry)) m =>
    ((LC.ops.apply m s.1).1, s.2 ++ [(LC.ops.apply m s.1).2])) (l, acc)).2

/-- … and for every sequence of moves that all return: the results are those of the list cursor. -/
theorem src_tblock_run {iv : Nat} {es : List Entry} : ∀ (ms : List Mov) (c : Gen.BlockCursor) (l : LC),
    OKBlock c.block → BlockOf iv es (toBlock c.block) → BRepr es (toBlock c.block) (toBC c) l →
    ∀ (rs : List (Option (Bytes × Bytes))) (c' : Gen.BlockCursor),
      (ms.foldlM (fun (s : Gen.BlockCursor × List (Option (Bytes × Bytes))) m => do
          let (r, c1) ← genMove m s.1
          pure (c1, s.2 ++ [r])) (c, []) : M _) = .ok (c', rs) →
      rs = (ms.foldl (fun (s : LC × List (Option Entry)) m =>
          ((LC.ops.apply m s.1).1, s.2 ++ [(LC.ops.apply m s.1).2])) (l, [])).2 := by
  suffices H : ∀ (ms : List Mov) (c : Gen.BlockCursor) (l : LC) (acc : List (Option (Bytes × Bytes))),
      OKBlock c.block → BlockOf iv es (toBlock c.block) → BRepr es (toBlock c.block) (toBC c) l →
      ∀ (rs : List (Option (Bytes × Bytes))) (c' : Gen.BlockCursor),
        genRun ms c acc = .ok (c', rs) → rs = specRun ms l acc by
    intro ms c l; exact H ms c l []
  intro ms
  induction ms with
  | nil =>
    intro c l acc _ _ _ rs c' hrun
    cases hrun
    rfl
  | cons m ms ih =>
    intro c l acc hok hb hrep rs c' hrun
    simp only [genRun, List.foldlM, bind, Except.bind] at hrun
    cases hm : genMove m c with
    | error e => simp [hm] at hrun
    | ok x =>
      obtain ⟨r, c1⟩ := x
      simp only [hm, pure, Except.pure] at hrun
      obtain ⟨hrep1, hr1, hblk⟩ := src_tblock_sim c c1 hok hb hrep m r hm
      have hok1 : OKBlock c1.block := by rw [hblk]; exact hok
      have hb1 : BlockOf iv es (toBlock c1.block) := by rw [hblk]; exact hb
      have := ih c1 (LC.ops.apply m l).1 (acc ++ [r]) hok1 hb1 hrep1 rs c' hrun
      simp only [specRun, List.foldl] at this ⊢
      rw [this, hr1]

end Grenad.SrcTie
