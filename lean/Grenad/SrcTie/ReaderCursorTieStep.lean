/-
  Grenad.SrcTie.ReaderCursorTieStep — the tie of `ReaderCursor` as a single statement over `Grenad.Op`
  (`src_rc_step`), over histories (`src_rc_history`, against `RC.run` of Proofs/Loads.lean), and the error direction
  (`src_rc_step_err`, `src_rc_history_err`).

  Error direction.  Every statement of ReaderCursorTie.lean has the form "the generated call returns `.ok (r, s')` ⇒ the
  model call returns `(toRCfull s' _, .ok r)`".  The model answers `Res.err` exactly where it has no block to load
  (`loadCursor = none`) — so a model `.err` contradicts a generated `.ok`: where the model reports `Err(_)`, the
  generated code does not return `.ok`.
-/
import Grenad.SrcTie.ReaderCursorTie
import Grenad.Proofs.Loads

set_option linter.unusedSimpArgs false
set_option linter.unusedVariables false

namespace Grenad.SrcTie
open Grenad Grenad.R Grenad.Gen

/-- one public call on the generated `ReaderCursor`, selected by the model's `Op` -/
def genRcStep (cd : Codec) (s : Gen.ReaderCursor) : Op → M (Option (Bytes × Bytes) × Gen.ReaderCursor)
  | .first => Gen.ReaderCursor.move_on_first (fun _ => cd.decompress) s
  | .last => Gen.ReaderCursor.move_on_last (fun _ => cd.decompress) s
  | .next => Gen.ReaderCursor.move_on_next (fun _ => cd.decompress) s
  | .prev => Gen.ReaderCursor.move_on_prev (fun _ => cd.decompress) s
  | .ge q => Gen.ReaderCursor.move_on_key_greater_than_or_equal_to (fun _ => cd.decompress) s q
  | .le q => Gen.ReaderCursor.move_on_key_lower_than_or_equal_to (fun _ => cd.decompress) s q
  | .eq q => Gen.ReaderCursor.move_on_key_equal_to (fun _ => cd.decompress) s q
  | .reset => Except.bind (Gen.ReaderCursor.reset s) fun s' => Except.pure (none, s')
  | .current => Except.bind (Gen.ReaderCursor.current s) fun r => Except.pure (r, s)

/-- a history of public calls: the results, in order, and the final cursor -/
def genRcRun (cd : Codec) : Gen.ReaderCursor → List Op → M (List (Option (Bytes × Bytes)) × Gen.ReaderCursor)
  | s, [] => Except.pure ([], s)
  | s, op :: rest =>
    Except.bind (genRcStep cd s op) fun x =>
      Except.bind (genRcRun cd x.snd rest) fun y => Except.pure (x.fst :: y.fst, y.snd)

section
variable (cd : Codec) (file : Bytes) (Q : Grenad.Block → Prop) (ops : BlockOps Grenad.BlockCursor)
variable (hs : SmallBlocks cd file) (hq : LoadsQ cd file Q) (hidx : IdxTie cd file Q ops) (hops : OpsTie Q ops)

include hs hq hidx hops in
/-- **One call.**  Whatever public operation is called on a good generated cursor: if it returns, the model's
    `RC.step` (with the repaired index cursor, `fixF1 := true`) returns the same entry and the same state. -/
theorem src_rc_step (s s' : Gen.ReaderCursor) (op : Op) (log : List Nat) (r : Option (Bytes × Bytes))
    (hg : GoodRC Q file s) (h : genRcStep cd s op = .ok (r, s')) :
    GoodRC Q file s' ∧ s'.reader.metadata = s.reader.metadata ∧
      ∃ log', RC.step ops (loadCursor cd file) true (toRCfull s log) op = (toRCfull s' log', .ok r) := by
  cases op with
  | first => exact src_rc_first cd file Q ops hs hq hidx hops s s' log r hg h
  | last => exact src_rc_last cd file Q ops hs hq hidx hops s s' log r hg h
  | next => exact src_rc_next cd file Q ops hs hq hidx hops s s' log r hg h
  | prev => exact src_rc_prev cd file Q ops hs hq hidx hops s s' log r hg h
  | ge q => exact src_rc_ge cd file Q ops hs hq hidx hops s s' q log r hg h
  | le q => exact src_rc_le cd file Q ops hs hq hidx hops s s' q log r hg h
  | eq q => exact src_rc_eq cd file Q ops hs hq hidx hops s s' q log r hg h
  | reset =>
    simp only [genRcStep] at h
    obtain ⟨s1, hs1, h⟩ := bind_ok h
    obtain ⟨hg', hrd, hmodel⟩ := src_rc_reset file Q s s1 log hg hs1
    cases h
    refine ⟨hg', by rw [hrd], log, ?_⟩
    simp only [RC.step, hmodel]
  | current =>
    simp only [genRcStep] at h
    obtain ⟨r1, hr1, h⟩ := bind_ok h
    have := src_rc_current file Q ops hops s log r1 hg hr1
    cases h
    refine ⟨hg, rfl, log, ?_⟩
    simp only [RC.step, this]

include hs hq hidx hops in
/-- **Histories.**  Any sequence of public calls on a good generated cursor: if every call returns, the results are
    those of the model run, and the final states correspond. -/
theorem src_rc_history : ∀ (hist : List Op) (s s' : Gen.ReaderCursor) (log : List Nat)
    (rs : List (Option (Bytes × Bytes))), GoodRC Q file s → genRcRun cd s hist = .ok (rs, s') →
    GoodRC Q file s' ∧ s'.reader.metadata = s.reader.metadata ∧
      ∃ log', RC.run ops (loadCursor cd file) true (toRCfull s log) hist = (toRCfull s' log', rs.map Res.ok)
  | [], s, s', log, rs, hg, h => by
    simp only [genRcRun, Except.pure, Except.ok.injEq, Prod.mk.injEq] at h
    obtain ⟨h1, h2⟩ := h
    subst h1 h2
    exact ⟨hg, rfl, log, rfl⟩
  | op :: rest, s, s', log, rs, hg, h => by
    simp only [genRcRun] at h
    obtain ⟨x, hx, h⟩ := bind_ok h
    obtain ⟨r1, s1⟩ := x
    obtain ⟨y, hy, h⟩ := bind_ok h
    obtain ⟨rs1, s2⟩ := y
    cases h
    obtain ⟨hg1, hm1, log1, hstep⟩ := src_rc_step cd file Q ops hs hq hidx hops s s1 op log r1 hg hx
    obtain ⟨hg2, hm2, log2, hrun⟩ := src_rc_history rest s1 s2 log1 rs1 hg1 hy
    refine ⟨hg2, hm2.trans hm1, log2, ?_⟩
    simp only [RC.run, hstep, hrun, List.map_cons]

include hs hq hidx hops in
/-- **Error direction, one call.**  Where the model reports `Err(_)`, the generated call does not return. -/
theorem src_rc_step_err (s : Gen.ReaderCursor) (op : Op) (log : List Nat) (hg : GoodRC Q file s)
    (herr : (RC.step ops (loadCursor cd file) true (toRCfull s log) op).2 = .err) :
    ∀ x, genRcStep cd s op ≠ .ok x := by
  intro x hx
  obtain ⟨r, s'⟩ := x
  obtain ⟨_, _, log', hstep⟩ := src_rc_step cd file Q ops hs hq hidx hops s s' op log r hg hx
  rw [hstep] at herr
  cases herr

include hs hq hidx hops in
/-- **Error direction, histories.**  If the model run of a history reports an `Err(_)` at some call, the generated
    run does not return. -/
theorem src_rc_history_err (hist : List Op) (s : Gen.ReaderCursor) (log : List Nat) (hg : GoodRC Q file s)
    (herr : Res.err ∈ (RC.run ops (loadCursor cd file) true (toRCfull s log) hist).2) :
    ∀ x, genRcRun cd s hist ≠ .ok x := by
  intro x hx
  obtain ⟨rs, s'⟩ := x
  obtain ⟨_, _, log', hrun⟩ := src_rc_history cd file Q ops hs hq hidx hops hist s s' log rs hg hx
  rw [hrun] at herr
  simp only [List.mem_map] at herr
  obtain ⟨a, _, ha⟩ := herr
  cases ha

include hs hq hidx hops in
/-- **From `ReaderCursor::new`.**  A history run on a fresh cursor over a reader of `file` is the model run from
    `RC.new` of the metadata. -/
theorem src_rc_history_new (rdr : Gen.Reader) (hrd : rdr.reader.bytes = file) (hlv : rdr.metadata.index_levels ≤ 255)
    (s0 s' : Gen.ReaderCursor) (hnew : Gen.ReaderCursor.new rdr = .ok s0) (hist : List Op)
    (rs : List (Option (Bytes × Bytes))) (h : genRcRun cd s0 hist = .ok (rs, s')) :
    GoodRC Q file s' ∧ s'.reader.metadata = rdr.metadata ∧
      ∃ log', RC.run ops (loadCursor cd file) true (RC.new (toModelMeta rdr.metadata)) hist =
        (toRCfull s' log', rs.map Res.ok) := by
  obtain ⟨hrc, hreader, _, _, _, _, _, hgood⟩ := src_rc_new rdr s0 hnew
  obtain ⟨hg', hm, log', hrun⟩ :=
    src_rc_history cd file Q ops hs hq hidx hops hist s0 s' [] rs (hgood Q file hrd hlv) h
  rw [hrc] at hrun
  rw [hreader] at hm
  exact ⟨hg', hm, log', hrun⟩

end

/-! ### the hypotheses are satisfiable

  `SmallBlocks`, `LoadsQ`, `OpsTie` and `GoodRC` on a concrete instance (an uncompressed file, the operations as the
  code computes them, a fresh cursor).  `IdxTie` is the statement of the index-level tie (IndexCursor*.lean); it is a
  hypothesis here and is to be discharged there. -/
example : SmallBlocks Codec.none [1, 2, 3] ∧ LoadsQ Codec.none [1, 2, 3] (fun _ => True) ∧
    OpsTie (fun _ => True) srcOps ∧
    ∃ s, Gen.ReaderCursor.new
        { metadata := { file_version := .formatV2, index_block_offset := 0, compression_type := .none,
                        entries_count := 0, index_levels := 0 },
          reader := { bytes := [1, 2, 3], pos := 0 } } = .ok s ∧ GoodRC (fun _ => True) [1, 2, 3] s :=
  ⟨smallBlocks_none _ (by decide), loadsQ_true _ _, opsTie_src _, _, rfl,
    (src_rc_new _ _ rfl).2.2.2.2.2.2.2 _ _ rfl (by decide)⟩

end Grenad.SrcTie
