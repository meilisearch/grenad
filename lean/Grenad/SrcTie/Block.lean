/-
  Grenad.SrcTie.Block — translator tie for `Block::payload` / `Block::entry_at` of src/block.rs,
  regenerated from /repo/src on every run.
-/
import Grenad.Generated.Src.SrcBlock
import Grenad.Model.Block
import Grenad.SrcTie.Varint

set_option linter.unusedSimpArgs false
set_option linter.unusedVariables false

namespace Grenad.SrcTie
open Grenad Grenad.R Grenad.Gen

/-- the translated block as the model's (payload, offset table) pair -/
def toBlock (b : Gen.Block) : Grenad.Block :=
  { payload := b.buffer.take b.payload_size, offsets := b.index_offsets }

theorem src_block_payload (b : Gen.Block) (hp : b.payload_size ≤ b.buffer.length) :
    Gen.Block.payload b = .ok (toBlock b).payload := by
  simp [Gen.Block.payload, sliceTo, hp, toBlock, bind, Except.bind, pure, Except.pure]

theorem decode32_bound (d : Bytes) (v n : Nat) (h : Varint.decode32 d = some (v, n)) : n ≤ 5 ∧ n ≤ d.length := by
  unfold Varint.decode32 at h
  cases d with
  | nil => simp at h
  | cons d0 t =>
    simp only [Option.some.injEq, Prod.mk.injEq] at h
    have := lengthPacked_le (List.take 5 (d0 :: t))
    simp only [List.length_take] at this
    omega

theorem ite_add_le (c : Prop) [Decidable c] (a x : Nat) : (if c then a + x else a) ≤ a + x := by
  split <;> omega

/-- each of the (at most) five digits adds less than its weight; the last one is cut to 32 bits -/
theorem decode32_lt (d : Bytes) (v n : Nat) (h : Varint.decode32 d = some (v, n)) : v < 2 ^ 32 := by
  unfold Varint.decode32 at h
  cases d with
  | nil => simp at h
  | cons d0 t =>
    simp only [Option.some.injEq, Prod.mk.injEq] at h
    rw [← h.1]
    generalize Varint.lengthPacked (List.take 5 (d0 :: t)) = len
    have b1 := ite_add_le (len > 1) (d0.toNat % 128) (((d0 :: t).getD 1 0).toNat % 128 * 2 ^ 7)
    generalize (if len > 1 then d0.toNat % 128 + ((d0 :: t).getD 1 0).toNat % 128 * 2 ^ 7
      else d0.toNat % 128) = v1 at b1 ⊢
    have b2 := ite_add_le (len > 2) v1 (((d0 :: t).getD 2 0).toNat % 128 * 2 ^ 14)
    generalize (if len > 2 then v1 + ((d0 :: t).getD 2 0).toNat % 128 * 2 ^ 14 else v1) = v2 at b2 ⊢
    have b3 := ite_add_le (len > 3) v2 (((d0 :: t).getD 3 0).toNat % 128 * 2 ^ 21)
    generalize (if len > 3 then v2 + ((d0 :: t).getD 3 0).toNat % 128 * 2 ^ 21 else v2) = v3 at b3 ⊢
    have b4 := ite_add_le (len > 4) v3 (((d0 :: t).getD 4 0).toNat * 2 ^ 28 % 2 ^ 32)
    generalize (if len > 4 then v3 + ((d0 :: t).getD 4 0).toNat * 2 ^ 28 % 2 ^ 32 else v3) = v4 at b4 ⊢
    omega

/-- `Block::entry_at` is the model's `Block.entryAt`: same entry and next offset whenever the model
    decodes one (always the case on blocks produced by a writer, `T-block`), `None` past the end, and a
    (clean, bounds-checked) panic at worst where the model has no answer. -/
theorem src_entry_at (b : Gen.Block) (start : Nat) (hp : b.payload_size ≤ b.buffer.length)
    (hl : b.buffer.length < 2 ^ 62) :
    match Grenad.Block.entryAt (toBlock b) start with
    | some r => Gen.Block.entry_at b start = .ok (some r)
    | none => Gen.Block.entry_at b start = .ok none ∨ ∃ msg, Gen.Block.entry_at b start = .error (.panic msg) := by
  unfold Gen.Block.entry_at Grenad.Block.entryAt
  simp only [bind, Except.bind, src_block_payload b hp]
  generalize hP : (toBlock b).payload = P
  have hPl : P.length < 2 ^ 62 := by
    rw [← hP]; simp [toBlock]; omega
  by_cases hs : P.length ≤ start
  · simp [hs, pure, Except.pure]
  · have hs' : ¬ start ≥ P.length := by omega
    simp only [hs, hs', decide_false, if_false, Bool.false_eq_true]
    have hsf : sliceFrom P start = .ok (P.drop start) := sliceFrom_ok (by omega)
    simp only [hsf, src_varint_decode32]
    cases hd1 : Varint.decode32 (P.drop start) with
    | none => simp
    | some r1 =>
      obtain ⟨klen, n1⟩ := r1
      have hb1 := decode32_bound _ _ _ hd1
      simp only [List.length_drop] at hb1
      have hadd1 : add 64 start n1 = .ok (start + n1) := add_ok (by omega)
      have hsf2 : sliceFrom P (start + n1) = .ok (P.drop (start + n1)) := sliceFrom_ok (by omega)
      simp only [pure, Except.pure, hadd1, hsf2, src_varint_decode32]
      cases hd2 : Varint.decode32 (P.drop (start + n1)) with
      | none => simp
      | some r2 =>
        obtain ⟨vlen, n2⟩ := r2
        have hb2 := decode32_bound _ _ _ hd2
        simp only [List.length_drop] at hb2
        have hk := decode32_lt _ _ _ hd1
        have hv := decode32_lt _ _ _ hd2
        have ha : ∀ x y, x < 2 ^ 63 → y < 2 ^ 63 → add 64 x y = .ok (x + y) :=
          fun x y hx hy => add_ok (by omega)
        simp only [ha (start + n1) n2 (by omega) (by omega), ha (start + n1 + n2) klen (by omega) (by omega), sliceRange_eq,
          ha (start + n1 + n2 + klen) vlen (by omega) (by omega), slice?]
        by_cases h1 : start + n1 + n2 + klen ≤ P.length
        · by_cases h2 : start + n1 + n2 + klen + vlen ≤ P.length
          · simp [h1, h2]
          · simp [h1, h2]
        · simp [h1]

end Grenad.SrcTie
