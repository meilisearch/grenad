/-
  Grenad.SrcTie.ReaderE2E — reader side, end to end, at the model level.

  `srcOps` (SrcTie/IndexCursorLoad.lean) are the in-block cursor operations exactly as the code regenerated from
  src/block.rs computes them: `prev` and `ge` run the standard library's binary-search loop.  On a block
  whose tables ascend strictly (`SortedBlock`) they are `byteOps`, and every block a reader can reach in a file the
  writer produced is writer-built, hence sorted.  Therefore the reader run with `srcOps`,

      srcReader cd file := RC.step srcOps (loadCursor cd file) true,

  satisfies on every file of an `Assembly.Setting` exactly what Props/C01.lean states for `byteOps`:
  it simulates the specification cursor (same relation `Assembly.RS`), never reports an error, and from every
  reachable state performs the same step as the `byteOps` reader (`srcReader_step_eq`, `srcReader_stateAfter_eq`).

  Route: `e2e_Rb_ops_src` (the simulation `S.byteSim.ops` restated for `srcOps`: `Rb` carries `BlockOf`, which gives
  `SortedBlock`, where `srcOps.apply = byteOps.apply`), then `ByteSim.step` and `RS_sim` of Proofs/Assembly.lean,
  which hold for any in-block operations that simulate `LC.ops` on `Rb`.
-/
import Grenad.Proofs.Assembly
import Grenad.Proofs.BinSearchBlock
import Grenad.SrcTie.IndexCursorLoad

set_option linter.unusedSimpArgs false
set_option linter.unusedVariables false

namespace Grenad.SrcTie
open Grenad Grenad.Assembly Grenad.TCursor Grenad.IterP

/-! ### `srcOps` on writer-built blocks -/

/-- Every cursor in the block relation of the assembly is over a writer-built, hence sorted, block: on it the
    operations as the code computes them are the specification-level ones. -/
theorem e2e_srcOps_apply_eq_of_Rb {iv : Nat} {log : List Emitted} {c : Grenad.BlockCursor} {l : LC}
    (h : Rb iv log c l) (m : Mov) : srcOps.apply m c = byteOps.apply m c := by
  obtain ⟨e, he, b, hb, hr⟩ := h
  refine srcOps_apply_eq m c ?_
  rw [hr.1]
  exact ⟨BinSearch.offsets_pairwise_of_blockOf hb, BinSearch.tableKeysAsc_of_blockOf hb⟩

/-- `srcOps` simulates the list cursor on the block relation of the assembly, exactly as `byteOps` does. -/
theorem e2e_Rb_ops_src (iv : Nat) (log : List Emitted) : OpsSim srcOps LC.ops (Rb iv log) where
  current := (Rb_ops iv log).current
  first := (Rb_ops iv log).first
  last := (Rb_ops iv log).last
  next := (Rb_ops iv log).next
  prev := by
    intro b b' h
    have e : srcOps.prev b = byteOps.prev b := e2e_srcOps_apply_eq_of_Rb h .prev
    rw [e]
    exact (Rb_ops iv log).prev b b' h
  ge := by
    intro b b' q h
    have e : srcOps.ge b q = byteOps.ge b q := e2e_srcOps_apply_eq_of_Rb h (.ge q)
    rw [e]
    exact (Rb_ops iv log).ge b b' q h

/-! ### related states are equal states -/

theorem e2e_blockOf_inj {iv : Nat} {es : List Entry} {b b' : Grenad.Block} (h : BlockOf iv es b)
    (h' : BlockOf iv es b') : b = b' := by
  obtain ⟨p, o⟩ := b
  obtain ⟨p', o'⟩ := b'
  have h1 := h.payload
  have h2 := h'.payload
  have h3 := h.offsets
  have h4 := h'.offsets
  simp only at h1 h2 h3 h4
  rw [h1, h2, h3, h4]

/-- The block relation determines the byte-level cursor. -/
theorem e2e_Rb_inj {iv : Nat} {log : List Emitted} {c c' : Grenad.BlockCursor} {l : LC}
    (h : Rb iv log c l) (h' : Rb iv log c' l) : c = c' := by
  obtain ⟨e, he, b, hb, hr⟩ := h
  obtain ⟨e', he', b', hb', hr'⟩ := h'
  obtain ⟨pos, rfl, rfl, -⟩ := hr.cases
  obtain ⟨pos', rfl, hl, -⟩ := hr'.cases
  simp only [LC.mk.injEq] at hl
  obtain ⟨hes, hpos⟩ := hl
  rw [← hes] at hb'
  rw [e2e_blockOf_inj hb hb', hes, hpos]

theorem e2e_LvlRel_inj {R : Grenad.BlockCursor → LC → Prop} (hR : ∀ c c' l, R c l → R c' l → c = c') :
    ∀ (x x' : List (Nat × Grenad.BlockCursor)) (y : List (Nat × LC)), LvlRel R x y → LvlRel R x' y → x = x'
  | [], [], [], _, _ => rfl
  | a :: x, a' :: x', b :: y, h, h' => by
    obtain ⟨o, c⟩ := a
    obtain ⟨o', c'⟩ := a'
    obtain ⟨h1, h2, h3⟩ := h
    obtain ⟨h1', h2', h3'⟩ := h'
    simp only at h1 h2 h1' h2'
    rw [h1, h1', hR _ _ _ h2 h2', e2e_LvlRel_inj hR x x' y h3 h3']
  | [], _ :: _, [], _, h' => h'.elim
  | _ :: _, _, [], h, _ => h.elim
  | [], _, _ :: _, h, _ => h.elim
  | _ :: _, [], _ :: _, _, h' => h'.elim

theorem e2e_OptRel_inj {α α' : Type} {R : α → α' → Prop} (hR : ∀ c c' l, R c l → R c' l → c = c')
    {x x' : Option α} {y : Option α'} (h : OptRel R x y) (h' : OptRel R x' y) : x = x' := by
  cases x <;> cases x' <;> cases y <;> simp at h h' ⊢
  exact hR _ _ _ h h'

/-- Two byte-level reader states related to the same abstract state are equal. -/
theorem e2e_RCRel_inj {R : Grenad.BlockCursor → LC → Prop} (hR : ∀ c c' l, R c l → R c' l → c = c')
    {c c' : RC Grenad.BlockCursor} {a : RC LC} (h : RCRel R c a) (h' : RCRel R c' a) : c = c' := by
  obtain ⟨b, lv, i, cu, lg⟩ := c
  obtain ⟨b', lv', i', cu', lg'⟩ := c'
  obtain ⟨h1, h2, h3, h4, h5⟩ := h
  obtain ⟨h1', h2', h3', h4', h5'⟩ := h'
  simp only at h1 h2 h3 h4 h5 h1' h2' h3' h4' h5'
  rw [h1, h1', h2, h2', h3, h3', e2e_OptRel_inj (e2e_LvlRel_inj hR) h4 h4', e2e_OptRel_inj hR h5 h5']

section
variable {s : Store} {load : Nat → Option Grenad.BlockCursor} {iv : Nat} {log : List Emitted}
  {root levels : Nat} {es : List Entry}

/-- From every state related to the specification cursor, the `srcOps` reader and the `byteOps` reader perform the
    same step: same new state, same result. -/
theorem e2e_RS_step_eq (h : FileOK s root levels es) (B : ByteSim s load (Rb iv log))
    {c : RC Grenad.BlockCursor} {p : Spec.Pos} (hR : RS s root levels es (Rb iv log) c p) (op : Op) :
    RC.step srcOps load true c op = RC.step byteOps load true c op := by
  obtain ⟨a, hrel, hinv, hne⟩ := hR
  obtain ⟨n1, n2⟩ := NE_step h hne op
  obtain ⟨b1, b2⟩ := B.step (e2e_Rb_ops_src iv log) hrel op n1
  obtain ⟨d1, d2⟩ := B.step B.ops hrel op n1
  have hinj : ∀ (c c' : Grenad.BlockCursor) (l : LC), Rb iv log c l → Rb iv log c' l → c = c' :=
    fun _ _ _ => e2e_Rb_inj
  exact Prod.ext (e2e_RCRel_inj hinj b1 d1) (b2.trans d2.symm)

end

/-- One public cursor call of the reader over `file` with the in-block operations as the translated code computes
    them (repaired code, `fixF1 = true`). -/
abbrev srcReader (cd : Codec) (file : Bytes) : RC Grenad.BlockCursor → Op → RC Grenad.BlockCursor × Res :=
  RC.step srcOps (loadCursor cd file) true

/-- The `byteOps` reader of Props/C01.lean. -/
abbrev e2eByteReader (cd : Codec) (file : Bytes) : RC Grenad.BlockCursor → Op → RC Grenad.BlockCursor × Res :=
  RC.step byteOps (loadCursor cd file) true

section
variable {cd : Codec} {cfg : WCfg} {es : List Entry} {file : Bytes} {log : List Emitted} {m : Meta.Meta}

/-- Everything the property theorems need (the analogue of `Setting.main`): the `srcOps` reader simulates the
    specification cursor from the freshly opened cursor, on a relation on which it coincides with the `byteOps`
    reader. -/
theorem srcReader_main (S : Setting cd cfg es file log) (hm : Meta.parse file = .ok m) :
    ∃ (R : RC Grenad.BlockCursor → Spec.Pos → Prop),
      Sim es (srcReader cd file) R ∧ R (RC.new m) .fresh ∧
      (∀ c p, R c p → ∀ op, srcReader cd file c op = e2eByteReader cd file c op) ∧
      (∀ c p, R c p → ∀ op, (srcReader cd file c op).2 ≠ .err) := by
  obtain ⟨root, hok, hparse⟩ := S.fileOK
  rw [hm] at hparse
  cases hparse
  refine ⟨RS (storeOf log) root cfg.levels es (Rb cfg.interval log), RS_sim hok S.byteSim (e2e_Rb_ops_src _ _),
    RS_new hok _ _ rfl rfl, fun c p hR op => e2e_RS_step_eq hok S.byteSim hR op, ?_⟩
  rintro c p ⟨a, hrel, hinv, hne⟩ op
  rw [(S.byteSim.step (e2e_Rb_ops_src _ _) hrel op (NE_step hok hne op).1).2]
  exact (NE_step hok hne op).1

/-- **C01/C03 for the operations as the code computes them, every history.**  For every finite list of cursor
    operations, the results of the `srcOps` reader over the written file agree with the specification cursor over
    the inserted entries wherever the latter determines the result. -/
theorem srcReader_history (S : Setting cd cfg es file log) (hm : Meta.parse file = .ok m) (ops : List Op) :
    ∀ x ∈ runBothG (srcReader cd file) es (RC.new m) .fresh ops, Spec.Agree x.1 x.2 := by
  obtain ⟨R, hsim, hR, -⟩ := srcReader_main S hm
  exact runBothG_agree hsim hR ops

/-- The `srcOps` reader never reports an error on a written file, whatever the history. -/
theorem srcReader_never_err (S : Setting cd cfg es file log) (hm : Meta.parse file = .ok m)
    (ops : List Op) (op : Op) :
    (srcReader cd file (stateAfter (srcReader cd file) (RC.new m) ops) op).2 ≠ .err := by
  obtain ⟨R, hsim, hR, -, hne⟩ := srcReader_main S hm
  exact hne _ _ (stateAfter_R hsim hR ops) op

/-- After every history the `srcOps` reader and the `byteOps` reader are in the same state. -/
theorem srcReader_stateAfter_eq (S : Setting cd cfg es file log) (hm : Meta.parse file = .ok m)
    (ops : List Op) :
    stateAfter (srcReader cd file) (RC.new m) ops = stateAfter (e2eByteReader cd file) (RC.new m) ops := by
  obtain ⟨R, hsim, hR, heq, -⟩ := srcReader_main S hm
  exact stateAfter_congr hsim heq ops _ _ hR

/-- ... and the next call returns the same state and the same result on both. -/
theorem srcReader_step_eq (S : Setting cd cfg es file log) (hm : Meta.parse file = .ok m)
    (ops : List Op) (op : Op) :
    srcReader cd file (stateAfter (srcReader cd file) (RC.new m) ops) op =
      e2eByteReader cd file (stateAfter (e2eByteReader cd file) (RC.new m) ops) op := by
  obtain ⟨R, hsim, hR, heq, -⟩ := srcReader_main S hm
  rw [← srcReader_stateAfter_eq S hm ops]
  exact heq _ _ (stateAfter_R hsim hR ops) op

/-- After any history, `ge q` returns the ceiling of `q`, `le q` its floor, `eq q` the entry with key `q`, if any. -/
theorem srcReader_ge_after (S : Setting cd cfg es file log) (hm : Meta.parse file = .ok m)
    (ops : List Op) (q : Bytes) :
    (srcReader cd file (stateAfter (srcReader cd file) (RC.new m) ops) (.ge q)).2
      = .ok (Spec.ceiling es q) := by
  obtain ⟨R, hsim, hR, -⟩ := srcReader_main S hm
  exact sim_ge hsim (stateAfter_R hsim hR ops) q

theorem srcReader_le_after (S : Setting cd cfg es file log) (hm : Meta.parse file = .ok m)
    (ops : List Op) (q : Bytes) :
    (srcReader cd file (stateAfter (srcReader cd file) (RC.new m) ops) (.le q)).2
      = .ok (Spec.floor es q) := by
  obtain ⟨R, hsim, hR, -⟩ := srcReader_main S hm
  exact sim_le hsim S.H.asc (stateAfter_R hsim hR ops) q

theorem srcReader_eq_after (S : Setting cd cfg es file log) (hm : Meta.parse file = .ok m)
    (ops : List Op) (q : Bytes) :
    (srcReader cd file (stateAfter (srcReader cd file) (RC.new m) ops) (.eq q)).2
      = .ok (Spec.lookup es q) := by
  obtain ⟨R, hsim, hR, -⟩ := srcReader_main S hm
  exact sim_eq hsim S.H.asc (stateAfter_R hsim hR ops) q

/-- `ge q` from the freshly opened cursor returns the ceiling of `q`. -/
theorem srcReader_ge (S : Setting cd cfg es file log) (hm : Meta.parse file = .ok m) (q : Bytes) :
    (srcReader cd file (RC.new m) (.ge q)).2 = .ok (Spec.ceiling es q) :=
  srcReader_ge_after S hm [] q

/-- `le q` from the freshly opened cursor returns the floor of `q`. -/
theorem srcReader_le (S : Setting cd cfg es file log) (hm : Meta.parse file = .ok m) (q : Bytes) :
    (srcReader cd file (RC.new m) (.le q)).2 = .ok (Spec.floor es q) :=
  srcReader_le_after S hm [] q

/-- `eq q` from the freshly opened cursor returns the entry with key `q`, if any. -/
theorem srcReader_eq (S : Setting cd cfg es file log) (hm : Meta.parse file = .ok m) (q : Bytes) :
    (srcReader cd file (RC.new m) (.eq q)).2 = .ok (Spec.lookup es q) :=
  srcReader_eq_after S hm [] q

/-- `next()` × `(n+1)` from the freshly opened cursor returns exactly the inserted pairs in insertion order and then
    `None`; `prev()` × `(n+1)` returns them in reverse order and then `None`. -/
theorem srcReader_roundtrip (S : Setting cd cfg es file log) (hm : Meta.parse file = .ok m) :
    scan (srcReader cd file) .next (es.length + 1) (RC.new m) =
      es.map (fun e => Res.ok (some e)) ++ [Res.ok none] ∧
    scan (srcReader cd file) .prev (es.length + 1) (RC.new m) =
      es.reverse.map (fun e => Res.ok (some e)) ++ [Res.ok none] := by
  obtain ⟨R, hsim, hR, -⟩ := srcReader_main S hm
  exact ⟨scan_next hsim hR, scan_prev hsim hR⟩

end

end Grenad.SrcTie

section Audit
open Grenad.SrcTie
#print axioms srcReader_main
#print axioms srcReader_history
#print axioms srcReader_never_err
#print axioms srcReader_stateAfter_eq
#print axioms srcReader_step_eq
#print axioms srcReader_ge
#print axioms srcReader_le
#print axioms srcReader_eq
#print axioms srcReader_ge_after
#print axioms srcReader_le_after
#print axioms srcReader_eq_after
#print axioms srcReader_roundtrip
end Audit
