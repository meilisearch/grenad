/-
  Grenad.SrcTie.WriterLemmas — translator tie for `Writer::insert` / `Writer::into_inner` of src/writer.rs
  (regenerated from /repo/src on every run): the translated `BlockWriter` operations against the
  model's `BW` with the `usize` bounds carried along, and the relation between the list of index block
  writers and the model's.
-/
import Grenad.Generated.Src.SrcWriter
import Grenad.SrcTie.WriterBlock
import Grenad.Model.Writer
import Grenad.Proofs.WriterInvBW

set_option linter.unusedSimpArgs false
set_option linter.unusedVariables false

namespace Grenad.SrcTie
open Grenad Grenad.R Grenad.Gen

abbrev CompressFn := CompressionType → Nat → List UInt8 → Option (List UInt8)

/-- the external compressor of a model codec (total: grenad's `compress` fails only on I/O) -/
def codecFn (cd : Codec) : CompressFn := fun _ _ b => some (cd.compress b)

/-- `x` is the model block writer `bw` up to the ghost item list -/
def mBW (x : Gen.BlockWriter) (bw : BW) : Prop := toBW x bw.items = bw

theorem mBW_of_toBW {x : Gen.BlockWriter} {bw : BW} {l : List Entry} (h : toBW x l = bw) : mBW x bw := by
  subst h; rfl

/-- size bounds under which none of the translated operations overflows (`B`: buffer, `O`: offset table) -/
structure Small (B O : Nat) (x : Gen.BlockWriter) : Prop where
  cnt : x.index_key_counter ≤ x.index_key_interval
  iv1 : 1 ≤ x.index_key_interval
  iv : x.index_key_interval < 2 ^ 64
  buf : x.buffer.length < B
  offs : x.index_offsets.length < O

theorem Small.mono {B O B' O' : Nat} {x : Gen.BlockWriter} (h : Small B O x) (hB : B ≤ B') (hO : O ≤ O') :
    Small B' O' x :=
  ⟨h.cnt, h.iv1, h.iv, Nat.lt_of_lt_of_le h.buf hB, Nat.lt_of_lt_of_le h.offs hO⟩

theorem bw_counter_insert {p w : BW} {k v : Bytes} (h : p.insert k v = .ok w) :
    w.counter = (if p.counter = p.interval then 0 else p.counter) + 1 := by
  obtain ⟨_, _, _, rfl⟩ := (BW.insert_ok_iff p w k v).mp h
  rfl

/-- the fields of a translated block writer are those of the model writer it stands for -/
theorem mBW.fields {x : Gen.BlockWriter} {bw : BW} (h : mBW x bw) :
    x.buffer = bw.buffer ∧ x.index_key_interval = bw.interval ∧ x.index_offsets = bw.offsets ∧
      x.index_key_counter = bw.counter := by
  rw [← h]; exact ⟨rfl, rfl, rfl, rfl⟩

/-- `BlockWriter::insert` against `BW.insert`, with the bounds carried along. -/
theorem bw_insert_sim (x : Gen.BlockWriter) (bw : BW) (k v : Bytes) (hm : mBW x bw)
    (hs : Small (2 ^ 61) (2 ^ 30) x) :
    match BW.insert bw k v with
    | .ok bw' => ∃ x', BlockWriter.insert x k v = .ok x' ∧ mBW x' bw' ∧ Small (2 ^ 62) (2 ^ 31) x'
    | .error _ => ∃ msg, BlockWriter.insert x k v = .error (.panic msg) := by
  have h := src_bw_insert x bw.items k v hs.cnt hs.iv
  rw [hm] at h
  cases hins : BW.insert bw k v with
  | error t => rw [hins] at h; exact h
  | ok bw' =>
    rw [hins] at h
    obtain ⟨x', h1, h2⟩ := h
    refine ⟨x', h1, mBW_of_toBW h2, ?_⟩
    obtain ⟨hk, hv, _, hbuf, _, _, hiv, hoff⟩ := BW.insert_ok hins
    have hc := bw_counter_insert hins
    obtain ⟨e1, e2, e3, e4⟩ := (mBW_of_toBW h2).fields
    obtain ⟨f1, f2, f3, f4⟩ := hm.fields
    have hfl := frame_length k v
    have hl1 := (encode32_length_bounds k.length).2
    have hl2 := (encode32_length_bounds v.length).2
    refine ⟨?_, ?_, ?_, ?_, ?_⟩
    · rw [e4, e2, hc, hiv, ← f2, ← f4]
      split
      · rw [Nat.zero_add]; exact hs.iv1
      · rename_i hne; exact Nat.lt_of_le_of_ne hs.cnt hne
    · rw [e2, hiv, ← f2]; exact hs.iv1
    · rw [e2, hiv, ← f2]; exact hs.iv
    · -- a buffer below 2^61 bytes stays below 2^62 after one more frame
      have hb := hs.buf
      have hu : u32Max = 4294967295 := rfl
      rw [e1, hbuf, ← f1, List.length_append, hfl]; omega
    · rw [e3]
      rcases hoff with h | h
      · rw [h, ← f3]; exact Nat.lt_trans hs.offs (by decide)
      · rw [h, ← f3, List.length_append, List.length_singleton]
        exact Nat.lt_of_le_of_lt (Nat.succ_le_of_lt hs.offs) (by decide)


theorem bw_size_sim (x : Gen.BlockWriter) (bw : BW) (hm : mBW x bw) (hs : Small (2 ^ 62) (2 ^ 31) x) :
    BlockWriter.current_size_estimate x = .ok bw.sizeEstimate := by
  have h1 := hs.buf; have h2 := hs.offs
  have h := src_bw_size_estimate x bw.items (by omega)
  rw [hm] at h; exact h

theorem bw_last_key_sim (x : Gen.BlockWriter) (bw : BW) (hm : mBW x bw) :
    BlockWriter.last_key_fn x = .ok bw.lastKey := by
  rw [← hm]; rfl

/-- `compress_and_write_block` against the model: the framed block is appended, the writer comes back reset.
    The only place the bound on the compressor's output is used, and only on the finished block (shorter than
    2^63 bytes by `Small`): hence `hcd` is restricted to such inputs — the unrestricted form
    `∀ b, (cd.compress b).length < 2^64` contradicts `cd.Lawful` (an injective `compress` cannot map all byte
    strings into those shorter than 2^64). -/
theorem bw_emit_sim (cd : Codec) (hcd : ∀ b : Bytes, b.length < 2 ^ 63 → (cd.compress b).length < 2 ^ 64) (out : Bytes)
    (x : Gen.BlockWriter) (bw : BW) (ct : CompressionType) (lvl : Nat) (hm : mBW x bw)
    (hs : Small (2 ^ 62) (2 ^ 31) x) :
    ∃ x', Gen.compress_and_write_block (codecFn cd) out x ct lvl = .ok (out ++ W.blockBytes cd bw.finish, x')
      ∧ mBW x' bw.reset := by
  have h2 := hs.offs
  have hfin : (BW.finish (toBW x bw.items)).length < 2 ^ 63 := by
    have hb := hs.buf
    rw [BW.finish_length]
    simp only [BW.sizeEstimate, toBW]
    omega
  obtain ⟨x', h1, h3⟩ := src_compress_and_write_block cd out x bw.items ct lvl (by omega) (hcd _ hfin)
  rw [hm] at h1 h3
  exact ⟨x', h1, mBW_of_toBW h3⟩

def mIdx (xs : List Gen.BlockWriter) (bs : List BW) : Prop :=
  xs.length = bs.length ∧ ∀ i (h1 : i < xs.length) (h2 : i < bs.length), mBW xs[i] bs[i]

theorem mIdx.set {xs : List Gen.BlockWriter} {bs : List BW} (h : mIdx xs bs) (j : Nat) {x : Gen.BlockWriter} {b : BW}
    (hx : mBW x b) : mIdx (xs.set j x) (bs.set j b) := by
  refine ⟨by simp [h.1], ?_⟩
  intro i h1 h2
  simp only [List.length_set] at h1 h2
  by_cases hij : j = i
  · subst hij; simpa using hx
  · simp only [List.getElem_set_ne hij]
    exact h.2 i h1 h2

theorem mIdx.get {xs : List Gen.BlockWriter} {bs : List BW} (h : mIdx xs bs) {j : Nat} (hj : j < bs.length) :
    ∃ b, bs[j]? = some b ∧ mBW xs[j]! b := by
  have hj' : j < xs.length := by rw [h.1]; exact hj
  refine ⟨bs[j], by simp [hj], ?_⟩
  rw [getElem!_pos xs j hj']
  exact h.2 j hj' hj

theorem get!_set_ne (xs : List Gen.BlockWriter) (i j : Nat) (x : Gen.BlockWriter) (h : i ≠ j) :
    (xs.set i x)[j]! = xs[j]! := by
  by_cases hj : j < xs.length
  · have h1 : j < (xs.set i x).length := by simpa using hj
    rw [getElem!_pos _ j h1, getElem!_pos _ j hj, List.getElem_set_ne h]
  · have h1 : ¬ j < (xs.set i x).length := by simpa using hj
    simp [hj, h1]

theorem get!_set_eq (xs : List Gen.BlockWriter) (i : Nat) (x : Gen.BlockWriter) (h : i < xs.length) :
    (xs.set i x)[i]! = x := by
  have h1 : i < (xs.set i x).length := by simpa using h
  rw [getElem!_pos _ i h1]; simp

end Grenad.SrcTie
