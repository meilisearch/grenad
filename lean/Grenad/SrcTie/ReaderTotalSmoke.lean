/-
  Grenad.SrcTie.ReaderTotalSmoke — non-vacuity of the total-correctness theorems of ReaderTotal.lean: all their
  hypotheses hold on the concrete written file `Props.C01.exFile` (twelve entries, `Codec.none`, two index levels,
  `Props.C01.exSetting`), for every history, without evaluating it.
-/
import Grenad.SrcTie.ReaderTotal
import Grenad.SrcTie.ReaderE2ESmoke

namespace Grenad.SrcTie.RTSmoke
open Grenad Grenad.R Grenad.Gen Grenad.SrcTie Grenad.Props.C01 Grenad.Assembly Grenad.SrcTie.E2ESmoke

/-- every history on the regenerated code over `exFile` returns and agrees with the specification -/
example (hist : List Op) :
    ∃ rdr s0 rs s', Gen.Reader.new { bytes := exFile, pos := 0 } = .ok rdr ∧
      Gen.Reader.into_cursor rdr = .ok s0 ∧ genRcRun Codec.none s0 hist = .ok (rs, s') ∧
      rs.length = hist.length ∧
      (∀ x ∈ (rs.map Res.ok).zip (e2eSpecRun exEs .fresh hist), Spec.Agree x.1 x.2) ∧
      rdr.metadata.entries_count = exEs.length :=
  src_C03_history_open_total exSetting small 0 hist

/-- the hypotheses of `src_reader_total` / `src_C03_history_total` are satisfiable: the cursor `Reader::new` +
    `into_cursor` give on `exFile` -/
example (hist : List Op) : ∃ (m : Meta.Meta) (s0 : Gen.ReaderCursor), Meta.parse exFile = .ok m ∧
    GoodRC (fun _ => True) exFile s0 ∧ toRCfull s0 [] = RC.new m ∧
    ∃ rs s', genRcRun Codec.none s0 hist = .ok (rs, s') ∧ rs.length = hist.length ∧
      ∀ x ∈ (rs.map Res.ok).zip (e2eSpecRun exEs .fresh hist), Spec.Agree x.1 x.2 := by
  obtain ⟨rdr, s0, m, -, -, hparse, hg, h0, -⟩ := e2e_open exSetting 0
  exact ⟨m, s0, hparse, hg, h0, src_C03_history_total exSetting hparse small s0 hg h0 hist⟩

end Grenad.SrcTie.RTSmoke
