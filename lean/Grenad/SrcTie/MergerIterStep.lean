/-
  Grenad.SrcTie.MergerIterStep — translator tie for the k-way merger of src/merger.rs, part 3:
  `Merger::into_stream_merger_iter` against `Merger.start` (`src_merger_start`) and one call of
  `MergerIter::next` against `Merger.next` (`src_merger_next`), over list cursors (`LCur`, `lstep`).
-/
import Grenad.SrcTie.MergerIterNext

set_option linter.unusedSimpArgs false
set_option linter.unusedVariables false

namespace Grenad.SrcTie
open Grenad Grenad.R Grenad.Gen Grenad.Wave3

/-- the bytes a `Cow` carries -/
def cowBytes : Cow → List UInt8
  | .owned b => b
  | .borrowed b => b

/-- One call of the translated `MergerIter::next` against one `Merger.next` of the model (both outcomes
    of the model in one statement). -/
theorem next_sim (mf : MergeFn) (merge : List UInt8 → List (List UInt8) → Except Unit Cow)
    (hm : ∀ k vs, (merge k vs).toOption.map cowBytes = mf k vs)
    (it : Gen.MergerIter LCur) (m : Merger)
    (hl : AllLive it.heap) (hp : (it.heap.map absE).Perm m.heap) (hne : KeyIdxNe m.heap) :
    match Merger.next mf m with
    | (m', .ok r) => ∃ it', Gen.MergerIter.next lstep merge it = .ok (r, it') ∧ AllLive it'.heap ∧
        (it'.heap.map absE).Perm m'.heap ∧ (r = none → it' = it) ∧
        (∀ k v, r = some (k, v) → it'.current_key = k ∧ it'.merged_value = v ∧ it'.tmp_entries = [])
    | (m', .mergeErr) => Gen.MergerIter.next lstep merge it = .error (Fail.err RErr.merge) := by
  rw [mergerIter_next_eq]
  rcases pop_sim it.heap m.heap hp hne with ⟨e1, e2⟩ | ⟨i, e, h1, e1, e2, hperm, hp1, hne1⟩
  · rw [Merger.next_of_empty mf e2]
    refine ⟨it, ?_, hl, hp, fun _ => rfl, fun k v h => by cases h⟩
    simp only [heapPopM_live _ hl, e1, bind, Except.bind, pure, Except.pure]
  · have hle : Live e := hl e (hperm.symm.subset List.mem_cons_self)
    have hl1 : AllLive (it.heap.eraseIdx i) := hl.sublist (List.eraseIdx_sublist _ _)
    have hlen : (it.heap.eraseIdx i).length = h1.length := by
      have := hp1.length_eq; simpa using this
    obtain ⟨T, H2, g1, g2, g3, g4, g5⟩ := peek_loop_sim (absE e).key (List.range' 0 (h1.length + 1))
      { it with heap := it.heap.eraseIdx i, tmp_entries := [] } h1 [] hl1 hp1 hne1
      (by simp only [List.length_range']; omega)
    simp only [List.length_range'] at g2 g3
    cases hps : popSame (absE e).key (h1.length + 1) h1 [] with
    | mk S h2 =>
      rw [Merger.next_of_round mf e2 hps]
      rw [hps] at g2 g3
      simp only [List.reverse_nil, List.nil_append] at g2 g3
      subst g2
      simp only [heapPopM_live _ hl, e1, bind, Except.bind, pure, Except.pure, lstep_current_live hle,
        liftCur, nextMerge, hlen, g1, Bool.not_true, Bool.false_eq_true, if_false, List.nil_append]
      rw [filterMapM_live T g4]
      have hvals : [(absE e).val] ++ List.map (fun e => (absE e).val) T =
          (absE e).val :: List.map MSrc.val (List.map absE T) := by
        simp [List.map_map, Function.comp_def]
      simp only [hvals]
      have hmk := hm (absE e).key ((absE e).val :: List.map MSrc.val (List.map absE T))
      generalize (absE e).val :: List.map MSrc.val (List.map absE T) = vs at hmk ⊢
      have hfresh : ∀ x ∈ [e] ++ T, x.cursor.fresh = false := by
        intro x hx
        rcases List.mem_append.mp hx with hx | hx
        · rw [List.mem_singleton.mp hx]; exact hle.1
        · exact (g4 x hx).1
      cases hmr : merge (absE e).key vs with
      | error u =>
        rw [hmr] at hmk
        simp only [Except.toOption, Option.map_none] at hmk
        rw [← hmk]
        rfl
      | ok cow =>
        rw [hmr] at hmk
        simp only [Except.toOption, Option.map_some] at hmk
        rw [← hmk]
        cases cow with
        | owned b | borrowed b =>
          simp only []
          rw [adv_loop _ _ hfresh]
          refine ⟨_, rfl, AllLive.append.mpr ⟨g5, filterMap_advE_live _⟩, ?_, (fun h => by cases h), ?_⟩
          · simp only [List.map_append, filterMap_advE_abs, List.singleton_append, List.map_cons]
            refine List.Perm.trans ?_ (foldl_advance_perm _ h2).symm
            exact List.perm_append_comm.trans (g3.append_left _)
          · intro k v h
            simp only [Option.some.injEq, Prod.mk.injEq] at h
            obtain ⟨rfl, rfl⟩ := h
            exact ⟨rfl, rfl, rfl⟩

/-- **src_merger_next.**  `merge` is the user's merge function as the translated code calls it, `mf` the
    same function as the model calls it.  The translated iterator `it` (any `current_key`,
    `merged_value`, `tmp_entries`) holds live entries whose abstraction is the model heap in some order;
    the model heap has pairwise distinct `(key, idx)` pairs.  Then:
    * when the model returns `.ok r`, the translated code returns `Ok(r)` — never a panic, in particular
      the fuel `heap.len() + 1` of the `while let` loop suffices — and the new iterator again holds live
      entries abstracting to the new model heap in some order; `r = None` leaves the iterator
      untouched, `r = Some((k, v))` leaves `k`, `v` in `current_key`, `merged_value` and an empty
      `tmp_entries`; pairwise distinct source indices (the inductive form of the invariant, which
      implies distinct `(key, idx)` pairs) are preserved;
    * when the model returns `.mergeErr`, the translated code returns `Err(Error::Merge(_))`. -/
theorem src_merger_next (mf : MergeFn) (merge : List UInt8 → List (List UInt8) → Except Unit Cow)
    (hm : ∀ k vs, (merge k vs).toOption.map cowBytes = mf k vs)
    (it : Gen.MergerIter LCur) (m : Merger)
    (hl : AllLive it.heap) (hp : (it.heap.map absE).Perm m.heap)
    (hne : m.heap.Pairwise (fun a b => (a.key, a.idx) ≠ (b.key, b.idx))) :
    (∀ m' r, Merger.next mf m = (m', .ok r) →
      ∃ it', Gen.MergerIter.next lstep merge it = .ok (r, it') ∧
        AllLive it'.heap ∧ (it'.heap.map absE).Perm m'.heap ∧
        (IdxNe m.heap → IdxNe m'.heap) ∧
        (r = none → it' = it) ∧
        (∀ k v, r = some (k, v) →
          it'.current_key = k ∧ it'.merged_value = v ∧ it'.tmp_entries = [])) ∧
    (∀ m', Merger.next mf m = (m', .mergeErr) →
      Gen.MergerIter.next lstep merge it = .error (Fail.err RErr.merge)) := by
  have h := next_sim mf merge hm it m hl hp ((keyIdxNe_iff _).mpr hne)
  constructor
  · intro m' r hn
    rw [hn] at h
    obtain ⟨it', h1, h2, h3, h4, h5⟩ := h
    refine ⟨it', h1, h2, h3, ?_, h4, h5⟩
    intro hi
    have := next_idxNe mf m hi
    rw [hn] at this
    exact this
  · intro m' hn
    rw [hn] at h
    exact h

/-- The model's `(key, idx)`-distinctness follows from distinct source indices, which every run keeps
    (`next_idxNe`, `start_idxNe`); by itself it is not inductive: two heads with the same index and
    different keys may meet on a common later key. -/
example : ∃ m : Merger, KeyIdxNe m.heap ∧
    ¬ KeyIdxNe (Merger.next (fun _ vs => some vs.flatten)
      (Merger.next (fun _ vs => some vs.flatten) m).1).1.heap := by
  refine ⟨⟨[⟨0, [([1], []), ([3], [])]⟩, ⟨0, [([2], []), ([3], [])]⟩], []⟩, ?_, ?_⟩
  · unfold KeyIdxNe; decide
  · unfold KeyIdxNe; decide

/-! ### `Merger::into_stream_merger_iter` -/

/-- a model heap entry as an entry of the translated heap (un-fresh cursor on the head of `rest`) -/
def toE (s : MSrc) : Gen.Entry LCur :=
  { cursor := { fresh := false, rest := s.rest }, source_index := s.idx }

theorem start_loop
    (f : LCur × Nat → List (Gen.Entry LCur) → M (ForInStep (List (Gen.Entry LCur))))
    (hf : ∀ (l : List Entry) (i : Nat) (heap : List (Gen.Entry LCur)),
      f ({ fresh := true, rest := l }, i) heap = .ok (.yield (match l with
        | [] => heap
        | _ :: _ => heap ++ [toE { idx := i, rest := l }]))) :
    ∀ (srcs : List (List Entry)) (n : Nat) (heap : List (Gen.Entry LCur)),
      forIn ((srcs.map (fun l => ({ fresh := true, rest := l } : LCur))).zipIdx n) heap f =
        .ok (heap ++ (Merger.start.go n srcs).map toE) := by
  intro srcs
  induction srcs with
  | nil => intro n heap; simp [Merger.start.go]; rfl
  | cons s srcs ih =>
    intro n heap
    simp only [List.map_cons, List.zipIdx_cons, List.forIn_cons, hf, bind, Except.bind]
    rw [ih]
    cases s with
    | nil => simp
    | cons e r => simp

theorem start_go_live (srcs : List (List Entry)) (n : Nat) :
    AllLive ((Merger.start.go n srcs).map toE) := by
  intro e he
  obtain ⟨s, hs, rfl⟩ := List.mem_map.mp he
  obtain ⟨x, r, h1, _⟩ := mem_tag hs
  exact ⟨rfl, by simp [toE, h1]⟩

/-- **src_merger_start.**  `into_stream_merger_iter` over fresh list cursors: the heap holds, in the
    order of `Merger.start`, exactly the entries of the model's initial heap (empty sources dropped,
    every cursor moved onto its first entry), and the three buffers are empty. -/
theorem src_merger_start (srcs : List (List Entry)) :
    ∃ it, Gen.Merger.into_stream_merger_iter lstep
        { sources := srcs.map (fun l => ({ fresh := true, rest := l } : LCur)) } = .ok it ∧
      it.heap.map absE = (Merger.start srcs).heap ∧
      it.current_key = [] ∧ it.merged_value = [] ∧ it.tmp_entries = [] ∧ AllLive it.heap := by
  unfold Gen.Merger.into_stream_merger_iter
  simp only [bind, Except.bind, pure, Except.pure]
  rw [start_loop _ ?hf]
  case hf =>
    intro l i heap
    cases l with
    | nil => rfl
    | cons e r => rfl
  refine ⟨_, rfl, ?_, rfl, rfl, rfl, ?_⟩
  · simp only [List.nil_append, List.map_map]
    rw [start_heap]
    exact (List.map_congr_left (fun _ _ => rfl)).trans (List.map_id _)
  · simp only [List.nil_append]
    exact start_go_live srcs 0

end Grenad.SrcTie
