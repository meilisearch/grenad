/-
  Grenad.SrcTie.SorterInsert — translator tie for the control flow of `Sorter::insert` (src/sorter.rs,
  regenerated from /repo/src on every run as `Gen.Sorter.insert`).  The three methods it calls are
  parameters here, with types read off their signatures: `Sorter::write_chunk` (chunk creator, writer,
  sort) and `Sorter::merge_chunks` (the merger over chunk readers) are outside the translator's subset;
  `Entries::insert` is regenerated and tied in EntriesInsert.lean, which instantiates the parameter.
  `src_sorter_insert` proves: if the three parameters implement the model's three parts
  (`Entries.insert`, `Sorter.writeChunk`, `Sorter.mergeChunks`) on related states, then the regenerated
  body of `Sorter::insert` is the model's `Sorter.insert` — same spill decision, the spill BEFORE the
  insert, the chunk merge AFTER it, the merge test on the chunk count after the spill against
  `max_nb_chunks`, `Err(Error::Merge)` propagated by `?`, a panic exactly where the model traps.

  `chunks_total_size` is not part of the model (it only feeds `estimated_…` getters); the generated code
  does `self.chunks_total_size += self.write_chunk()?` with the overflow-checked `u64` addition, hence the
  explicit size hypotheses `s.chunks_total_size < 2^63` and `n < 2^63` on the byte count `write_chunk`
  returns (a chunk file of ≥ 2^63 bytes cannot exist: file offsets are `i64`), and
  `self.chunks_total_size = self.merge_chunks()?` replaces it (no arithmetic).
-/
import Grenad.SrcTie.Sorter
import Grenad.SrcTie.Prim
import Grenad.Proofs.SorterRun

set_option linter.unusedSimpArgs false
set_option linter.unusedVariables false

namespace Grenad.SrcTie
open Grenad Grenad.R Grenad.Gen

/-- The translated sorter `s` and the model sorter `ms` agree on everything `Sorter::insert` reads:
    the buffer bookkeeping (`toEntries` fixes `live := true`: the allocation exists), the three
    configuration values and the number of chunks.  The model's `events` / `calls` / chunk contents are
    ghost; `chunks_total_size` has no model counterpart. -/
def RelS (s : Gen.Sorter) (ms : Grenad.Sorter) : Prop :=
  toEntries s.entries ms.entries.items = ms.entries ∧ s.dump_threshold = ms.cfg.budget ∧
  s.allow_realloc = ms.cfg.allowRealloc ∧ s.max_nb_chunks = ms.cfg.maxNb ∧
  s.chunks.length = ms.chunks.length

/-- `Gen.Sorter.insert` with its `do`-block (mutable `self_`, join points) unfolded to plain matches,
    once the value of `self.entries.fits(key, val)` is known. -/
theorem si_gen_insert_unfold
    (extIns : Gen.Entries → List UInt8 → List UInt8 → M Gen.Entries)
    (extWc extMc : Gen.Sorter → M (Nat × Gen.Sorter))
    (s : Gen.Sorter) (k v : Bytes) (fit : Bool)
    (hf : Gen.Entries.fits s.entries k v = .ok fit) :
    Gen.Sorter.insert extIns extWc extMc s k v =
      if (fit || (!decide (s.entries.buffer.len ≥ s.dump_threshold) && s.allow_realloc)) then
        (match extIns s.entries k v with
         | .ok m => .ok { s with entries := m }
         | .error e => .error e)
      else
        (match extWc s with
         | .error e => .error e
         | .ok (n, s1) =>
           match add 64 s1.chunks_total_size n with
           | .error e => .error e
           | .ok tot =>
             match extIns s1.entries k v with
             | .error e => .error e
             | .ok m =>
               let s2 : Gen.Sorter := { s1 with chunks_total_size := tot, entries := m }
               if s2.max_nb_chunks ≤ s2.chunks.length then
                 match extMc s2 with
                 | .error e => .error e
                 | .ok (r, s3) => .ok { s3 with chunks_total_size := r }
               else .ok s2) := by
  unfold Gen.Sorter.insert
  simp only [hf, src_threshold_exceeded, bind, Except.bind, pure, Except.pure]
  cases fit
  · simp
    split
    · cases extIns s.entries k v <;> rfl
    · cases extWc s with
      | error e => rfl
      | ok p =>
        obtain ⟨n, s1⟩ := p
        simp only
        cases add 64 s1.chunks_total_size n with
        | error e => rfl
        | ok tot =>
          simp only
          cases extIns s1.entries k v with
          | error e => rfl
          | ok m =>
            simp only
            split
            · generalize extMc _ = r
              cases r with
              | error e => rfl
              | ok p => obtain ⟨r, s3⟩ := p; rfl
            · rfl
  · simp
    cases extIns s.entries k v <;> rfl

theorem ei_rel_bufLen (s : Gen.Sorter) (ms : Grenad.Sorter) (hR : RelS s ms) :
    s.entries.buffer.len = ms.entries.bufLen := by
  rw [← hR.1]; rfl

/-- **`Sorter::insert` on regenerated code is the model's `Sorter.insert`**, relative to the three
    external methods and to the tie of the one `fits` call (`hf`).  `B` is any property of the buffer
    length that `Entries::insert` is asked to preserve (`fun _ => True`, or "is a `usize`"): `write_chunk`
    and `merge_chunks` do not change the length, so `B` holds again of the result. -/
theorem sorter_insert_core (mf : MergeFn) (B : Nat → Prop)
    (extIns : Gen.Entries → List UInt8 → List UInt8 → M Gen.Entries)
    (extWc extMc : Gen.Sorter → M (Nat × Gen.Sorter))
    (k v : Bytes)
    (hIns : ∀ (ge : Gen.Entries) (me : Grenad.Entries), toEntries ge me.items = me →
      B ge.buffer.len →
      match me.insert k v 64 with
      | .ok (e', _) => ∃ ge', extIns ge k v = .ok ge' ∧ toEntries ge' e'.items = e' ∧
          B ge'.buffer.len
      | .error _ => ∃ msg, extIns ge k v = .error (.panic msg))
    (hWc : ∀ (s : Gen.Sorter) (ms : Grenad.Sorter), RelS s ms →
      match Grenad.Sorter.writeChunk mf ms with
      | .ok ms' => ∃ n s', extWc s = .ok (n, s') ∧ RelS s' ms' ∧
          s'.chunks_total_size = s.chunks_total_size ∧ n < 2 ^ 63
      | .error .merge => extWc s = .error (Fail.err RErr.merge)
      | .error (.trap _) => ∃ msg, extWc s = .error (.panic msg))
    (hMc : ∀ (s : Gen.Sorter) (ms : Grenad.Sorter), RelS s ms →
      match Grenad.Sorter.mergeChunks mf ms with
      | .ok ms' => ∃ n s', extMc s = .ok (n, s') ∧ RelS s' ms'
      | .error .merge => extMc s = .error (Fail.err RErr.merge)
      | .error (.trap _) => ∃ msg, extMc s = .error (.panic msg))
    (s : Gen.Sorter) (ms : Grenad.Sorter) (hR : RelS s ms)
    (hB : B s.entries.buffer.len)
    (hf : match ms.entries.fits k v with
      | .ok b => Gen.Entries.fits s.entries k v = .ok b
      | .error _ => ∃ msg, Gen.Entries.fits s.entries k v = .error (.panic msg))
    (hts : s.chunks_total_size < 2 ^ 63) :
    match Grenad.Sorter.insert mf ms k v with
    | .ok ms' => ∃ s', Gen.Sorter.insert extIns extWc extMc s k v = .ok s' ∧ RelS s' ms' ∧
        B s'.entries.buffer.len
    | .error .merge => Gen.Sorter.insert extIns extWc extMc s k v = .error (Fail.err RErr.merge)
    | .error (.trap _) => ∃ msg, Gen.Sorter.insert extIns extWc extMc s k v = .error (.panic msg) := by
  have hbl := ei_rel_bufLen s ms hR
  obtain ⟨hE, hT, hA, hM, hC⟩ := hR
  unfold Grenad.Sorter.insert
  cases hfit : ms.entries.fits k v with
  | error t =>
    rw [hfit] at hf
    obtain ⟨msg, hm⟩ := hf
    exact ⟨msg, by simp [Gen.Sorter.insert, hm, bind, Except.bind]⟩
  | ok fit =>
    rw [hfit] at hf
    simp only at hf
    rw [si_gen_insert_unfold extIns extWc extMc s k v fit hf]
    have hcond : (fit || (!decide (s.entries.buffer.len ≥ s.dump_threshold) && s.allow_realloc))
        = (fit || (!decide (ms.entries.bufLen ≥ ms.cfg.budget) && ms.cfg.allowRealloc)) := by
      rw [hbl, hT, hA]
    rw [hcond]
    simp only
    by_cases hc : (fit || (!decide (ms.entries.bufLen ≥ ms.cfg.budget) && ms.cfg.allowRealloc)) = true
    · simp only [hc, if_true]
      have hi := hIns s.entries ms.entries hE hB
      cases hins : ms.entries.insert k v 64 with
      | error t =>
        rw [hins] at hi
        obtain ⟨msg, hm⟩ := hi
        exact ⟨msg, by rw [hm]⟩
      | ok p =>
        obtain ⟨e', ev⟩ := p
        rw [hins] at hi
        obtain ⟨ge', hg, hte, hl'⟩ := hi
        simp only [hg]
        exact ⟨_, rfl, ⟨hte, hT, hA, hM, hC⟩, hl'⟩
    · simp only [hc, Bool.false_eq_true, if_false]
      have hw := hWc s ms ⟨hE, hT, hA, hM, hC⟩
      cases hwc : Grenad.Sorter.writeChunk mf ms with
      | error e =>
        rw [hwc] at hw
        cases e with
        | merge => simp only at hw ⊢; rw [hw]
        | trap t =>
          simp only at hw ⊢
          obtain ⟨msg, hm⟩ := hw
          exact ⟨msg, by rw [hm]⟩
      | ok ms1 =>
        rw [hwc] at hw
        obtain ⟨n, s1, hg, hR1, hts1, hn⟩ := hw
        have hl1 : B s1.entries.buffer.len := by
          have : ms1.entries.bufLen = ms.entries.bufLen := by
            obtain ⟨_, _, rfl⟩ := Grenad.Sorter.writeChunk_ok hwc; rfl
          rw [ei_rel_bufLen s1 ms1 hR1, this, ← hbl]; exact hB
        obtain ⟨hE1, hT1, hA1, hM1, hC1⟩ := hR1
        have hadd : add 64 s1.chunks_total_size n = .ok (s1.chunks_total_size + n) :=
          add_ok (by omega)
        simp only [hg, hadd]
        have hi := hIns s1.entries ms1.entries hE1 hl1
        cases hins : ms1.entries.insert k v 64 with
        | error t =>
          rw [hins] at hi
          obtain ⟨msg, hm⟩ := hi
          exact ⟨msg, by rw [hm]⟩
        | ok p =>
          obtain ⟨e', ev⟩ := p
          rw [hins] at hi
          obtain ⟨ge', hg', hte, hl'⟩ := hi
          simp only [hg', ge_iff_le]
          have hR2 : RelS { s1 with chunks_total_size := s1.chunks_total_size + n, entries := ge' }
              { ms1 with entries := e', events := ms1.events ++ ev } :=
            ⟨hte, hT1, hA1, hM1, hC1⟩
          by_cases hmx : ms1.cfg.maxNb ≤ ms1.chunks.length
          · have hmx' : s1.max_nb_chunks ≤ s1.chunks.length := by rw [hM1, hC1]; exact hmx
            simp only [hmx, hmx', if_true]
            have hm := hMc _ _ hR2
            cases hmc : Grenad.Sorter.mergeChunks mf
                { ms1 with entries := e', events := ms1.events ++ ev } with
            | error e =>
              rw [hmc] at hm
              cases e with
              | merge => simp only at hm ⊢; rw [hm]
              | trap t =>
                simp only at hm ⊢
                obtain ⟨msg, hm'⟩ := hm
                exact ⟨msg, by rw [hm']⟩
            | ok ms3 =>
              rw [hmc] at hm
              obtain ⟨r, s3, hg3, hR3⟩ := hm
              simp only [hg3]
              have h3 : s3.entries.buffer.len = ge'.buffer.len := by
                obtain ⟨_, _, rfl⟩ := Grenad.Sorter.mergeChunks_ok hmc
                rw [ei_rel_bufLen _ _ hR3, ← hte]; rfl
              exact ⟨_, rfl, hR3, by rw [← h3] at hl'; exact hl'⟩
          · have hmx' : ¬ s1.max_nb_chunks ≤ s1.chunks.length := by rw [hM1, hC1]; exact hmx
            simp only [hmx, hmx', if_false]
            exact ⟨_, rfl, hR2, hl'⟩

/-- **`Sorter::insert` on regenerated code is the model's `Sorter.insert`**, relative to the three
    external methods.

    Hypotheses on the externals (each: "implements the model's part on related states"):
    * `hIns` — `Entries::insert(key, val)` on a buffer whose bookkeeping is `me`: succeeds with the
      bookkeeping of the model's `Entries.insert` (fuel 64 = at most 64 doublings of a `usize`), panics
      where the model traps (asserts on `u32::MAX`, layout overflow, out-of-range slice);
    * `hWc` — `write_chunk`: `Ok(n)` with a state related to `Sorter.writeChunk`'s, `chunks_total_size`
      untouched and `n < 2^63`; `Err(Error::Merge)` when the model's merge fails; a panic on a model trap;
    * `hMc` — `merge_chunks`: the same for `Sorter.mergeChunks`.

    Satisfiability of the hypotheses: they are implemented by the model itself.  Take
    `extIns ge k v := match (toEntries ge []).insert k v 64 with | .ok (e, _) => .ok ⟨⟨e.bufLen⟩, e.entriesLen, e.boundsCount⟩ | .error _ => .error (.panic "")`
    (the numeric fields and the outcome of `Entries.insert` do not depend on `items`, and `insert` keeps
    `live = true`); and for a merge function that never fails (`∀ k vs, (mf k vs).isSome`: then
    `writeChunk` and `mergeChunks` always succeed — `mergeGroups_ne_none`,
    `Merger.run_ne_none` in Proofs/NoFault.lean — and neither ever traps)
    `extWc s := .ok (0, { s with entries := { s.entries with entries_len := 0, bounds_count := 0 }, chunks := s.chunks ++ [()] })`
    (`writeChunk` clears the entries and appends one chunk) and
    `extMc s := .ok (0, { s with chunks := [()] })` (`mergeChunks` leaves exactly one chunk).
    Whether the *Rust* bodies of the three methods satisfy them is not claimed here: that is the content
    of C08 (`Entries` arithmetic and `store`), C07 (`write_chunk`, `merge_chunks` over the writer and
    merger ties) and the trusted reading of the unsafe buffer code (DESIGN §3.5).

    Side conditions: `hb`, `hkv` are those of `src_entries_fits` (`usize` arithmetic of `fits`; both hold
    for any real buffer: `16 * bounds_count ≤ buffer.len < 2^63`, slices are `< 2^63` bytes);
    `hts` with `n < 2^63` keeps `chunks_total_size += n` inside `u64`. -/
theorem src_sorter_insert (mf : MergeFn)
    (extIns : Gen.Entries → List UInt8 → List UInt8 → M Gen.Entries)
    (extWc extMc : Gen.Sorter → M (Nat × Gen.Sorter))
    (k v : Bytes)
    (hIns : ∀ (ge : Gen.Entries) (me : Grenad.Entries), toEntries ge me.items = me →
      match me.insert k v 64 with
      | .ok (e', _) => ∃ ge', extIns ge k v = .ok ge' ∧ toEntries ge' e'.items = e'
      | .error _ => ∃ msg, extIns ge k v = .error (.panic msg))
    (hWc : ∀ (s : Gen.Sorter) (ms : Grenad.Sorter), RelS s ms →
      match Grenad.Sorter.writeChunk mf ms with
      | .ok ms' => ∃ n s', extWc s = .ok (n, s') ∧ RelS s' ms' ∧
          s'.chunks_total_size = s.chunks_total_size ∧ n < 2 ^ 63
      | .error .merge => extWc s = .error (Fail.err RErr.merge)
      | .error (.trap _) => ∃ msg, extWc s = .error (.panic msg))
    (hMc : ∀ (s : Gen.Sorter) (ms : Grenad.Sorter), RelS s ms →
      match Grenad.Sorter.mergeChunks mf ms with
      | .ok ms' => ∃ n s', extMc s = .ok (n, s') ∧ RelS s' ms'
      | .error .merge => extMc s = .error (Fail.err RErr.merge)
      | .error (.trap _) => ∃ msg, extMc s = .error (.panic msg))
    (s : Gen.Sorter) (ms : Grenad.Sorter) (hR : RelS s ms)
    (hb : s.entries.bounds_count * 16 < 2 ^ 64) (hkv : 16 + k.length + v.length < 2 ^ 64)
    (hts : s.chunks_total_size < 2 ^ 63) :
    match Grenad.Sorter.insert mf ms k v with
    | .ok ms' => ∃ s', Gen.Sorter.insert extIns extWc extMc s k v = .ok s' ∧ RelS s' ms'
    | .error .merge => Gen.Sorter.insert extIns extWc extMc s k v = .error (Fail.err RErr.merge)
    | .error (.trap _) => ∃ msg, Gen.Sorter.insert extIns extWc extMc s k v = .error (.panic msg) := by
  have hf := src_entries_fits s.entries ms.entries.items k v hb hkv
  rw [hR.1] at hf
  have h := sorter_insert_core mf (fun _ => True) extIns extWc extMc k v
    (fun ge me hte _ => by simpa only [and_true] using hIns ge me hte)
    hWc hMc s ms hR trivial hf hts
  simpa only [and_true] using h

#print axioms src_sorter_insert

end Grenad.SrcTie
