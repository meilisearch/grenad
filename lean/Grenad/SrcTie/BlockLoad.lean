/-
  Grenad.SrcTie.BlockLoad — translator tie for `Block::read_from` of src/block.rs (regenerated from
  /repo/src on every run): reading the length prefix, handing at most `block_len` bytes to the
  external codec and interpreting the footer is the model's `loadBlockLen` / `Block.parse`.
  The codec is a parameter on both sides (`decompress` of the compression crates is not translated).
-/
import Grenad.Generated.Src.SrcBlock
import Grenad.Model.Reader
import Grenad.SrcTie.Block
import Grenad.SrcTie.Meta
import Grenad.Proofs.Bytes

set_option linter.unusedSimpArgs false
set_option linter.unusedVariables false

namespace Grenad.SrcTie
open Grenad Grenad.R Grenad.Gen

theorem beValue_eq_beVal (bs : List UInt8) : beValue bs = beVal bs := by
  simp [beValue, beVal, leValue_eq_leVal]

/-- `chunks_exact(8)` of exactly `cnt * 8` bytes is the model's `be64s cnt`. -/
theorem chunksBE_eq_be64s : ∀ (cnt : Nat) (bs : List UInt8), bs.length = cnt * 8 →
    chunksBE 8 bs = Grenad.Block.be64s cnt bs
  | 0, bs, h => by
    have : bs = [] := List.eq_nil_of_length_eq_zero (by omega)
    subst this
    unfold chunksBE
    simp [Grenad.Block.be64s]
  | cnt + 1, bs, h => by
    unfold chunksBE
    have h8 : ¬ bs.length < 8 := by omega
    simp only [h8, if_false, Grenad.Block.be64s, beValue_eq_beVal]
    rw [chunksBE_eq_be64s cnt (bs.drop 8) (by simp; omega)]
    simp

/-- The translated `Block::read_from`, run on a source positioned at `off`, against the model's
    `loadBlockLen`: when the model loads a block the code returns the same block (payload, offset
    table), whose buffer is the codec's output on the (at most) `block_len` bytes following the length
    prefix, and leaves `payload_size` inside the buffer; when the model has no block (short header,
    codec error, footer larger than the buffer) the code fails — an `Err` or a bounds panic — and
    never returns a block. -/
theorem block_read_from_spec (cd : Codec) (b0 : Gen.Block) (file : Bytes) (off : Nat) :
    match loadBlockLen cd file off with
    | some (blk, _) =>
        ∃ b', Gen.Block.read_from (fun _ => cd.decompress) b0 { bytes := file, pos := off } = .ok b'
          ∧ toBlock b' = blk ∧ b'.payload_size ≤ b'.buffer.length
          ∧ b'.compression_type = b0.compression_type
          ∧ cd.decompress ((file.drop (off + 8)).take (beVal ((file.drop off).take 8))) = some b'.buffer
    | none => ∃ e, Gen.Block.read_from (fun _ => cd.decompress) b0 { bytes := file, pos := off } = .error e := by
  unfold loadBlockLen Gen.Block.read_from
  simp only [slice?]
  by_cases hh : off + 8 ≤ file.length
  · simp only [hh, if_true, Src.readBE, Src.readN, liftIo, bind, Except.bind, pure, Except.pure,
      beValue_eq_beVal, Src.readUpTo]
    generalize hlen : beVal ((file.drop off).take 8) = len
    generalize hbody : (file.drop (off + 8)).take len = body
    cases hdc : cd.decompress body with
    | none => simp [liftDecompress, throw, throwThe, MonadExceptOf.throw]
    | some raw =>
      simp only [liftDecompress, pure, Except.pure, List.nil_append]
      unfold Grenad.Block.parse
      by_cases h4 : raw.length < 4
      · have : ¬ 4 ≤ raw.length := by omega
        simp [h4, sub, this, throw, throwThe, MonadExceptOf.throw]
      · have h4' : 4 ≤ raw.length := by omega
        have htk : (raw.drop (raw.length - 4)).take 4 = raw.drop (raw.length - 4) :=
          List.take_of_length_le (by simp; omega)
        have hl4 : (raw.drop (raw.length - 4)).length = 4 := by simp; omega
        simp only [h4, if_false, sub_ok h4', sliceFrom_ok (Nat.sub_le _ _), sliceTo_ok (Nat.le_of_eq hl4.symm),
          htk, beValueN, hl4, if_true, pure, Except.pure, beValue_eq_beVal]
        have hcl := beVal_lt (raw.drop (raw.length - 4))
        rw [hl4] at hcl
        generalize beVal (raw.drop (raw.length - 4)) = cnt at hcl ⊢
        simp only [mul_ok (show cnt * 8 < 2 ^ 64 by omega)]
        by_cases hn : raw.length < 4 + cnt * 8
        · have : ¬ cnt * 8 ≤ raw.length - 4 := by omega
          simp [hn, sub, this, throw, throwThe, MonadExceptOf.throw]
        · have h1 : cnt * 8 ≤ raw.length - 4 := by omega
          have hd : (raw.drop (raw.length - 4 - cnt * 8)).length = cnt * 8 + 4 := by simp; omega
          simp only [hn, if_false, sub_ok h1, sliceFrom_ok (show raw.length - 4 - cnt * 8 ≤ raw.length by omega),
            sliceTo_ok (show cnt * 8 ≤ (raw.drop (raw.length - 4 - cnt * 8)).length by omega),
            sub_ok (show cnt * 8 ≤ raw.length by omega), sub_ok (show 4 ≤ raw.length - cnt * 8 by omega),
            Option.map_some]
          refine ⟨_, rfl, ?_, ?_, rfl, rfl⟩
          · simp only [toBlock, List.nil_append]
            have e1 : raw.length - cnt * 8 - 4 = raw.length - 4 - cnt * 8 := by omega
            rw [e1, chunksBE_eq_be64s cnt _ (by simp; omega)]
          · show raw.length - cnt * 8 - 4 ≤ ([] ++ raw).length
            simp; omega
  · simp [hh, Src.readBE, Src.readN, liftIo, bind, Except.bind, throw, throwThe, MonadExceptOf.throw]

/-- `block_read_from_spec` without the buffer. -/
theorem src_block_read_from (cd : Codec) (b0 : Gen.Block) (file : Bytes) (off : Nat) :
    match loadBlockLen cd file off with
    | some (blk, _) =>
        ∃ b', Gen.Block.read_from (fun _ => cd.decompress) b0 { bytes := file, pos := off } = .ok b'
          ∧ toBlock b' = blk ∧ b'.payload_size ≤ b'.buffer.length
          ∧ b'.compression_type = b0.compression_type
    | none => ∃ e, Gen.Block.read_from (fun _ => cd.decompress) b0 { bytes := file, pos := off } = .error e := by
  have h := block_read_from_spec cd b0 file off
  cases hl : loadBlockLen cd file off with
  | none => rw [hl] at h; exact h
  | some p =>
    rw [hl] at h
    obtain ⟨b', h1, h2, h3, h4, _⟩ := h
    exact ⟨b', h1, h2, h3, h4⟩

end Grenad.SrcTie
