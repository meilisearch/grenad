/-
  Grenad.SrcTie.ReaderE2EIdx — the hypothesis structure `IdxTie` of ReaderCursorTie.lean discharged with the theorems
  of IndexCursor*.lean, for the operations as the code computes them (`ops := srcOps`) and no hypothesis on the
  blocks (`Q := fun _ => True`): only `SmallBlocks cd file` remains.
-/
import Grenad.SrcTie.ReaderCursorTie
import Grenad.SrcTie.IndexCursor

set_option linter.unusedSimpArgs false
set_option linter.unusedVariables false

namespace Grenad.SrcTie
open Grenad Grenad.R Grenad.Gen

section
variable (cd : Codec) (file : Bytes) (Q : Grenad.Block → Prop)
  (hs : SmallBlocks cd file) (hq : LoadsQ cd file Q)
include hs hq

/-- **`IdxTie` from an `OpsTie`.**  The five public `IndexBlockCursor::move_on_*` functions are the model's
    `RC.iterIndex` / `RC.recurIndex` run with any operations `ops` the five in-block moves are tied to. -/
theorem e2e_idxTie_of_opsTie (ops : BlockOps Grenad.BlockCursor) (hops : OpsTie Q ops) : IdxTie cd file Q ops where
  iter_first := by
    intro s s' rd rd' cur log r hrd hg _ h
    obtain ⟨log', hm, h1, h2, h3, h4, h5⟩ :=
      src_iter_index_blocks cd file Q ops .first hs hq _ hops.first hops.current s hg rd hrd cur log r s' rd'
        ((idx_move_on_first_eq _ s rd).symm.trans h)
    exact ⟨h2, h1, h3, h4, h5, log', hm⟩
  iter_last := by
    intro s s' rd rd' cur log r hrd hg _ h
    obtain ⟨log', hm, h1, h2, h3, h4, h5⟩ :=
      src_iter_index_blocks cd file Q ops .last hs hq _ hops.last hops.current s hg rd hrd cur log r s' rd'
        ((idx_move_on_last_eq _ s rd).symm.trans h)
    exact ⟨h2, h1, h3, h4, h5, log', hm⟩
  iter_ge := by
    intro s s' rd rd' key cur log r hrd hg _ h
    obtain ⟨log', hm, h1, h2, h3, h4, h5⟩ :=
      src_index_move_on_ge_ops cd file Q hs hq ops key (hops.ge key) hops.current s hg rd hrd cur log r s' rd' h
    exact ⟨h2, h1, h3, h4, h5, log', hm⟩
  recur_next := by
    intro s s' rd rd' cur log r hrd hg _ h
    obtain ⟨log', hm, h1, h2, h3, h4, h5⟩ :=
      src_recursive_index_block cd file Q ops .next hs hq _ hops.next hops.current s hg rd hrd cur log r s' rd'
        ((idx_move_on_next_eq _ s rd).symm.trans h)
    exact ⟨h2, h1, h3, h4, h5, log', hm⟩
  recur_prev := by
    intro s s' rd rd' cur log r hrd hg _ h
    obtain ⟨log', hm, h1, h2, h3, h4, h5⟩ :=
      src_index_move_on_prev_ops cd file Q hs hq ops hops.prev hops.current s hg rd hrd cur log r s' rd' h
    exact ⟨h2, h1, h3, h4, h5, log', hm⟩

end

/-- **`IdxTie` for the code as it computes** (`srcOps`, no hypothesis on the blocks): only `SmallBlocks`. -/
theorem e2e_idxTie_src (cd : Codec) (file : Bytes) (hs : SmallBlocks cd file) :
    IdxTie cd file (fun _ => True) srcOps :=
  e2e_idxTie_of_opsTie cd file (fun _ => True) hs (loadsQ_true cd file) srcOps (opsTie_src _)

end Grenad.SrcTie

section Audit
open Grenad.SrcTie
#print axioms e2e_idxTie_of_opsTie
#print axioms e2e_idxTie_src
end Audit
