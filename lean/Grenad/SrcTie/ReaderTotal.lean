/-
  Grenad.SrcTie.ReaderTotal — total correctness of the regenerated reader on written files:
  the `ReaderCursor` operations, histories, and the unconditional end-to-end theorems.

  `RTState`: the reader reads `file`, the index cursor satisfies `RTIdx` (ReaderTotalIdx.lean) and the data cursor
  held (if any) is over a writer-built block.  Every public call of the regenerated `ReaderCursor` RETURNS from such a
  state and re-establishes it (`rt_rc_step`), hence so does every history (`rt_rc_run`).  The freshly opened cursor
  over a file of an `Assembly.Setting` satisfies it (`rt_state_open`), which gives

    `src_reader_total`        every history of generated calls returns `.ok`;
    `src_C03_history_total`   … and the results agree with the specification cursor over the inserted entries;
    `src_C03_history_open_total`  the same from `Reader::new` + `into_cursor`.
-/
import Grenad.SrcTie.ReaderTotalIdx

set_option linter.unusedSimpArgs false
set_option linter.unusedVariables false

namespace Grenad.SrcTie
open Grenad Grenad.R Grenad.Gen Grenad.Assembly Grenad.TCursor

def RTState (file : Bytes) (iv : Nat) (log : List Emitted) (s : Store) (root levels : Nat)
    (st : Gen.ReaderCursor) : Prop :=
  st.reader.reader.bytes = file ∧ RTIdx iv log s root levels st.index_block_cursor ∧
    ∀ c, st.current_cursor = some c → RTCur iv log (RTG s 0) c

abbrev RTPost (file : Bytes) (iv : Nat) (log : List Emitted) (s : Store) (root levels : Nat)
    (x : Option (Bytes × Bytes) × Gen.ReaderCursor) : Prop :=
  RTState file iv log s root levels x.2

section
variable {cd : Codec} {file : Bytes} {iv : Nat} {log : List Emitted} {s : Store} {root levels : Nat}
variable (hs : SmallBlocks cd file) (hB : ByteSim s (loadCursor cd file) (Rb iv log))
  (hlv : levels ≤ 255) (hroot : RTPt s (levels + 1) root)
include hs hB

theorem rt_genEnter (m : Mov) (rd : Src) (hrd : rd.bytes = file) (k ob : Bytes) (h8 : ob.length = 8)
    (hpt : RTPt s 0 (offOf (k, ob))) (md : Gen.Metadata) (si : Gen.IndexBlockCursor)
    (hsi : RTIdx iv log s root levels si) :
    RTOk (genEnter cd (genMove m) si md rd ob) (RTPost file iv log s root levels) := by
  unfold genEnter
  simp only [rt_beValueN8 k ob h8, ok_bind]
  refine rtok_bind (rt_load hs hB hpt rd hrd _) ?_
  rintro ⟨c, rd1⟩ ⟨hc, -, hx⟩
  refine rtok_bind (rt_move hc m) ?_
  rintro ⟨r, c'⟩ ⟨hc', -⟩
  exact rtok_ok ⟨hx, hsi, fun c0 hc0 => by cases hc0; exact hc'⟩

theorem rt_genSeek (m : Mov) (keep : Bool)
    (idx : Gen.IndexBlockCursor → Src → M (Option (Bytes × Bytes) × Gen.IndexBlockCursor × Src))
    (hidx : ∀ sI rd, RTIdx iv log s root levels sI → rd.bytes = file →
      RTOk (idx sI rd) (RTIdxPost file iv log s root levels))
    (st : Gen.ReaderCursor) (hst : RTState file iv log s root levels st) :
    RTOk (genSeek cd idx (genMove m) keep st) (RTPost file iv log s root levels) := by
  obtain ⟨hfile, hI, hcur⟩ := hst
  unfold genSeek
  refine rtok_bind (hidx _ _ hI hfile) ?_
  rintro ⟨ri, si, rdi⟩ ⟨h1, h2, h3⟩
  cases ri with
  | none =>
    cases keep
    · exact rtok_ok ⟨h1, h2, fun c hc => by cases hc⟩
    · exact rtok_ok ⟨h1, h2, hcur⟩
  | some e =>
    obtain ⟨k, ob⟩ := e
    obtain ⟨h8, hpt⟩ := h3 _ rfl
    exact rt_genEnter hs hB m rdi h1 k ob h8 hpt _ si h2

include hlv hroot

theorem rt_rc_first (st : Gen.ReaderCursor) (hst : RTState file iv log s root levels st) :
    RTOk (Gen.ReaderCursor.move_on_first (fun _ => cd.decompress) st) (RTPost file iv log s root levels) := by
  rw [rc_move_on_first_eq]
  exact rt_genSeek hs hB .first false _ (fun sI rd hI hrd => rt_index_move_on_first hs hB hlv hroot sI hI rd hrd) st hst

theorem rt_rc_last (st : Gen.ReaderCursor) (hst : RTState file iv log s root levels st) :
    RTOk (Gen.ReaderCursor.move_on_last (fun _ => cd.decompress) st) (RTPost file iv log s root levels) := by
  rw [rc_move_on_last_eq]
  exact rt_genSeek hs hB .last false _ (fun sI rd hI hrd => rt_index_move_on_last hs hB hlv hroot sI hI rd hrd) st hst

theorem rt_rc_ge (st : Gen.ReaderCursor) (hst : RTState file iv log s root levels st) (key : Bytes) :
    RTOk (Gen.ReaderCursor.move_on_key_greater_than_or_equal_to (fun _ => cd.decompress) st key)
      (RTPost file iv log s root levels) := by
  rw [rc_move_on_ge_eq]
  exact rt_genSeek hs hB (.ge key) true _
    (fun sI rd hI hrd => rt_index_move_on_ge hs hB hlv hroot sI hI key rd hrd) st hst

abbrev RTBlockPost (file : Bytes) (iv : Nat) (log : List Emitted) (s : Store) (root levels : Nat)
    (st : Gen.ReaderCursor) (y : Option Gen.Block × Gen.ReaderCursor) : Prop :=
  RTIdx iv log s root levels y.2.index_block_cursor ∧ y.2.current_cursor = st.current_cursor ∧
    y.2.reader.reader.bytes = file ∧
    ∀ blk, y.1 = some blk → RTCur iv log (RTG s 0) ({ block := blk, current_offset := none } : Gen.BlockCursor)

omit hlv hroot in
theorem rt_genBlockFrom
    (idx : Gen.IndexBlockCursor → Src → M (Option (Bytes × Bytes) × Gen.IndexBlockCursor × Src))
    (hidx : ∀ sI rd, RTIdx iv log s root levels sI → rd.bytes = file →
      RTOk (idx sI rd) (RTIdxPost file iv log s root levels))
    (st : Gen.ReaderCursor) (hfile : st.reader.reader.bytes = file)
    (hI : RTIdx iv log s root levels st.index_block_cursor) :
    RTOk (genBlockFrom cd idx st) (RTBlockPost file iv log s root levels st) := by
  unfold genBlockFrom
  refine rtok_bind (hidx _ _ hI hfile) ?_
  rintro ⟨ri, si, rdi⟩ ⟨h1, h2, h3⟩
  cases ri with
  | none => exact rtok_ok ⟨h2, rfl, h1, fun blk hb => by cases hb⟩
  | some e =>
    obtain ⟨k, ob⟩ := e
    obtain ⟨h8, hpt⟩ := h3 _ rfl
    simp only [rt_beValueN8 k ob h8, ok_bind]
    refine rtok_bind (rt_load hs hB hpt rdi h1 _) ?_
    rintro ⟨⟨b, o⟩, rd1⟩ ⟨hc, ho, hx⟩
    cases ho
    exact rtok_ok ⟨h2, rfl, hx, fun blk hb => by cases hb; exact hc⟩

omit hs hB hlv hroot in
theorem rt_genRel (m : Mov) (blk : Gen.ReaderCursor → M (Option Gen.Block × Gen.ReaderCursor))
    (fb : Gen.ReaderCursor → M (Option (Bytes × Bytes) × Gen.ReaderCursor))
    (hblk : ∀ st, st.reader.reader.bytes = file → RTIdx iv log s root levels st.index_block_cursor →
      RTOk (blk st) (RTBlockPost file iv log s root levels st))
    (hfb : ∀ st, RTState file iv log s root levels st → RTOk (fb st) (RTPost file iv log s root levels))
    (st : Gen.ReaderCursor) (hst : RTState file iv log s root levels st) :
    RTOk (genRel (genMove m) blk (genMove m.enter) fb st) (RTPost file iv log s root levels) := by
  unfold genRel
  cases hcur : st.current_cursor with
  | none => exact hfb st hst
  | some c =>
    obtain ⟨hfile, hI, hc⟩ := hst
    refine rtok_bind (rt_move (hc c hcur) m) ?_
    rintro ⟨rz, cz⟩ ⟨hcz, -⟩
    cases rz with
    | some e => exact rtok_ok ⟨hfile, hI, fun c0 hc0 => by cases hc0; exact hcz⟩
    | none =>
      refine rtok_bind (hblk _ hfile hI) ?_
      rintro ⟨rb, s1⟩ ⟨g1, g2, g3, g4⟩
      cases rb with
      | none => exact rtok_ok ⟨g3, g1, fun c0 hc0 => by rw [g2] at hc0; cases hc0; exact hcz⟩
      | some b =>
        refine rtok_bind (rt_move (g4 b rfl) m.enter) ?_
        rintro ⟨rw_, cw⟩ ⟨hcw, -⟩
        exact rtok_ok ⟨g3, g1, fun c0 hc0 => by cases hc0; exact hcw⟩

theorem rt_rc_next (st : Gen.ReaderCursor) (hst : RTState file iv log s root levels st) :
    RTOk (Gen.ReaderCursor.move_on_next (fun _ => cd.decompress) st) (RTPost file iv log s root levels) := by
  rw [rc_move_on_next_eq]
  refine rt_genRel .next _ _ (fun st hfile hI => ?_) (rt_rc_first hs hB hlv hroot) st hst
  rw [rc_next_block_from_index_eq]
  exact rt_genBlockFrom hs hB _ (fun sI rd hI hrd => rt_index_move_on_next hs hB hlv hroot sI hI rd hrd) st hfile hI

theorem rt_rc_prev (st : Gen.ReaderCursor) (hst : RTState file iv log s root levels st) :
    RTOk (Gen.ReaderCursor.move_on_prev (fun _ => cd.decompress) st) (RTPost file iv log s root levels) := by
  rw [rc_move_on_prev_eq]
  refine rt_genRel .prev _ _ (fun st hfile hI => ?_) (rt_rc_last hs hB hlv hroot) st hst
  rw [rc_prev_block_from_index_eq]
  exact rt_genBlockFrom hs hB _ (fun sI rd hI hrd => rt_index_move_on_prev hs hB hlv hroot sI hI rd hrd) st hfile hI

theorem rt_rc_le (st : Gen.ReaderCursor) (hst : RTState file iv log s root levels st) (key : Bytes) :
    RTOk (Gen.ReaderCursor.move_on_key_lower_than_or_equal_to (fun _ => cd.decompress) st key)
      (RTPost file iv log s root levels) := by
  unfold Gen.ReaderCursor.move_on_key_lower_than_or_equal_to
  simp only [bind, pure]
  refine rtok_bind (rt_rc_ge hs hB hlv hroot st hst key) ?_
  rintro ⟨r1, s1⟩ h1
  cases r1 with
  | none =>
    simp only
    refine rtok_bind (rt_rc_last hs hB hlv hroot s1 h1) ?_
    rintro ⟨r2, s2⟩ h2
    exact rtok_ok h2
  | some e =>
    obtain ⟨k, v⟩ := e
    simp only
    by_cases hk : (k == key) = true
    · simp only [hk, if_true]
      exact rtok_ok h1
    · simp only [hk, if_false]
      refine rtok_bind (rt_rc_prev hs hB hlv hroot s1 h1) ?_
      rintro ⟨r2, s2⟩ h2
      exact rtok_ok h2

theorem rt_rc_eq (st : Gen.ReaderCursor) (hst : RTState file iv log s root levels st) (key : Bytes) :
    RTOk (Gen.ReaderCursor.move_on_key_equal_to (fun _ => cd.decompress) st key)
      (RTPost file iv log s root levels) := by
  unfold Gen.ReaderCursor.move_on_key_equal_to
  simp only [bind, pure]
  refine rtok_bind (rt_rc_ge hs hB hlv hroot st hst key) ?_
  rintro ⟨r1, s1⟩ h1
  exact rtok_ok h1

omit hs hB hlv hroot in
theorem rt_rc_current (st : Gen.ReaderCursor) (hst : RTState file iv log s root levels st) :
    RTOk (Gen.ReaderCursor.current st) fun _ => True := by
  unfold Gen.ReaderCursor.current
  cases hcur : st.current_cursor with
  | none => exact ⟨none, rfl, trivial⟩
  | some c =>
    simp only [optBindM]
    exact rtok_mono (rt_current (hst.2.2 c hcur)) fun _ _ => trivial

omit hs hB hlv hroot in
theorem rt_rc_reset (st : Gen.ReaderCursor) (hst : RTState file iv log s root levels st) :
    RTOk (Gen.ReaderCursor.reset st) (RTState file iv log s root levels) := by
  obtain ⟨hfile, ⟨hb, hl, hin⟩, hc⟩ := hst
  unfold Gen.ReaderCursor.reset Gen.IndexBlockCursor.reset
  simp only [bind, pure, Except.pure, ok_bind]
  exact rtok_ok ⟨hfile, ⟨hb, hl, fun l hl' => by cases hl'⟩, fun c hc' => by cases hc'⟩

/-- **One call returns** and re-establishes the invariant. -/
theorem rt_rc_step (st : Gen.ReaderCursor) (hst : RTState file iv log s root levels st) (op : Op) :
    RTOk (genRcStep cd st op) (RTPost file iv log s root levels) := by
  cases op with
  | first => exact rt_rc_first hs hB hlv hroot st hst
  | last => exact rt_rc_last hs hB hlv hroot st hst
  | next => exact rt_rc_next hs hB hlv hroot st hst
  | prev => exact rt_rc_prev hs hB hlv hroot st hst
  | ge q => exact rt_rc_ge hs hB hlv hroot st hst q
  | le q => exact rt_rc_le hs hB hlv hroot st hst q
  | eq q => exact rt_rc_eq hs hB hlv hroot st hst q
  | reset =>
    simp only [genRcStep]
    refine rtok_bind (rt_rc_reset st hst) ?_
    intro s' hs'
    exact rtok_ok hs'
  | current =>
    simp only [genRcStep]
    refine rtok_bind (rt_rc_current st hst) ?_
    intro r _
    exact rtok_ok hst

/-- **Every history returns.** -/
theorem rt_rc_run : ∀ (hist : List Op) (st : Gen.ReaderCursor), RTState file iv log s root levels st →
    RTOk (genRcRun cd st hist) fun x => RTState file iv log s root levels x.2
  | [], st, hst => rtok_ok hst
  | op :: rest, st, hst => by
    simp only [genRcRun]
    refine rtok_bind (rt_rc_step hs hB hlv hroot st hst op) ?_
    rintro ⟨r, s1⟩ h1
    refine rtok_bind (rt_rc_run rest s1 h1) ?_
    rintro ⟨rs, s2⟩ h2
    exact rtok_ok h2

end

/-! ### on the files of an `Assembly.Setting` -/

section
variable {cd : Codec} {cfg : WCfg} {es : List Entry} {file : Bytes} {log : List Emitted} {m : Meta.Meta}

/-- a generated cursor abstracting to the freshly opened model cursor satisfies the invariant -/
theorem rt_state_open (S : Setting cd cfg es file log) (hm : Meta.parse file = .ok m)
    (s0 : Gen.ReaderCursor) (hg : GoodRC (fun _ => True) file s0) (h0 : toRCfull s0 [] = RC.new m) :
    RTState file cfg.interval log (storeOf log) m.root cfg.levels s0 ∧ cfg.levels ≤ 255 ∧
      RTPt (storeOf log) (cfg.levels + 1) m.root := by
  obtain ⟨root, hok, hparse⟩ := S.fileOK
  rw [hm] at hparse
  cases hparse
  obtain ⟨hfile, -, -, -⟩ := hg
  have hb : s0.index_block_cursor.base_block_offset = root := congrArg RC.base h0
  have hl : s0.index_block_cursor.index_levels = cfg.levels := congrArg RC.levels h0
  have hin : s0.index_block_cursor.inner = none := by
    have := congrArg RC.inner h0
    simp only [toRCfull, toRC, RC.new] at this
    cases hi : s0.index_block_cursor.inner with
    | none => rfl
    | some l => rw [hi] at this; cases this
  have hcu : s0.current_cursor = none := by
    have := congrArg RC.cur h0
    simp only [toRCfull, toRC, RC.new] at this
    cases hi : s0.current_cursor with
    | none => rfl
    | some l => rw [hi] at this; cases this
  -- the root of a well-formed file, empty or not, holds a block of depth `levels + 1`
  have hroot : RTPt (storeOf log) (cfg.levels + 1) root := by
    rcases hok.tree with ⟨-, hs⟩ | ⟨lvl, hsub⟩
    · exact ⟨[], hs, fun e he => by cases he⟩
    · exact rtpt_of_sub (fun off blk hb => (hok.blocks off blk hb).2) _ _ _ hsub
  refine ⟨⟨hfile, ⟨hb, hl, ?_⟩, ?_⟩, S.H.levels, hroot⟩
  · intro l hl'; rw [hin] at hl'; cases hl'
  · intro c hc; rw [hcu] at hc; cases hc

/-- **Total correctness of the regenerated reader cursor on written files.**  On a file the writer produced, from a
    generated cursor that abstracts to the freshly opened cursor, EVERY finite list of public cursor calls run
    through the generated functions returns `.ok`: no panic (checked arithmetic, slicing, `unwrap`, recursion fuel,
    loop fuel) and no `Err`. -/
theorem src_reader_total (S : Setting cd cfg es file log) (hm : Meta.parse file = .ok m)
    (hs : SmallBlocks cd file) (s0 : Gen.ReaderCursor) (hg : GoodRC (fun _ => True) file s0)
    (h0 : toRCfull s0 [] = RC.new m) (hist : List Op) :
    ∃ rs s', genRcRun cd s0 hist = .ok (rs, s') := by
  obtain ⟨hst, hlv, hroot⟩ := rt_state_open S hm s0 hg h0
  obtain ⟨⟨rs, s'⟩, h, -⟩ := rt_rc_run hs S.byteSim hlv hroot hist s0 hst
  exact ⟨rs, s', h⟩

/-- **C01/C03 on the regenerated reader cursor, every history, unconditionally.**  Every history of generated calls
    returns, with as many results as calls, and every result agrees with the specification cursor over the inserted
    entries wherever the latter determines the result. -/
theorem src_C03_history_total (S : Setting cd cfg es file log) (hm : Meta.parse file = .ok m)
    (hs : SmallBlocks cd file) (s0 : Gen.ReaderCursor) (hg : GoodRC (fun _ => True) file s0)
    (h0 : toRCfull s0 [] = RC.new m) (hist : List Op) :
    ∃ rs s', genRcRun cd s0 hist = .ok (rs, s') ∧ rs.length = hist.length ∧
      ∀ x ∈ (rs.map Res.ok).zip (e2eSpecRun es .fresh hist), Spec.Agree x.1 x.2 := by
  obtain ⟨rs, s', h⟩ := src_reader_total S hm hs s0 hg h0 hist
  obtain ⟨h1, h2⟩ := src_C03_history S hm hs s0 hg h0 hist rs s' h
  exact ⟨rs, s', h, h1, h2⟩

/-- **End to end from `Reader::new`, unconditionally.**  On a written file `Reader::new(Cursor::new(file))` and
    `into_cursor()` return, and then every list of public cursor calls on the regenerated code returns, with results
    agreeing with the specification cursor over the entries that were inserted. -/
theorem src_C03_history_open_total (S : Setting cd cfg es file log) (hs : SmallBlocks cd file) (pos : Nat)
    (hist : List Op) :
    ∃ rdr s0 rs s', Gen.Reader.new { bytes := file, pos := pos } = .ok rdr ∧
      Gen.Reader.into_cursor rdr = .ok s0 ∧ genRcRun cd s0 hist = .ok (rs, s') ∧
      rs.length = hist.length ∧
      (∀ x ∈ (rs.map Res.ok).zip (e2eSpecRun es .fresh hist), Spec.Agree x.1 x.2) ∧
      rdr.metadata.entries_count = es.length := by
  obtain ⟨rdr, s0, m, hopen, hcur, hparse, hg, h0, -⟩ := e2e_open S pos
  obtain ⟨rs, s', h⟩ := src_reader_total S hparse hs s0 hg h0 hist
  obtain ⟨h1, h2, h3⟩ := src_C03_history_open S hs pos rdr s0 hopen hcur hist rs s' h
  exact ⟨rdr, s0, rs, s', hopen, hcur, h, h1, h2, h3⟩

/-- In particular every single call after any history returns, with the result the specification determines. -/
theorem src_C03_step_total (S : Setting cd cfg es file log) (hm : Meta.parse file = .ok m)
    (hs : SmallBlocks cd file) (s0 : Gen.ReaderCursor) (hg : GoodRC (fun _ => True) file s0)
    (h0 : toRCfull s0 [] = RC.new m) (hist : List Op) (op : Op) :
    ∃ rs s1 r s2, genRcRun cd s0 hist = .ok (rs, s1) ∧ genRcStep cd s1 op = .ok (r, s2) ∧
      Spec.Agree (.ok r) (Spec.step es (posAfter es .fresh hist) op).2 := by
  obtain ⟨hst, hlv, hroot⟩ := rt_state_open S hm s0 hg h0
  obtain ⟨⟨rs, s1⟩, h, hst1⟩ := rt_rc_run hs S.byteSim hlv hroot hist s0 hst
  obtain ⟨⟨r, s2⟩, h2, -⟩ := rt_rc_step hs S.byteSim hlv hroot s1 hst1 op
  exact ⟨rs, s1, r, s2, h, h2, src_C03_step S hm hs s0 hg h0 hist rs s1 h op r s2 h2⟩

end

end Grenad.SrcTie

section Audit
open Grenad.SrcTie
#print axioms rt_rc_step
#print axioms rt_rc_run
#print axioms src_reader_total
#print axioms src_C03_history_total
#print axioms src_C03_history_open_total
#print axioms src_C03_step_total
end Audit
