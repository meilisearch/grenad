/-
  Grenad.SrcTie.IterNew — translator tie for the constructors of the four iterators
  (`RangeIter::new`, `RevRangeIter::new` with `map_bound`, `PrefixIter::new`, `RevPrefixIter::new`), regenerated from
  /repo/src on every run: the iterator a constructor builds is exactly the model's initial iterator (bounds kept as
  given — in particular an empty start bound is NOT turned into `Unbounded` — and the "seek first" flag set), so that
  `src_C04_range(_rev)` / `src_C05_prefix(_rev)` speak about the object `Reader::into_range_iter` etc. hand out.
-/
import Grenad.SrcTie.IterNext

set_option linter.unusedSimpArgs false
set_option linter.unusedVariables false

namespace Grenad.SrcTie
open Grenad Grenad.R Grenad.Gen

/-- `map_bound(b, |bytes| bytes.as_ref().to_vec())` keeps the bound and its kind -/
theorem src_map_bound_id (b : R.Bound (List UInt8)) :
    Gen.map_bound b (fun bytes => do pure bytes) = .ok b := by
  cases b <;> rfl

theorem src_map_bound_id' (b : R.Bound (List UInt8)) :
    Gen.map_bound b (fun bytes => Except.ok bytes) = .ok b :=
  src_map_bound_id b

variable {γ : Type}

theorem src_range_iter_new (c : γ) (lo hi : Grenad.Bound) :
    Gen.RangeIter.new c (toSrcBound lo, toSrcBound hi) = .ok (toSrcRange { cursor := c, lo := lo, hi := hi }) := by
  simp [Gen.RangeIter.new, src_map_bound_id', toSrcRange, bind, Except.bind, pure, Except.pure]

theorem src_rev_range_iter_new (c : γ) (lo hi : Grenad.Bound) :
    Gen.RevRangeIter.new c (toSrcBound lo, toSrcBound hi) = .ok (toSrcRevRange { cursor := c, lo := lo, hi := hi }) := by
  simp [Gen.RevRangeIter.new, src_map_bound_id', toSrcRevRange, bind, Except.bind, pure, Except.pure]

theorem src_prefix_iter_new (c : γ) (p : Bytes) :
    Gen.PrefixIter.new c p = .ok (toSrcPrefix { cursor := c, pre := p }) := by
  simp [Gen.PrefixIter.new, toSrcPrefix, pure, Except.pure]

theorem src_rev_prefix_iter_new (c : γ) (p : Bytes) :
    Gen.RevPrefixIter.new c p = .ok (toSrcRevPrefix { cursor := c, pre := p }) := by
  simp [Gen.RevPrefixIter.new, toSrcRevPrefix, pure, Except.pure]

/-- the bounds survive as given: an `Excluded(b"")` start stays `Excluded(b"")` (the shape of two seeded changes) -/
example (c : γ) : ∃ it, Gen.RangeIter.new c (R.Bound.excluded [], R.Bound.unbounded) = .ok it ∧ it.range.1 = R.Bound.excluded [] ∧ it.move_on_start = true :=
  ⟨_, src_range_iter_new c (.excluded []) .unbounded, rfl, rfl⟩

end Grenad.SrcTie
