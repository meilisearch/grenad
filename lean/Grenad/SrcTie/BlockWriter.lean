/-
  Grenad.SrcTie.BlockWriter — translator tie for src/block_writer.rs
  (`BlockWriter::{reset, current_size_estimate, insert, finish}`), regenerated from /repo/src on every run.
  The model's `BW` carries one ghost field (`items`) that the Rust struct does not have.
-/
import Grenad.Generated.Src.SrcBlockWriter
import Grenad.Model.Block
import Grenad.SrcTie.Varint

set_option linter.unusedSimpArgs false
set_option linter.unusedVariables false

namespace Grenad.SrcTie
open Grenad Grenad.R Grenad.Gen

/-- the translated struct as the model's block writer (with the ghost item list supplied) -/
def toBW (w : Gen.BlockWriter) (items : List Entry) : BW :=
  { buffer := w.buffer, lastKey := w.last_key, interval := w.index_key_interval,
    offsets := w.index_offsets, counter := w.index_key_counter, items := items }

theorem src_bw_reset (w : Gen.BlockWriter) (items : List Entry) :
    ∃ w', BlockWriter.reset w = .ok w' ∧ toBW w' [] = (toBW w items).reset := by
  refine ⟨_, rfl, ?_⟩
  simp [toBW, BW.reset]

theorem src_bw_size_estimate (w : Gen.BlockWriter) (items : List Entry)
    (h : w.buffer.length + w.index_offsets.length * 8 + 4 < 2 ^ 64) :
    BlockWriter.current_size_estimate w = .ok (toBW w items).sizeEstimate := by
  have h1 : w.index_offsets.length * 8 < 2 ^ 64 := by omega
  have h2 : w.buffer.length + w.index_offsets.length * 8 < 2 ^ 64 := by omega
  simp [BlockWriter.current_size_estimate, toBW, BW.sizeEstimate, bind, Except.bind, pure, Except.pure, add, mul, h, h1, h2]

theorem src_bw_finish (w : Gen.BlockWriter) (items : List Entry) (h : w.index_offsets.length < 2 ^ 32) :
    (BlockWriter.finish w).map (·.buffer) = .ok (BW.finish (toBW w items)) := by
  simp [BlockWriter.finish, bind, Except.bind, pure, Except.pure, Except.map, tryInto, h, toBW, BW.finish, beBytes8_eq, be32, beBytes_eq_beN]

/-- `BlockWriter::insert` is the model's `BW.insert`: same new state when the model succeeds, a panic
    exactly when the model traps (the three assertions).  Hypotheses: the debug assertion
    `counter ≤ interval` (an invariant of the writer, `insert_counter_inv`) and a `usize` interval. -/
theorem src_bw_insert (w : Gen.BlockWriter) (items : List Entry) (k v : Bytes)
    (hc : w.index_key_counter ≤ w.index_key_interval) (hi : w.index_key_interval < 2 ^ 64) :
    match BW.insert (toBW w items) k v with
    | .ok bw' => ∃ w', BlockWriter.insert w k v = .ok w' ∧ toBW w' (items ++ [(k, v)]) = bw'
    | .error _ => ∃ msg, BlockWriter.insert w k v = .error (.panic msg) := by
  unfold BW.insert BlockWriter.insert
  simp only [toBW, u32Max]
  by_cases hk : k.length > 4294967295
  · have : ¬ k.length ≤ 4294967295 := by omega
    simp [hk, this, bind, Except.bind, assert, hc, pure, Except.pure, throw, throwThe, MonadExceptOf.throw]
  by_cases hv : v.length > 4294967295
  · have : ¬ v.length ≤ 4294967295 := by omega
    have hk' : k.length ≤ 4294967295 := by omega
    simp [hk, hv, this, hk', bind, Except.bind, assert, hc, pure, Except.pure, throw, throwThe, MonadExceptOf.throw]
  have hk' : k.length ≤ 4294967295 := by omega
  have hv' : v.length ≤ 4294967295 := by omega
  have hkc : castU 32 k.length = k.length := by simp [castU]; omega
  have hvc : castU 32 v.length = v.length := by simp [castU]; omega
  obtain ⟨buf1, he1, hl1⟩ := src_varint_encode32_full (List.replicate 10 (UInt8.ofNat 0)) k.length (by simp)
  obtain ⟨buf2, he2, hl2⟩ := src_varint_encode32_full buf1 v.length (by simp at hl1; omega)
  have hadd : ∀ c, c < w.index_key_interval → add 64 c 1 = .ok (c + 1) := fun c hcc => add_ok (by omega)
  have hadd0 : add 64 0 1 = .ok 1 := add_ok (by decide)
  simp only [hk, hv, if_false, bind, Except.bind, assert, hc, hk', hv', decide_true, if_true, pure, Except.pure, hkc, hvc]
  rw [he1]
  simp only [he2]
  by_cases hci : w.index_key_counter = w.index_key_interval
  · cases hlk : w.last_key with
    | none =>
      simp [hci, hadd0, toBW, BW.frame, List.append_assoc]
    | some lk =>
      by_cases hlt : lk < k
      · simp [hci, hadd0, toBW, BW.frame, List.append_assoc, hlt]
      · simp [hci, hlt, throw, throwThe, MonadExceptOf.throw]
  · have hlt' : w.index_key_counter < w.index_key_interval := by omega
    have ha := hadd _ hlt'
    cases hlk : w.last_key with
    | none =>
      simp [hci, ha, toBW, BW.frame, List.append_assoc]
    | some lk =>
      by_cases hlt : lk < k
      · simp [hci, ha, toBW, BW.frame, List.append_assoc, hlt]
      · simp [hci, hlt, throw, throwThe, MonadExceptOf.throw]

end Grenad.SrcTie
