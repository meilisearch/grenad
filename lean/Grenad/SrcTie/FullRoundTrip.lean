/-
  Grenad.SrcTie.FullRoundTrip — C01/C02/C03 with BOTH halves being code regenerated from /repo/src on every run.

  Write side (`src_C01_builder_roundtrip`, WriterBuild.lean): the regenerated `WriterBuilder::build`, then
  `Writer::insert` for every entry, then `Writer::into_inner` return bytes `file`, and these are the model's
  (`W.run cd (cfgOf wb) es = .ok (file, log)`).
  Read side (`src_C03_history`, `src_C01_scan_next/prev`, `src_C02_*_after`, `e2e_open_ok`, ReaderE2EGen.lean): on a file
  of an `Assembly.Setting` the regenerated `Reader::new` / `Reader::into_cursor` return, and every history of public
  calls on the regenerated `ReaderCursor` that returns agrees with the specification cursor over the inserted entries.

  Here the two are joined: the `Setting` the read side needs is rebuilt from the hypotheses of the write side, the
  equation `W.run … = .ok (file, log)` it delivers and the size side conditions on the output (`frt_setting`), so the
  file in the statement is the very value the regenerated writer returned.

  Hypotheses of `src_C01_full_roundtrip`:
    * about the INPUT (codec, builder, entries) — those of `src_C01_builder_roundtrip`: a lawful codec with id ≤ 5 whose
      output on blocks shorter than 2^63 bytes is shorter than 2^64 bytes, `index_levels ≤ 255`, a nonzero `usize`
      index key interval, strictly ascending keys, key and value lengths below 2^32, fewer than 2^26 entries, the
      builder's compression type being the codec's id;
    * about the OUTPUT (they sit under the existential, as premises on the returned `file` and on the model's ghost log
      of emitted blocks, which the equation `W.run … = .ok (file, log)` ties to the input):
        `file.length < 2^64`            — offsets in the file are `u64`;
        `∀ e ∈ log, e.raw.length < 2^32` — in-block offsets fit the `u32`s the block cursor reads them through;
        `SmallBlocks cd file`            — whatever the reader decompresses from `file` is shorter than 2^62 bytes
                                           (no `usize` overflow in the regenerated `Block::new`).
      They cannot be derived from the input: the length of the file and of each block depends on `cd.compress` (an
      arbitrary function here) and on where the configured block size cuts the blocks, and 2^26 entries of up to
      2^32 + 2^32 bytes may exceed 2^64 bytes; `SmallBlocks` speaks of `cd.decompress` on arbitrary slices of the
      file, about which `Lawful` says nothing.  For `Codec.none` the third follows from `file.length < 2^62`
      (`src_C01_full_roundtrip_none`).

  Read side of `src_C01_full_roundtrip`: opening returns; for the cursor calls the statement is "if the call returns
  `.ok`, the result is the specified one".  `src_C01_full_roundtrip_total` states that they return: every history of
  regenerated cursor calls on a written file returns `.ok` (`SrcTie.ReaderTotal`).
  `src_C04_C05_full_roundtrip` adds the range and prefix iterators (C04, C05; `SrcTie.IterE2E`), regenerated as well.
-/
import Grenad.SrcTie.WriterBuild
import Grenad.SrcTie.ReaderE2EGen
import Grenad.SrcTie.ReaderTotal
import Grenad.SrcTie.IterE2E

set_option linter.unusedSimpArgs false
set_option linter.unusedVariables false

namespace Grenad.SrcTie
open Grenad Grenad.R Grenad.Gen Grenad.Assembly Grenad.IterP

/-- The writer's hypotheses, the run equation `src_C01_builder_roundtrip` delivers and the size side conditions on
    the output make up the `Assembly.Setting` every read-side theorem is stated on (the construction inside
    `Props.C01.C01_roundtrip`, which `src_C01_writer_roundtrip` goes through). -/
theorem frt_setting (cd : Codec) (wb : Gen.WriterBuilder) (es : List Entry) (file : Bytes) (log : List Emitted)
    (hlaw : cd.Lawful) (hid : cd.id ≤ 5) (hlv : wb.index_levels ≤ 255)
    (hiv : ∀ iv, wb.index_key_interval = some iv → 1 ≤ iv ∧ iv < 2 ^ 64)
    (hasc : StrictAsc es) (hlens : ∀ e ∈ es, e.1.length < 2 ^ 32 ∧ e.2.length < 2 ^ 32)
    (hcount : es.length < 2 ^ 26)
    (hrun : W.run cd (cfgOf wb) es = .ok (file, log))
    (hfile : file.length < 2 ^ 64) (hblocks : ∀ e ∈ log, e.raw.length < 2 ^ 32) :
    Setting cd (cfgOf wb) es file log :=
  ⟨⟨hlv, hlaw, hasc, hlens⟩, (cfgOf_interval wb hiv).1, hrun, hfile, by omega, hid, hblocks⟩

/-! ### what the regenerated reader does on the file -/

/-- **The regenerated reader reads `es` back from `file`** (written with codec `cd` and `levels` index levels).
    `Reader::new(Cursor { file, pos })` and `Reader::into_cursor` return, the reader reports the number of entries,
    the index levels, the codec and format V2, and on the returned cursor `s0`, through the regenerated `ReaderCursor`
    functions (`genRcRun`, `genRcStep`: `move_on_first/last/next/prev`, `move_on_key_*`, `reset`, `current`):
    * C01: `move_on_next()` × `(n+1)`, if the calls return, gives exactly the entries in order and then `None`;
      `move_on_prev()` × `(n+1)` gives them in reverse order and then `None`;
    * C03: for EVERY history of public calls, if the calls return, there are as many results as calls and every
      result agrees with the specification cursor over `es` (`e2eSpecRun`) wherever the latter determines it;
    * C02: after every such history, `move_on_key_greater_than_or_equal_to(q)`, `…lower_than_or_equal_to(q)`,
      `move_on_key_equal_to(q)`, if they return, return the ceiling, the floor, the entry with key `q`. -/
def frt_ReadsBack (cd : Codec) (es : List Entry) (levels : Nat) (file : Bytes) : Prop :=
  ∀ pos : Nat, ∃ (rdr : Gen.Reader) (s0 : Gen.ReaderCursor),
    Gen.Reader.new { bytes := file, pos := pos } = .ok rdr ∧ Gen.Reader.into_cursor rdr = .ok s0 ∧
    rdr.metadata.entries_count = es.length ∧ rdr.metadata.index_levels = levels ∧
    rdr.metadata.compression_type.toNat = cd.id ∧ rdr.metadata.file_version = .formatV2 ∧
    (∀ rs s', genRcRun cd s0 (List.replicate (es.length + 1) .next) = .ok (rs, s') → rs = es.map some ++ [none]) ∧
    (∀ rs s', genRcRun cd s0 (List.replicate (es.length + 1) .prev) = .ok (rs, s') →
      rs = es.reverse.map some ++ [none]) ∧
    (∀ (hist : List Op) rs s1, genRcRun cd s0 hist = .ok (rs, s1) →
      rs.length = hist.length ∧
      (∀ x ∈ (rs.map Res.ok).zip (e2eSpecRun es .fresh hist), Spec.Agree x.1 x.2) ∧
      ∀ (q : Bytes) r s2,
        (Gen.ReaderCursor.move_on_key_greater_than_or_equal_to (fun _ => cd.decompress) s1 q = .ok (r, s2) →
          r = Spec.ceiling es q) ∧
        (Gen.ReaderCursor.move_on_key_lower_than_or_equal_to (fun _ => cd.decompress) s1 q = .ok (r, s2) →
          r = Spec.floor es q) ∧
        (Gen.ReaderCursor.move_on_key_equal_to (fun _ => cd.decompress) s1 q = .ok (r, s2) →
          r = Spec.lookup es q))

theorem frt_reads_of_setting {cd : Codec} {cfg : WCfg} {es : List Entry} {file : Bytes} {log : List Emitted}
    (S : Setting cd cfg es file log) (hs : SmallBlocks cd file) : frt_ReadsBack cd es cfg.levels file := by
  intro pos
  obtain ⟨rdr, s0, m, hopen, hcur, hparse, hg, h0, h1, h2, h3, h4⟩ := e2e_open S pos
  refine ⟨rdr, s0, hopen, hcur, h1, h2, h3, h4, ?_, ?_, ?_⟩
  · intro rs s' h
    exact src_C01_scan_next S hparse hs s0 hg h0 rs s' h
  · intro rs s' h
    exact src_C01_scan_prev S hparse hs s0 hg h0 rs s' h
  · intro hist rs s1 h
    obtain ⟨hlen, hag⟩ := src_C03_history S hparse hs s0 hg h0 hist rs s1 h
    refine ⟨hlen, hag, fun q r s2 => ⟨?_, ?_, ?_⟩⟩
    · exact src_C02_ge_after S hparse hs s0 hg h0 hist rs s1 h q r s2
    · exact src_C02_le_after S hparse hs s0 hg h0 hist rs s1 h q r s2
    · exact src_C02_eq_after S hparse hs s0 hg h0 hist rs s1 h q r s2

/-- **C01/C02/C03, regenerated writer + regenerated reader, end to end.**
    The regenerated `WriterBuilder::build`, `Writer::insert` for every entry of `es` and `Writer::into_inner` return
    bytes `file` (the model's, with the model's ghost log `log` of emitted blocks), and — provided `file` is shorter
    than 2^64 bytes, every emitted block shorter than 2^32 bytes and `SmallBlocks cd file` (conditions on the output,
    see the head of this file) — the regenerated `Reader::new` / `into_cursor` open these very bytes and the
    regenerated `ReaderCursor` reads back exactly `es` (`frt_ReadsBack`: scans, every history, seeks). -/
theorem src_C01_full_roundtrip (cd : Codec) (wb : Gen.WriterBuilder) (es : List Entry)
    (hlaw : cd.Lawful) (hid : cd.id ≤ 5) (hlv : wb.index_levels ≤ 255)
    (hiv : ∀ iv, wb.index_key_interval = some iv → 1 ≤ iv ∧ iv < 2 ^ 64)
    (hasc : StrictAsc es) (hlens : ∀ e ∈ es, e.1.length < 2 ^ 32 ∧ e.2.length < 2 ^ 32)
    (hcount : es.length < 2 ^ 26)
    (hcd : ∀ b : Bytes, b.length < 2 ^ 63 → (cd.compress b).length < 2 ^ 64)
    (hct : wb.compression_type.toNat = cd.id) :
    ∃ file log,
      (do let (w, _) ← Gen.WriterBuilder.build wb []
          genWriterRun (codecFn cd) w es : M Sink) = .ok file ∧
      W.run cd (cfgOf wb) es = .ok (file, log) ∧
      (file.length < 2 ^ 64 → (∀ e ∈ log, e.raw.length < 2 ^ 32) → SmallBlocks cd file →
        frt_ReadsBack cd es wb.index_levels file) := by
  obtain ⟨file, log, hgen, hrun, -⟩ :=
    src_C01_builder_roundtrip cd wb es hlaw hid hlv hiv hasc hlens hcount hcd hct
  refine ⟨file, log, hgen, hrun, fun hfile hblocks hs => ?_⟩
  exact frt_reads_of_setting (frt_setting cd wb es file log hlaw hid hlv hiv hasc hlens hcount hrun hfile hblocks) hs

/-- `Codec.none` (no compression) meets the codec hypotheses. -/
theorem frt_none_lawful : Codec.none.Lawful := fun _ => rfl

theorem frt_none_bounded : ∀ b : Bytes, b.length < 2 ^ 63 → (Codec.none.compress b).length < 2 ^ 64 := by
  intro b hb
  show b.length < 2 ^ 64
  omega

/-- **The same without compression**: no hypothesis on the codec is left, and `SmallBlocks` follows from the file
    being shorter than 2^62 bytes (`smallBlocks_none`). -/
theorem src_C01_full_roundtrip_none (wb : Gen.WriterBuilder) (es : List Entry)
    (hlv : wb.index_levels ≤ 255)
    (hiv : ∀ iv, wb.index_key_interval = some iv → 1 ≤ iv ∧ iv < 2 ^ 64)
    (hasc : StrictAsc es) (hlens : ∀ e ∈ es, e.1.length < 2 ^ 32 ∧ e.2.length < 2 ^ 32)
    (hcount : es.length < 2 ^ 26)
    (hct : wb.compression_type = .none) :
    ∃ file log,
      (do let (w, _) ← Gen.WriterBuilder.build wb []
          genWriterRun (codecFn Codec.none) w es : M Sink) = .ok file ∧
      W.run Codec.none (cfgOf wb) es = .ok (file, log) ∧
      (file.length < 2 ^ 62 → (∀ e ∈ log, e.raw.length < 2 ^ 32) →
        frt_ReadsBack Codec.none es wb.index_levels file) := by
  obtain ⟨file, log, hgen, hrun, hread⟩ :=
    src_C01_full_roundtrip Codec.none wb es frt_none_lawful (by decide) hlv hiv hasc hlens hcount frt_none_bounded
      (by rw [hct]; rfl)
  refine ⟨file, log, hgen, hrun, fun hfile hblocks => ?_⟩
  exact hread (by omega) hblocks (smallBlocks_none file hfile)

/-! ### total correctness: the read side without "if it returns" -/

/-- **The regenerated reader reads `es` back from `file`, unconditionally.**  As `frt_ReadsBack`, but every call is
    stated to RETURN `.ok` (no panic, no `Err`): `Reader::new` / `into_cursor` return; `move_on_next()` × `(n+1)`
    returns exactly the entries in order, then `None` (`move_on_prev()`: reversed); EVERY history of public calls
    returns, with as many results as calls, each agreeing with the specification cursor over `es`; and after every
    history the three seeks return the ceiling, the floor, the entry with key `q`. -/
def frt_ReadsBackTotal (cd : Codec) (es : List Entry) (levels : Nat) (file : Bytes) : Prop :=
  ∀ pos : Nat, ∃ (rdr : Gen.Reader) (s0 : Gen.ReaderCursor),
    Gen.Reader.new { bytes := file, pos := pos } = .ok rdr ∧ Gen.Reader.into_cursor rdr = .ok s0 ∧
    rdr.metadata.entries_count = es.length ∧ rdr.metadata.index_levels = levels ∧
    rdr.metadata.compression_type.toNat = cd.id ∧ rdr.metadata.file_version = .formatV2 ∧
    (∃ s', genRcRun cd s0 (List.replicate (es.length + 1) .next) = .ok (es.map some ++ [none], s')) ∧
    (∃ s', genRcRun cd s0 (List.replicate (es.length + 1) .prev) = .ok (es.reverse.map some ++ [none], s')) ∧
    (∀ hist : List Op, ∃ rs s1, genRcRun cd s0 hist = .ok (rs, s1) ∧
      rs.length = hist.length ∧
      (∀ x ∈ (rs.map Res.ok).zip (e2eSpecRun es .fresh hist), Spec.Agree x.1 x.2) ∧
      ∀ q : Bytes,
        (∃ s2, Gen.ReaderCursor.move_on_key_greater_than_or_equal_to (fun _ => cd.decompress) s1 q =
          .ok (Spec.ceiling es q, s2)) ∧
        (∃ s2, Gen.ReaderCursor.move_on_key_lower_than_or_equal_to (fun _ => cd.decompress) s1 q =
          .ok (Spec.floor es q, s2)) ∧
        (∃ s2, Gen.ReaderCursor.move_on_key_equal_to (fun _ => cd.decompress) s1 q =
          .ok (Spec.lookup es q, s2)))

/-- one more call after a history that returned `(rs, s1)`: it returns, from `s1` -/
theorem frt_step_after {cd : Codec} {cfg : WCfg} {es : List Entry} {file : Bytes} {log : List Emitted} {m : Meta.Meta}
    (S : Setting cd cfg es file log) (hm : Meta.parse file = .ok m) (hs : SmallBlocks cd file)
    (s0 : Gen.ReaderCursor) (hg : GoodRC (fun _ => True) file s0) (h0 : toRCfull s0 [] = RC.new m)
    (hist : List Op) (rs : List (Option (Bytes × Bytes))) (s1 : Gen.ReaderCursor)
    (h : genRcRun cd s0 hist = .ok (rs, s1)) (op : Op) :
    ∃ r s2, genRcStep cd s1 op = .ok (r, s2) := by
  obtain ⟨rs', s1', r, s2, h', h2, -⟩ := src_C03_step_total S hm hs s0 hg h0 hist op
  rw [h] at h'
  simp only [Except.ok.injEq, Prod.mk.injEq] at h'
  obtain ⟨-, rfl⟩ := h'
  exact ⟨r, s2, h2⟩

theorem frt_reads_total_of_setting {cd : Codec} {cfg : WCfg} {es : List Entry} {file : Bytes} {log : List Emitted}
    (S : Setting cd cfg es file log) (hs : SmallBlocks cd file) : frt_ReadsBackTotal cd es cfg.levels file := by
  intro pos
  obtain ⟨rdr, s0, m, hopen, hcur, hparse, hg, h0, h1, h2, h3, h4⟩ := e2e_open S pos
  refine ⟨rdr, s0, hopen, hcur, h1, h2, h3, h4, ?_, ?_, ?_⟩
  · obtain ⟨rs, s', h⟩ := src_reader_total S hparse hs s0 hg h0 (List.replicate (es.length + 1) .next)
    have := src_C01_scan_next S hparse hs s0 hg h0 rs s' h
    subst this
    exact ⟨s', h⟩
  · obtain ⟨rs, s', h⟩ := src_reader_total S hparse hs s0 hg h0 (List.replicate (es.length + 1) .prev)
    have := src_C01_scan_prev S hparse hs s0 hg h0 rs s' h
    subst this
    exact ⟨s', h⟩
  · intro hist
    obtain ⟨rs, s1, h, hlen, hag⟩ := src_C03_history_total S hparse hs s0 hg h0 hist
    refine ⟨rs, s1, h, hlen, hag, fun q => ⟨?_, ?_, ?_⟩⟩
    · obtain ⟨r, s2, h2⟩ := frt_step_after S hparse hs s0 hg h0 hist rs s1 h (.ge q)
      have hr := src_C02_ge_after S hparse hs s0 hg h0 hist rs s1 h q r s2 h2
      subst hr
      exact ⟨s2, h2⟩
    · obtain ⟨r, s2, h2⟩ := frt_step_after S hparse hs s0 hg h0 hist rs s1 h (.le q)
      have hr := src_C02_le_after S hparse hs s0 hg h0 hist rs s1 h q r s2 h2
      subst hr
      exact ⟨s2, h2⟩
    · obtain ⟨r, s2, h2⟩ := frt_step_after S hparse hs s0 hg h0 hist rs s1 h (.eq q)
      have hr := src_C02_eq_after S hparse hs s0 hg h0 hist rs s1 h q r s2 h2
      subst hr
      exact ⟨s2, h2⟩

/-- **C01/C02/C03, regenerated writer + regenerated reader, end to end, total correctness on both sides.**
    Same hypotheses as `src_C01_full_roundtrip`; the bytes the regenerated writer returns are opened by the
    regenerated `Reader::new` / `into_cursor`, and every call on the regenerated `ReaderCursor` RETURNS the specified
    result (`frt_ReadsBackTotal`). -/
theorem src_C01_full_roundtrip_total (cd : Codec) (wb : Gen.WriterBuilder) (es : List Entry)
    (hlaw : cd.Lawful) (hid : cd.id ≤ 5) (hlv : wb.index_levels ≤ 255)
    (hiv : ∀ iv, wb.index_key_interval = some iv → 1 ≤ iv ∧ iv < 2 ^ 64)
    (hasc : StrictAsc es) (hlens : ∀ e ∈ es, e.1.length < 2 ^ 32 ∧ e.2.length < 2 ^ 32)
    (hcount : es.length < 2 ^ 26)
    (hcd : ∀ b : Bytes, b.length < 2 ^ 63 → (cd.compress b).length < 2 ^ 64)
    (hct : wb.compression_type.toNat = cd.id) :
    ∃ file log,
      (do let (w, _) ← Gen.WriterBuilder.build wb []
          genWriterRun (codecFn cd) w es : M Sink) = .ok file ∧
      W.run cd (cfgOf wb) es = .ok (file, log) ∧
      (file.length < 2 ^ 64 → (∀ e ∈ log, e.raw.length < 2 ^ 32) → SmallBlocks cd file →
        frt_ReadsBackTotal cd es wb.index_levels file) := by
  obtain ⟨file, log, hgen, hrun, -⟩ :=
    src_C01_builder_roundtrip cd wb es hlaw hid hlv hiv hasc hlens hcount hcd hct
  refine ⟨file, log, hgen, hrun, fun hfile hblocks hs => ?_⟩
  exact frt_reads_total_of_setting
    (frt_setting cd wb es file log hlaw hid hlv hiv hasc hlens hcount hrun hfile hblocks) hs

/-- **The same without compression.** -/
theorem src_C01_full_roundtrip_total_none (wb : Gen.WriterBuilder) (es : List Entry)
    (hlv : wb.index_levels ≤ 255)
    (hiv : ∀ iv, wb.index_key_interval = some iv → 1 ≤ iv ∧ iv < 2 ^ 64)
    (hasc : StrictAsc es) (hlens : ∀ e ∈ es, e.1.length < 2 ^ 32 ∧ e.2.length < 2 ^ 32)
    (hcount : es.length < 2 ^ 26)
    (hct : wb.compression_type = .none) :
    ∃ file log,
      (do let (w, _) ← Gen.WriterBuilder.build wb []
          genWriterRun (codecFn Codec.none) w es : M Sink) = .ok file ∧
      W.run Codec.none (cfgOf wb) es = .ok (file, log) ∧
      (file.length < 2 ^ 62 → (∀ e ∈ log, e.raw.length < 2 ^ 32) →
        frt_ReadsBackTotal Codec.none es wb.index_levels file) := by
  obtain ⟨file, log, hgen, hrun, hread⟩ :=
    src_C01_full_roundtrip_total Codec.none wb es frt_none_lawful (by decide) hlv hiv hasc hlens hcount
      frt_none_bounded (by rw [hct]; rfl)
  refine ⟨file, log, hgen, hrun, fun hfile hblocks => ?_⟩
  exact hread (by omega) hblocks (smallBlocks_none file hfile)

/-! ### C04/C05: the regenerated range and prefix iterators on the bytes the regenerated writer returns -/

/-- **The regenerated iterators enumerate `es` from `file`.**  For every source position, all bounds `lo hi`, every
    prefix `p` and every fuel above the number of entries: `Reader::new`, `into_cursor`, `RangeIter::new` /
    `RevRangeIter::new` resp. `PrefixIter::new` / `RevPrefixIter::new`, then `next` until `None` — all regenerated code,
    over the regenerated cursor (`gstep (ie_mstep cd)`, `ie_gstep_ok`) — return exactly the entries within the bounds
    resp. with the prefix, ascending and (reversed iterators) descending.  These are the conclusions of
    `src_C04_range_open_e2e` and `src_C05_prefix_open_e2e`. -/
def frt_ItersBack (cd : Codec) (es : List Entry) (file : Bytes) : Prop :=
  ∀ (pos : Nat) (lo hi : Grenad.Bound) (p : Bytes) (fuel : Nat), fuel > es.length →
    (∃ rdr s0 it rit, Gen.Reader.new { bytes := file, pos := pos } = .ok rdr ∧ Gen.Reader.into_cursor rdr = .ok s0 ∧
      Gen.RangeIter.new s0 (toSrcBound lo, toSrcBound hi) = .ok it ∧
      collectM (Gen.RangeIter.next (gstep (ie_mstep cd))) fuel it [] = .ok (Spec.range es lo hi) ∧
      Gen.RevRangeIter.new s0 (toSrcBound lo, toSrcBound hi) = .ok rit ∧
      collectM (Gen.RevRangeIter.next (gstep (ie_mstep cd))) fuel rit [] = .ok (Spec.range es lo hi).reverse) ∧
    (∃ rdr s0 it rit, Gen.Reader.new { bytes := file, pos := pos } = .ok rdr ∧ Gen.Reader.into_cursor rdr = .ok s0 ∧
      Gen.PrefixIter.new s0 p = .ok it ∧
      collectM (Gen.PrefixIter.next (gstep (ie_mstep cd))) fuel it [] = .ok (Spec.withPrefix es p) ∧
      Gen.RevPrefixIter.new s0 p = .ok rit ∧
      collectM (Gen.RevPrefixIter.next (gstep (ie_mstep cd))) fuel rit [] = .ok (Spec.withPrefix es p).reverse)

theorem frt_iters_of_setting {cd : Codec} {cfg : WCfg} {es : List Entry} {file : Bytes} {log : List Emitted}
    (S : Setting cd cfg es file log) (hs : SmallBlocks cd file) : frt_ItersBack cd es file :=
  fun pos lo hi p fuel hfuel =>
    ⟨src_C04_range_open_e2e S hs pos lo hi fuel hfuel, src_C05_prefix_open_e2e S hs pos p fuel hfuel⟩

/-- **C04/C05, regenerated writer + regenerated reader, cursor and iterators, end to end (total).**
    Same hypotheses as `src_C01_full_roundtrip_total`; on the bytes the regenerated writer returns, the regenerated
    range and prefix iterators, forwards and reversed, return exactly the specified entries (`frt_ItersBack`). -/
theorem src_C04_C05_full_roundtrip (cd : Codec) (wb : Gen.WriterBuilder) (es : List Entry)
    (hlaw : cd.Lawful) (hid : cd.id ≤ 5) (hlv : wb.index_levels ≤ 255)
    (hiv : ∀ iv, wb.index_key_interval = some iv → 1 ≤ iv ∧ iv < 2 ^ 64)
    (hasc : StrictAsc es) (hlens : ∀ e ∈ es, e.1.length < 2 ^ 32 ∧ e.2.length < 2 ^ 32)
    (hcount : es.length < 2 ^ 26)
    (hcd : ∀ b : Bytes, b.length < 2 ^ 63 → (cd.compress b).length < 2 ^ 64)
    (hct : wb.compression_type.toNat = cd.id) :
    ∃ file log,
      (do let (w, _) ← Gen.WriterBuilder.build wb []
          genWriterRun (codecFn cd) w es : M Sink) = .ok file ∧
      W.run cd (cfgOf wb) es = .ok (file, log) ∧
      (file.length < 2 ^ 64 → (∀ e ∈ log, e.raw.length < 2 ^ 32) → SmallBlocks cd file →
        frt_ItersBack cd es file) := by
  obtain ⟨file, log, hgen, hrun, -⟩ :=
    src_C01_builder_roundtrip cd wb es hlaw hid hlv hiv hasc hlens hcount hcd hct
  refine ⟨file, log, hgen, hrun, fun hfile hblocks hs => ?_⟩
  exact frt_iters_of_setting
    (frt_setting cd wb es file log hlaw hid hlv hiv hasc hlens hcount hrun hfile hblocks) hs

/-- **The same without compression.** -/
theorem src_C04_C05_full_roundtrip_none (wb : Gen.WriterBuilder) (es : List Entry)
    (hlv : wb.index_levels ≤ 255)
    (hiv : ∀ iv, wb.index_key_interval = some iv → 1 ≤ iv ∧ iv < 2 ^ 64)
    (hasc : StrictAsc es) (hlens : ∀ e ∈ es, e.1.length < 2 ^ 32 ∧ e.2.length < 2 ^ 32)
    (hcount : es.length < 2 ^ 26)
    (hct : wb.compression_type = .none) :
    ∃ file log,
      (do let (w, _) ← Gen.WriterBuilder.build wb []
          genWriterRun (codecFn Codec.none) w es : M Sink) = .ok file ∧
      W.run Codec.none (cfgOf wb) es = .ok (file, log) ∧
      (file.length < 2 ^ 62 → (∀ e ∈ log, e.raw.length < 2 ^ 32) → frt_ItersBack Codec.none es file) := by
  obtain ⟨file, log, hgen, hrun, hread⟩ :=
    src_C04_C05_full_roundtrip Codec.none wb es frt_none_lawful (by decide) hlv hiv hasc hlens hcount
      frt_none_bounded (by rw [hct]; rfl)
  exact ⟨file, log, hgen, hrun, fun hfile hblocks => hread (by omega) hblocks (smallBlocks_none file hfile)⟩

/-! ### the hypotheses are jointly satisfiable (and the conclusion is not empty) -/

namespace FrtSmoke
open Grenad.Props.C01

/-- no compression, interval 2, two index levels below the root, 28-byte blocks (the setter's clamp is not part of
    `build`; `cfgOf` takes the stored value as the effective block size) -/
def wbS : Gen.WriterBuilder :=
  { compression_type := .none, compression_level := 0, index_key_interval := some 2, index_levels := 2,
    block_size := 28 }

/-- the size side conditions on the output of the model run, as a Boolean -/
def sizesOK : Bool :=
  match W.run Codec.none (cfgOf wbS) exEs with
  | .ok (f, l) => decide (f.length < 2 ^ 62) && l.all (fun e => decide (e.raw.length < 2 ^ 32)) &&
      decide (5 ≤ l.length)
  | .error _ => false

/-- **All hypotheses of `src_C01_builder_roundtrip` hold together** for `Codec.none`, the builder `wbS` and the twelve
    entries `Props.C01.exEs`.  The codec bound is restricted to blocks shorter than 2^63 bytes because the unrestricted
    `∀ b, (cd.compress b).length < 2^64` contradicts `cd.Lawful`: an injective function cannot map all byte strings
    into those shorter than 2^64. -/
theorem builder_hyps_sat :
    ∃ file log,
      (do let (w, _) ← Gen.WriterBuilder.build wbS []
          genWriterRun (codecFn Codec.none) w exEs : M Sink) = .ok file ∧
      W.run Codec.none (cfgOf wbS) exEs = .ok (file, log) := by
  obtain ⟨file, log, h1, h2, -⟩ :=
    src_C01_builder_roundtrip Codec.none wbS exEs frt_none_lawful (by decide) (by decide)
      (by intro iv h; simp only [wbS, Option.some.injEq] at h; subst h; decide)
      exHyps.asc exHyps.lens (by decide) frt_none_bounded rfl
  exact ⟨file, log, h1, h2⟩

/-- the `Setting` of this instance: the size side conditions on the output are checked by evaluation -/
theorem instance_setting :
    ∃ file log,
      (do let (w, _) ← Gen.WriterBuilder.build wbS []
          genWriterRun (codecFn Codec.none) w exEs : M Sink) = .ok file ∧
      Setting Codec.none (cfgOf wbS) exEs file log ∧ SmallBlocks Codec.none file := by
  obtain ⟨file, log, h1, h2⟩ := builder_hyps_sat
  have hs : sizesOK = true := by decide +kernel
  simp only [sizesOK, h2, Bool.and_eq_true, decide_eq_true_eq, List.all_eq_true] at hs
  refine ⟨file, log, h1, ?_, smallBlocks_none file hs.1.1⟩
  exact frt_setting Codec.none wbS exEs file log frt_none_lawful (by decide) (by decide)
    (by intro iv h; simp only [wbS, Option.some.injEq] at h; subst h; decide)
    exHyps.asc exHyps.lens (by decide) h2 (by have := hs.1.1; omega) hs.1.2

/-- **The full theorem applied**: every hypothesis, input and output side, holds on this instance (twelve entries,
    at least five blocks, two index levels), so the bytes the regenerated writer returns are read back by the
    regenerated reader. -/
theorem full_roundtrip_instance :
    ∃ file,
      (do let (w, _) ← Gen.WriterBuilder.build wbS []
          genWriterRun (codecFn Codec.none) w exEs : M Sink) = .ok file ∧
      frt_ReadsBack Codec.none exEs 2 file := by
  obtain ⟨file, log, h1, S, hs⟩ := instance_setting
  exact ⟨file, h1, frt_reads_of_setting S hs⟩

/-- **The total theorem applied** to the same instance: the regenerated writer returns `file`, the regenerated
    reader opens it, and every call on the regenerated cursor returns the specified result. -/
theorem full_roundtrip_total_instance :
    ∃ file,
      (do let (w, _) ← Gen.WriterBuilder.build wbS []
          genWriterRun (codecFn Codec.none) w exEs : M Sink) = .ok file ∧
      frt_ReadsBackTotal Codec.none exEs 2 file := by
  obtain ⟨file, log, h1, S, hs⟩ := instance_setting
  exact ⟨file, h1, frt_reads_total_of_setting S hs⟩

/-- **C04/C05 applied** to the same instance. -/
theorem iters_instance :
    ∃ file,
      (do let (w, _) ← Gen.WriterBuilder.build wbS []
          genWriterRun (codecFn Codec.none) w exEs : M Sink) = .ok file ∧
      frt_ItersBack Codec.none exEs file := by
  obtain ⟨file, log, h1, S, hs⟩ := instance_setting
  exact ⟨file, h1, frt_iters_of_setting S hs⟩

/-- the unrestricted codec bound is false already for `Codec.none` -/
example : ¬ ∀ b : Bytes, (Codec.none.compress b).length < 2 ^ 64 := by
  intro h
  have hlen : ∀ n : Nat, (Codec.none.compress (List.replicate n (0 : UInt8))).length = n :=
    fun n => List.length_replicate
  generalize hn : (2 : Nat) ^ 64 = n at h
  have := h (List.replicate n 0)
  rw [hlen] at this
  omega

end FrtSmoke

end Grenad.SrcTie

section Audit
open Grenad.SrcTie
#print axioms frt_setting
#print axioms frt_reads_of_setting
#print axioms src_C01_full_roundtrip
#print axioms src_C01_full_roundtrip_none
#print axioms FrtSmoke.builder_hyps_sat
#print axioms FrtSmoke.full_roundtrip_instance
#print axioms frt_reads_total_of_setting
#print axioms src_C01_full_roundtrip_total
#print axioms src_C01_full_roundtrip_total_none
#print axioms FrtSmoke.full_roundtrip_total_instance
#print axioms src_C04_C05_full_roundtrip
#print axioms src_C04_C05_full_roundtrip_none
#print axioms FrtSmoke.iters_instance
end Audit
