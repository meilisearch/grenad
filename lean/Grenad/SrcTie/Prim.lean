/-
  Grenad.SrcTie.Prim — what the primitives of `Grenad.Generated.Prelude` return when their side condition
  holds, and how the ties read a `bind` in `M`: backwards from a result (`bind_ok`), forwards to one
  (`bind_total`), and by rewriting (`ok_bind`, `bind_assoc'`, `bind_congr`, `bind_eta3`); `RTOk x Q`, "`x` returns a
  result satisfying `Q`", composes along `bind` (`rtok_bind`).
-/
import Grenad.Generated.Prelude
import Grenad.Model.Basic

namespace Grenad.SrcTie
open Grenad.R

theorem bind_ok {α β} {x : M α} {f : α → M β} {y : β} (h : Except.bind x f = .ok y) :
    ∃ a, x = .ok a ∧ f a = .ok y := by
  cases x with
  | error e => simp [Except.bind] at h
  | ok a => exact ⟨a, rfl, h⟩

theorem bind_total {α β} {x : M α} {f : α → M β} {a : α} (h1 : x = .ok a) (h2 : ∃ y, f a = .ok y) :
    ∃ y, Except.bind x f = .ok y := by
  subst h1; exact h2

/-- a call in tail position, `let (r, m) ← f x; return (r, m)` -/
theorem bind_pair_ok {α β} {x : M (α × β)} {y : α × β}
    (h : Except.bind x (fun p => match p with | (a, b) => Except.pure (a, b)) = .ok y) : x = .ok y := by
  obtain ⟨⟨a, b⟩, rfl, h⟩ := bind_ok h
  exact h

theorem ok_bind {α β : Type} (a : α) (f : α → M β) : Except.bind (Except.ok a) f = f a := rfl

theorem bind_assoc' {α β γ : Type} (x : M α) (f : α → M β) (g : β → M γ) :
    Except.bind (Except.bind x f) g = Except.bind x fun a => Except.bind (f a) g := by
  cases x <;> rfl

theorem bind_congr {α β : Type} {x : M α} {f g : α → M β} (h : ∀ a, f a = g a) :
    Except.bind x f = Except.bind x g :=
  congrArg (Except.bind x) (funext h)

/-- `let (a, b, c) ← x; return (a, b, c)` is `x` -/
theorem bind_eta3 {α β γ : Type} (x : M (α × β × γ)) :
    (Except.bind x fun y => match y with | (a, b, c) => Except.pure (a, b, c)) = x := by
  cases x <;> rfl

def RTOk {α : Type} (x : M α) (Q : α → Prop) : Prop := ∃ y, x = .ok y ∧ Q y

theorem rtok_bind {α β : Type} {x : M α} {f : α → M β} {P : α → Prop} {Q : β → Prop}
    (hx : RTOk x P) (hf : ∀ a, P a → RTOk (f a) Q) : RTOk (Except.bind x f) Q := by
  obtain ⟨a, rfl, ha⟩ := hx
  exact hf a ha

theorem rtok_ok {α : Type} {a : α} {Q : α → Prop} (h : Q a) : RTOk (Except.ok a : M α) Q := ⟨a, rfl, h⟩

theorem rtok_mono {α : Type} {x : M α} {P Q : α → Prop} (hx : RTOk x P) (h : ∀ a, P a → Q a) : RTOk x Q := by
  obtain ⟨a, ha, hp⟩ := hx
  exact ⟨a, ha, h a hp⟩

theorem rtok_of_eq {α : Type} {x : M α} {a : α} {Q : α → Prop} (hx : x = .ok a) (h : Q a) : RTOk x Q :=
  ⟨a, hx, h⟩

theorem add_ok {w a b : Nat} (h : a + b < 2 ^ w) : add w a b = .ok (a + b) := by
  simp [add, h, pure, Except.pure]

theorem sub_ok {w a b : Nat} (h : b ≤ a) : sub w a b = .ok (a - b) := by
  simp [sub, h, pure, Except.pure]

theorem mul_ok {w a b : Nat} (h : a * b < 2 ^ w) : mul w a b = .ok (a * b) := by
  simp [mul, h, pure, Except.pure]

theorem shl32 (x k : Nat) (hk : k < 32) (hx : x * 2 ^ k < 2 ^ 32) : shl 32 x k = .ok (x * 2 ^ k) := by
  simp [shl, hk, pure, Except.pure, Nat.shiftLeft_eq, Nat.mod_eq_of_lt hx]

theorem shl32_wrap (x k : Nat) (hk : k < 32) : shl 32 x k = .ok (x * 2 ^ k % 2 ^ 32) := by
  simp [shl, hk, pure, Except.pure, Nat.shiftLeft_eq]

theorem idx_ok {α} (l : List α) (i : Nat) (h : i < l.length) : idx l i = .ok l[i] := by
  simp [idx, h, pure, Except.pure]

theorem idx_getD {α} (l : List α) (i : Nat) (d : α) (h : i < l.length) : idx l i = .ok (l.getD i d) := by
  simp [idx, h, pure, Except.pure]

theorem idx_of_getElem? {α} {l : List α} {i : Nat} {x : α} (h : l[i]? = some x) : idx l i = .ok x := by
  simp [idx, h, pure, Except.pure]

/-- an index that returns is in range -/
theorem idx_ok_inv {α} {l : List α} {i : Nat} {x : α} (h : idx l i = .ok x) :
    l[i]? = some x := by
  unfold idx at h
  cases hg : l[i]? with
  | none => simp [hg, throw, throwThe, MonadExceptOf.throw] at h
  | some y => simpa [hg, pure, Except.pure] using h

theorem sliceTo_ok {α} {l : List α} {n : Nat} (h : n ≤ l.length) : sliceTo l n = .ok (l.take n) := by
  simp [sliceTo, h, pure, Except.pure]

theorem sliceFrom_ok {α} {l : List α} {a : Nat} (h : a ≤ l.length) : sliceFrom l a = .ok (l.drop a) := by
  simp [sliceFrom, h, pure, Except.pure]

theorem sliceRange_eq {α} (P : List α) (o n : Nat) :
    sliceRange P o (o + n) = (if o + n ≤ P.length then .ok ((P.drop o).take n)
      else .error (.panic "range end index out of range")) := by
  have : o ≤ o + n := by omega
  simp only [sliceRange, this, if_true]
  split
  · simp [pure, Except.pure, List.drop_take]
  · rfl

/-- the translator's `to_le_bytes` / `to_be_bytes` are the model's -/
theorem leBytes_eq_leN : ∀ n v, leBytes n v = leN n v
  | 0, _ => rfl
  | n + 1, v => by simp [leBytes, leN, leBytes_eq_leN n]

theorem beBytes_eq_beN (n v : Nat) : beBytes n v = beN n v := by
  simp [beBytes, beN, leBytes_eq_leN]

theorem beBytes8_eq : beBytes 8 = be64 := by funext v; simp [be64, beBytes_eq_beN]

end Grenad.SrcTie
