/-
  Grenad.SrcTie.Bits — the bit-level facts that connect the translated Rust arithmetic
  (`|`, `&`, `>>`, `<<`, `as u8`) with the `% / +` arithmetic of the hand-written model.
-/
import Grenad.Generated.Prelude

namespace Grenad.SrcTie
open Grenad.R

theorem or128_mod256 (x : Nat) : (x ||| 128) % 256 = x % 128 + 128 := by
  have h : ∀ y : Fin 256, (y.val ||| 128) % 256 = y.val % 128 + 128 := by decide +kernel
  have h2 := h ⟨x % 256, Nat.mod_lt _ (by decide)⟩
  simp only at h2
  have : (x ||| 128) % 256 = (x % 256 ||| 128) % 256 := by
    rw [show (256:Nat) = 2^8 from rfl, Nat.or_mod_two_pow, Nat.or_mod_two_pow]; simp
  rw [this, h2]; omega

theorem and127 (x : Nat) : x &&& 127 = x % 128 := Nat.and_two_pow_sub_one_eq_mod x 7

theorem and128_eq_zero_iff (x : Nat) (hx : x < 256) : (x &&& 128 = 0) ↔ x < 128 := by
  have h : ∀ y : Fin 256, (y.val &&& 128 = 0) ↔ y.val < 128 := by decide +kernel
  exact h ⟨x, hx⟩

/-- or-ing a digit in above the bits of `a` adds it -/
theorem or_digit (a b k : Nat) (ha : a < 2 ^ k) : a ||| b * 2 ^ k = a + b * 2 ^ k := by
  rw [Nat.or_comm, ← Nat.shiftLeft_eq, ← Nat.shiftLeft_add_eq_or_of_lt ha, Nat.shiftLeft_eq]; omega

/-- a seven-bit digit placed above `k` bits leaves a number of `k + 7` bits -/
theorem add_digit_lt (a x k : Nat) (ha : a < 2 ^ k) (hx : x < 128) : a + x * 2 ^ k < 2 ^ (k + 7) := by
  have : x * 2 ^ k ≤ 127 * 2 ^ k := Nat.mul_le_mul_right _ (by omega)
  rw [Nat.pow_add]; omega

/-- … also when the digit has been cut to 32 bits first -/
theorem or_digit_wrap (a b k : Nat) (hk : k ≤ 32) (ha : a < 2 ^ k) :
    a ||| b * 2 ^ k % 2 ^ 32 = a + b * 2 ^ k % 2 ^ 32 := by
  have h32 : 2 ^ 32 = 2 ^ (32 - k) * 2 ^ k := by rw [← Nat.pow_add]; congr 1; omega
  rw [h32, Nat.mul_mod_mul_right]
  exact or_digit a (b % 2 ^ (32 - k)) k ha

@[simp] theorem ofNat_mod256 (x : Nat) : UInt8.ofNat (x % 256) = UInt8.ofNat x := by
  apply UInt8.toNat_inj.mp; simp

end Grenad.SrcTie
