/-
  Grenad.SrcTie.MergerBuilder — translator tie for `MergerBuilder` (src/merger.rs), regenerated from /repo/src on every
  run: sources are kept in the order they were added (`push`/`add` append, `build` hands the list over unchanged), which
  is the order C06 merges a key's values in (the source index of `Entry::cmp` and of `src_merger_start`).
-/
import Grenad.Generated.Src.SrcMergerIter

set_option linter.unusedSimpArgs false
set_option linter.unusedVariables false

namespace Grenad.SrcTie
open Grenad.R Grenad.Gen

variable {γ : Type}

theorem src_merger_builder_new : (Gen.MergerBuilder.new () : M (Gen.MergerBuilder γ)) = .ok { sources := [] } := rfl

theorem src_merger_builder_of_merger : (Gen.Merger.builder () : M (Gen.MergerBuilder γ)) = .ok { sources := [] } := rfl

theorem src_merger_builder_push (b : Gen.MergerBuilder γ) (c : γ) :
    Gen.MergerBuilder.push b c = .ok { sources := b.sources ++ [c] } := rfl

theorem src_merger_builder_add (b : Gen.MergerBuilder γ) (c : γ) :
    Gen.MergerBuilder.add b c = .ok { sources := b.sources ++ [c] } := rfl

/-- adding a list of sources one by one -/
def mbPushAll (b : Gen.MergerBuilder γ) : List γ → M (Gen.MergerBuilder γ)
  | [] => .ok b
  | c :: cs => match Gen.MergerBuilder.push b c with
    | .ok b' => mbPushAll b' cs
    | .error e => .error e

/-- **Sources keep their order**: a builder fed `cs` one by one builds a merger over exactly `cs`, in that order — the
    list `into_stream_merger_iter` enumerates to give each source its index. -/
theorem src_merger_builder_order (cs : List γ) :
    (match mbPushAll ({ sources := [] } : Gen.MergerBuilder γ) cs with
      | .ok b => Gen.MergerBuilder.build b
      | .error e => .error e) = .ok { sources := cs } := by
  have h : ∀ (cs : List γ) (acc : List γ), mbPushAll ({ sources := acc } : Gen.MergerBuilder γ) cs = .ok { sources := acc ++ cs } := by
    intro cs
    induction cs with
    | nil => intro acc; simp [mbPushAll]
    | cons c cs ih =>
      intro acc
      simp only [mbPushAll, src_merger_builder_push]
      rw [ih]
      simp
  rw [h cs []]
  rfl

end Grenad.SrcTie
