/-
  Grenad.SrcTie.MergerSim — the regenerated merger over ANY cursor type `γ` whose `step` simulates the
  list cursor (`LCur`, `lstep`) through an abstraction `abs : γ → LCur` on the two operations the merger
  applies (`current`, `move_on_next`): the regenerated functions commute with `abs` (parametricity).
-/
import Grenad.SrcTie.MergerIterRun

set_option linter.unusedSimpArgs false
set_option linter.unusedVariables false

namespace Grenad.SrcTie
open Grenad Grenad.R Grenad.Gen Grenad.Wave3

/-- the cursor `step` behaves, through `abs`, like the list cursor on `current` and `next` -/
def CurSim {γ : Type} (step : γ → CurOp → γ × CurRes) (abs : γ → LCur) : Prop :=
  ∀ c op, (op = CurOp.current ∨ op = CurOp.next) →
    (step c op).2 = (lstep (abs c) op).2 ∧ abs (step c op).1 = (lstep (abs c) op).1

/-- a heap entry over `γ` read as a heap entry over the list cursor -/
def absE' {γ : Type} (abs : γ → LCur) (e : Gen.Entry γ) : Gen.Entry LCur :=
  { cursor := abs e.cursor, source_index := e.source_index }

/-- the iterator over `γ` read as an iterator over the list cursor -/
def absI {γ : Type} (abs : γ → LCur) (it : Gen.MergerIter γ) : Gen.MergerIter LCur :=
  { heap := it.heap.map (absE' abs), current_key := it.current_key, merged_value := it.merged_value,
    tmp_entries := it.tmp_entries.map (absE' abs) }

/-! ### Generic plumbing in `Except` -/

theorem ms_bind {ε α α' β β' : Type} (h : α → α') (g : β → β') (A : Except ε α) (A' : Except ε α')
    (k : α → Except ε β) (k' : α' → Except ε β')
    (hA : A.map h = A') (hk : ∀ a, (k a).map g = k' (h a)) :
    (A >>= k).map g = A' >>= k' := by
  subst hA
  cases A with
  | error e => rfl
  | ok a => exact hk a

theorem ms_bind' {ε α β β' : Type} (g : β → β') (A A' : Except ε α)
    (k : α → Except ε β) (k' : α → Except ε β')
    (hA : A = A') (hk : ∀ a, (k a).map g = k' a) :
    (A >>= k).map g = A' >>= k' :=
  ms_bind id g A A' k k' (by subst hA; cases A <;> rfl) hk

theorem ms_filterMapM {α α' β : Type} (p : α → α') (F : α → M (Option β)) (F' : α' → M (Option β))
    (hF : ∀ e, F e = F' (p e)) : ∀ T : List α, List.filterMapM F T = List.filterMapM F' (T.map p) := by
  intro T
  induction T with
  | nil => rfl
  | cons e T ih => rw [List.map_cons, List.filterMapM_cons, List.filterMapM_cons, hF e, ih]

def ms_stepMap {σ σ' : Type} (g : σ → σ') : ForInStep σ → ForInStep σ'
  | .done s => .done (g s)
  | .yield s => .yield (g s)

theorem ms_forInMap {ε α α' σ σ' : Type} (g : σ → σ') (p : α → α') (f : α → σ → Except ε (ForInStep σ))
    (f' : α' → σ' → Except ε (ForInStep σ'))
    (hf : ∀ x st, (f x st).map (ms_stepMap g) = f' (p x) (g st)) :
    ∀ (l : List α) (init : σ), (forIn l init f).map g = forIn (l.map p) (g init) f' := by
  intro l
  induction l with
  | nil => intro init; rfl
  | cons x l ih =>
    intro init
    rw [List.map_cons, List.forIn_cons, List.forIn_cons, ← hf x init]
    cases f x init with
    | error e => rfl
    | ok s =>
      cases s with
      | done s => rfl
      | yield s => exact ih s

theorem ms_forIn {ε α σ σ' : Type} (g : σ → σ') (f : α → σ → Except ε (ForInStep σ))
    (f' : α → σ' → Except ε (ForInStep σ'))
    (hf : ∀ x st, (f x st).map (ms_stepMap g) = f' x (g st)) (l : List α) (init : σ) :
    (forIn l init f).map g = forIn l (g init) f' := by
  simpa using ms_forInMap g id f f' hf l init

theorem ms_eraseIdx_map {α β : Type} (f : α → β) : ∀ (l : List α) (i : Nat),
    (l.eraseIdx i).map f = (l.map f).eraseIdx i := by
  intro l
  induction l with
  | nil => intro i; rfl
  | cons x l ih =>
    intro i
    cases i with
    | zero => rfl
    | succ i => simp only [List.eraseIdx_cons_succ, List.map_cons, ih]

section
variable {γ : Type} {step : γ → CurOp → γ × CurRes} {abs : γ → LCur}

theorem ms_current (hsim : CurSim step abs) (c : γ) :
    (step c CurOp.current).2 = (lstep (abs c) CurOp.current).2 := (hsim c _ (Or.inl rfl)).1

theorem ms_next_res (hsim : CurSim step abs) (c : γ) :
    (step c CurOp.next).2 = (lstep (abs c) CurOp.next).2 := (hsim c _ (Or.inr rfl)).1

theorem ms_next_cur (hsim : CurSim step abs) (c : γ) :
    abs (step c CurOp.next).1 = (lstep (abs c) CurOp.next).1 := (hsim c _ (Or.inr rfl)).2

/-- **ms_cmp.** `Entry::cmp` only looks at what `current()` answers. -/
theorem ms_cmp (hsim : CurSim step abs) (a b : Gen.Entry γ) :
    Gen.Entry.cmp step a b = Gen.Entry.cmp lstep (absE' abs a) (absE' abs b) := by
  have ha := ms_current hsim a.cursor
  have hb := ms_current hsim b.cursor
  unfold Gen.Entry.cmp
  simp only [absE']
  rw [← ha, ← hb]

/-! ### `BinaryHeap::peek` / `pop` -/

theorem ms_heapMaxIdx (hsim : CurSim step abs) : ∀ (xs : List (Gen.Entry γ)) (i : Nat)
    (best : Option (Nat × Gen.Entry γ)),
    (heapMaxIdxM (Gen.Entry.cmp step) xs i best).map (Option.map (Prod.map id (absE' abs))) =
      heapMaxIdxM (Gen.Entry.cmp lstep) (xs.map (absE' abs)) i (best.map (Prod.map id (absE' abs))) := by
  intro xs
  induction xs with
  | nil => intro i best; rfl
  | cons x xs ih =>
    intro i best
    cases best with
    | none =>
      simp only [List.map_cons, Option.map_none, heapMaxIdxM]
      exact ih (i + 1) (some (i, x))
    | some p =>
      obtain ⟨j, b⟩ := p
      simp only [List.map_cons, Option.map_some, Prod.map, id, heapMaxIdxM]
      rw [← ms_cmp hsim b x]
      cases Gen.Entry.cmp step b x with
      | error e => rfl
      | ok o =>
        simp only [bind, Except.bind]
        split
        · exact ih (i + 1) (some (i, x))
        · exact ih (i + 1) (some (j, b))

theorem ms_heapPeek (hsim : CurSim step abs) (h : List (Gen.Entry γ)) :
    (heapPeekM (Gen.Entry.cmp step) h).map (Option.map (absE' abs)) =
      heapPeekM (Gen.Entry.cmp lstep) (h.map (absE' abs)) := by
  have := ms_heapMaxIdx hsim h 0 none
  simp only [heapPeekM, Option.map_none] at this ⊢
  rw [← this]
  cases heapMaxIdxM (Gen.Entry.cmp step) h 0 none with
  | error e => rfl
  | ok r => cases r <;> rfl

theorem ms_heapPop (hsim : CurSim step abs) (h : List (Gen.Entry γ)) :
    (heapPopM (Gen.Entry.cmp step) h).map (fun p => (p.1.map (absE' abs), p.2.map (absE' abs))) =
      heapPopM (Gen.Entry.cmp lstep) (h.map (absE' abs)) := by
  have := ms_heapMaxIdx hsim h 0 none
  simp only [heapPopM, Option.map_none] at this ⊢
  rw [← this]
  cases heapMaxIdxM (Gen.Entry.cmp step) h 0 none with
  | error e => rfl
  | ok r =>
    cases r with
    | none => rfl
    | some p =>
      obtain ⟨i, x⟩ := p
      simp only [Except.map, bind, Except.bind, pure, Except.pure, Option.map_some, Prod.map, id,
        ms_eraseIdx_map]

/-! ### `Merger::into_stream_merger_iter` -/

theorem ms_start (hsim : CurSim step abs) (m : Gen.Merger γ) :
    (Gen.Merger.into_stream_merger_iter step m).map (absI abs) =
      Gen.Merger.into_stream_merger_iter lstep { sources := m.sources.map abs } := by
  unfold Gen.Merger.into_stream_merger_iter
  simp only [List.zipIdx_map]
  refine ms_bind (List.map (absE' abs)) (absI abs) _ _ _ _ ?_ ?_
  · refine ms_forInMap (List.map (absE' abs)) (Prod.map abs id) _ _ ?_ _ _
    rintro ⟨c, i⟩ heap
    have h1 := ms_next_res hsim c
    have h2 := ms_next_cur hsim c
    simp only [Prod.map, id]
    generalize step c CurOp.next = s at h1 h2
    generalize lstep (abs c) CurOp.next = s' at h1 h2
    obtain ⟨c2, r3⟩ := s
    obtain ⟨c2', r3'⟩ := s'
    simp only at h1 h2
    subst h1 h2
    cases r3 with
    | none => rfl
    | some o =>
      simp only [liftCur, bind, Except.bind, pure, Except.pure]
      cases o with
      | none => rfl
      | some kv => simp [Except.map, ms_stepMap, absE']
  · intro heap; rfl

/-! ### `MergerIter::next`, piece by piece -/

theorem ms_peekBody (hsim : CurSim step abs) (k : List UInt8) (x : Nat) (st : Gen.MergerIter γ × Bool) :
    (peekBody step k x st).map (ms_stepMap fun s => (absI abs s.1, s.2)) =
      peekBody lstep k x (absI abs st.1, st.2) := by
  obtain ⟨it1, fin⟩ := st
  unfold peekBody
  refine ms_bind (Option.map (absE' abs)) _ _ _ _ _ (ms_heapPeek hsim it1.heap) ?_
  intro o
  cases o with
  | none => rfl
  | some en =>
    simp only [Option.map_some, absE']
    rw [ms_current hsim en.cursor]
    cases (lstep (abs en.cursor) CurOp.current).snd with
    | none => rfl
    | some o =>
      cases o with
      | none => rfl
      | some kv =>
        obtain ⟨k', v'⟩ := kv
        simp only [liftCur, pure_bind]
        by_cases hk : (k == k') = true
        · simp only [hk, if_true]
          refine ms_bind (fun p => (p.1.map (absE' abs), p.2.map (absE' abs))) _ _ _ _ _
            (ms_heapPop hsim it1.heap) ?_
          rintro ⟨r9, h10⟩
          cases r9 with
          | none => rfl
          | some e9 => simp [Except.map, ms_stepMap, absI, pure, Except.pure, absE']
        · simp only [hk, if_false]
          rfl

theorem ms_valueOf (hsim : CurSim step abs) (e : Gen.Entry γ) :
    valueOf step e = valueOf lstep (absE' abs e) := by
  simp only [valueOf, absE', ms_current hsim e.cursor]

theorem ms_advBody (hsim : CurSim step abs) (en : Gen.Entry γ) (st : Gen.MergerIter γ) :
    (advBody step en st).map (ms_stepMap (absI abs)) = advBody lstep (absE' abs en) (absI abs st) := by
  simp only [advBody, absE']
  rw [ms_next_res hsim en.cursor, ← ms_next_cur hsim en.cursor]
  cases (lstep (abs en.cursor) CurOp.next).snd with
  | none => rfl
  | some o =>
    cases o with
    | none => rfl
    | some kv => simp [Except.map, ms_stepMap, absE', absI, pure, Except.pure, bind, Except.bind, liftCur]

theorem ms_nextMerge (hsim : CurSim step abs) (merge : List UInt8 → List (List UInt8) → Except Unit Cow)
    (first : Gen.Entry γ) (k v : List UInt8) (it : Gen.MergerIter γ) :
    (nextMerge step merge first k v it).map (fun p => (p.1, absI abs p.2)) =
      nextMerge lstep merge (absE' abs first) k v (absI abs it) := by
  unfold nextMerge
  simp only [absI, List.length_map]
  refine ms_bind (fun s => (absI abs s.1, s.2)) _ _ _ _ _
    (ms_forIn (fun s : Gen.MergerIter γ × Bool => (absI abs s.1, s.2)) _ _ (ms_peekBody hsim k) _ _) ?_
  rintro ⟨it1, fin⟩
  cases fin with
  | false => rfl
  | true =>
    rw [if_neg (by decide : ¬ ((!true) = true)), if_neg (by decide : ¬ ((!true) = true))]
    refine ms_bind' _ _ _ _ _ (ms_filterMapM (absE' abs) _ _ (ms_valueOf hsim) _) ?_
    intro ov
    cases merge k ([v] ++ ov) with
    | error u => rfl
    | ok cow =>
      cases cow with
      | owned b | borrowed b =>
        exact ms_bind (absI abs) _ _ _ _ _
          (ms_forInMap (absI abs) (absE' abs) _ _ (ms_advBody hsim) _ _) (fun st => rfl)

theorem ms_next (hsim : CurSim step abs) (merge : List UInt8 → List (List UInt8) → Except Unit Cow)
    (it : Gen.MergerIter γ) :
    (Gen.MergerIter.next step merge it).map (fun p => (p.1, absI abs p.2)) =
      Gen.MergerIter.next lstep merge (absI abs it) := by
  rw [mergerIter_next_eq, mergerIter_next_eq]
  refine ms_bind (fun p => (p.1.map (absE' abs), p.2.map (absE' abs))) _ _ _ _ _
    (ms_heapPop hsim it.heap) ?_
  rintro ⟨r1, h2⟩
  cases r1 with
  | none => rfl
  | some e =>
    simp only [Option.map_some, absE', ms_current hsim e.cursor]
    cases (lstep (abs e.cursor) CurOp.current).snd with
    | none => rfl
    | some o =>
      cases o with
      | none => rfl
      | some kv => exact ms_nextMerge hsim merge e kv.1 kv.2 _

end

/-! ### Draining the iterator over any cursor -/

/-- `genCollect`, generic in the cursor -/
def genCollectG {γ : Type} (step : γ → CurOp → γ × CurRes)
    (merge : List UInt8 → List (List UInt8) → Except Unit Cow) :
    Nat → Gen.MergerIter γ → List Entry → M (List Entry)
  | 0, _, _ => .error (Fail.panic "genCollect: fuel exhausted")
  | fuel + 1, it, acc =>
    match Gen.MergerIter.next step merge it with
    | .ok (none, _) => .ok acc.reverse
    | .ok (some e, it') => genCollectG step merge fuel it' (e :: acc)
    | .error f => .error f

/-- `genMergerRun`, generic in the cursor: `into_stream_merger_iter` over the cursors `srcs`, then `next`
    until `None`, at most `fuel` times (the entries behind a generic cursor cannot be counted, so the fuel
    is a parameter; `genMergerRun` is the instance `fuel = totalLen + 1`). -/
def genMergerRunG {γ : Type} (step : γ → CurOp → γ × CurRes)
    (merge : List UInt8 → List (List UInt8) → Except Unit Cow) (fuel : Nat) (srcs : List γ) :
    M (List Entry) :=
  match Gen.Merger.into_stream_merger_iter step { sources := srcs } with
  | .ok it => genCollectG step merge fuel it []
  | .error f => .error f

section
variable {γ : Type} {step : γ → CurOp → γ × CurRes} {abs : γ → LCur}

theorem ms_collect (hsim : CurSim step abs) (merge : List UInt8 → List (List UInt8) → Except Unit Cow) :
    ∀ (fuel : Nat) (it : Gen.MergerIter γ) (acc : List Entry),
      genCollectG step merge fuel it acc = genCollect merge fuel (absI abs it) acc := by
  intro fuel
  induction fuel with
  | zero => intro it acc; rfl
  | succ fuel ih =>
    intro it acc
    simp only [genCollectG, genCollect]
    rw [← ms_next hsim merge it]
    cases Gen.MergerIter.next step merge it with
    | error f => rfl
    | ok p =>
      obtain ⟨r, it'⟩ := p
      cases r with
      | none => rfl
      | some e => exact ih it' (e :: acc)

/-- **src_merger_run_sim.**  The regenerated merger over any cursors `cs` that simulate (through `abs`)
    fresh list cursors over `lists` returns what it returns over those list cursors. -/
theorem src_merger_run_sim (hsim : CurSim step abs)
    (merge : List UInt8 → List (List UInt8) → Except Unit Cow) (cs : List γ) (lists : List (List Entry))
    (hcs : cs.map abs = lists.map (fun l => ({ fresh := true, rest := l } : LCur))) :
    genMergerRunG step merge (Merger.totalLen lists + 1) cs = genMergerRun merge lists := by
  unfold genMergerRunG genMergerRun
  rw [← hcs, ← ms_start hsim { sources := cs }]
  cases Gen.Merger.into_stream_merger_iter step { sources := cs } with
  | error f => rfl
  | ok it => exact ms_collect hsim merge _ it []

/-- **src_C06_merge_sim.**  C06 for the regenerated merger over ANY cursors that behave (on `current` and
    `move_on_next`) like fresh list cursors over strictly ascending entry lists, with a merge function that
    never fails: the result is exactly `Spec.mergeSpec`. -/
theorem src_C06_merge_sim (hsim : CurSim step abs) (mf' : Bytes → List Bytes → Bytes)
    (merge : List UInt8 → List (List UInt8) → Except Unit Cow)
    (hm : ∀ k vs, (merge k vs).toOption.map cowBytes = some (mf' k vs))
    (cs : List γ) (sources : List (List Entry))
    (hcs : cs.map abs = sources.map (fun l => ({ fresh := true, rest := l } : LCur)))
    (hasc : ∀ s ∈ sources, StrictAsc s) :
    genMergerRunG step merge (Merger.totalLen sources + 1) cs = .ok (Spec.mergeSpec mf' sources) := by
  rw [src_merger_run_sim hsim merge cs sources hcs, src_C06_merge mf' merge hm sources hasc]

/-- the same with any merge function: `mergeAll` over the groups, `Err(Error::Merge(_))` on a failed call -/
theorem src_C06_run_sim (hsim : CurSim step abs) (mf : MergeFn)
    (merge : List UInt8 → List (List UInt8) → Except Unit Cow)
    (hm : ∀ k vs, (merge k vs).toOption.map cowBytes = mf k vs)
    (cs : List γ) (sources : List (List Entry))
    (hcs : cs.map abs = sources.map (fun l => ({ fresh := true, rest := l } : LCur)))
    (hasc : ∀ s ∈ sources, StrictAsc s) :
    genMergerRunG step merge (Merger.totalLen sources + 1) cs =
      mergeOutcome (mergeAll mf (Spec.group sources.flatten)) := by
  rw [src_merger_run_sim hsim merge cs sources hcs, src_C06_run mf merge hm sources hasc]

/-- more fuel does not change a drained run -/
theorem ms_collect_mono (merge : List UInt8 → List (List UInt8) → Except Unit Cow) (n : Nat) :
    ∀ (fuel : Nat) (it : Gen.MergerIter γ) (acc out : List Entry),
      genCollectG step merge fuel it acc = .ok out → genCollectG step merge (fuel + n) it acc = .ok out := by
  intro fuel
  induction fuel with
  | zero => intro it acc out h; simp [genCollectG] at h
  | succ fuel ih =>
    intro it acc out h
    rw [Nat.add_right_comm]
    simp only [genCollectG] at h ⊢
    cases hn : Gen.MergerIter.next step merge it with
    | error f => rw [hn] at h; simp at h
    | ok p =>
      obtain ⟨r, it'⟩ := p
      rw [hn] at h
      cases r with
      | none => exact h
      | some e => exact ih it' (e :: acc) out h

theorem src_C06_merge_sim_fuel (hsim : CurSim step abs) (mf' : Bytes → List Bytes → Bytes)
    (merge : List UInt8 → List (List UInt8) → Except Unit Cow)
    (hm : ∀ k vs, (merge k vs).toOption.map cowBytes = some (mf' k vs))
    (cs : List γ) (sources : List (List Entry))
    (hcs : cs.map abs = sources.map (fun l => ({ fresh := true, rest := l } : LCur)))
    (hasc : ∀ s ∈ sources, StrictAsc s) (fuel : Nat) (hfuel : Merger.totalLen sources + 1 ≤ fuel) :
    genMergerRunG step merge fuel cs = .ok (Spec.mergeSpec mf' sources) := by
  have h := src_C06_merge_sim hsim mf' merge hm cs sources hcs hasc
  obtain ⟨n, rfl⟩ := Nat.exists_eq_add_of_le hfuel
  unfold genMergerRunG at h ⊢
  cases hs : Gen.Merger.into_stream_merger_iter step { sources := cs } with
  | error f => rw [hs] at h; simp at h
  | ok it =>
    rw [hs] at h
    exact ms_collect_mono merge n _ it [] _ h

end

theorem curSim_lstep : CurSim lstep id := fun c op _ => ⟨rfl, rfl⟩

/-- a cursor that also counts the calls made on it (state the merger never sees) simulates the list cursor -/
def cstep (c : LCur × Nat) (op : CurOp) : (LCur × Nat) × CurRes :=
  (((lstep c.1 op).1, c.2 + 1), (lstep c.1 op).2)

theorem curSim_cstep : CurSim cstep Prod.fst := fun c op _ => ⟨rfl, rfl⟩

/-- the hypotheses of `src_C06_merge_sim` on the counting cursors over the example sources of C06 -/
example : genMergerRunG cstep exMerge (Merger.totalLen Grenad.Props.C06.exSources + 1)
      (Grenad.Props.C06.exSources.map (fun l => (({ fresh := true, rest := l } : LCur), 0))) =
    .ok (Spec.mergeSpec Grenad.Props.C06.exConcat Grenad.Props.C06.exSources) :=
  src_C06_merge_sim curSim_cstep Grenad.Props.C06.exConcat exMerge exMerge_spec _ _
    (by simp [List.map_map, Function.comp_def]) Grenad.Props.C06.exAsc

end Grenad.SrcTie

section Axioms
open Grenad.SrcTie
#print axioms ms_cmp
#print axioms ms_heapPeek
#print axioms ms_heapPop
#print axioms ms_start
#print axioms ms_next
#print axioms src_merger_run_sim
#print axioms src_C06_merge_sim
#print axioms src_C06_run_sim
#print axioms src_C06_merge_sim_fuel
end Axioms
