/-
  Grenad.SrcTie.ReaderTotalIdx — total correctness of the regenerated reader on written files:
  the index level.  Every `IndexBlockCursor::move_on_*` of the regenerated code RETURNS on a state satisfying
  `RTIdx` (all cursors held are over writer-built index blocks of the right depth of the tree), re-establishes
  `RTIdx`, and the entry it returns carries an 8-byte offset of a stored data block.
-/
import Grenad.SrcTie.ReaderTotalBase

set_option linter.unusedSimpArgs false
set_option linter.unusedVariables false

namespace Grenad.SrcTie
open Grenad Grenad.R Grenad.Gen Grenad.Assembly Grenad.TCursor

/-- root-first list of index levels: the entries of the last one satisfy `RTG s k` -/
def RTT (iv : Nat) (log : List Emitted) (s : Store) (k : Nat) : List (Nat × Gen.BlockCursor) → Prop
  | [] => True
  | (_, c) :: rest => RTCur iv log (RTG s (rest.length + k)) c ∧ RTT iv log s k rest

theorem rtt_concat {iv : Nat} {log : List Emitted} {s : Store} {k : Nat} :
    ∀ (a : List (Nat × Gen.BlockCursor)) (o : Nat) (c : Gen.BlockCursor),
      RTT iv log s k (a ++ [(o, c)]) ↔ RTT iv log s (k + 1) a ∧ RTCur iv log (RTG s k) c
  | [], o, c => by simp [RTT]
  | (o', c') :: a, o, c => by
    simp only [List.cons_append, RTT, rtt_concat a o c, List.length_append, List.length_singleton, and_assoc]
    rw [show a.length + 1 + k = a.length + (k + 1) by omega]

theorem rtt_getLast {iv : Nat} {log : List Emitted} {s : Store} {k : Nat} :
    ∀ (l : List (Nat × Gen.BlockCursor)) (o : Nat) (c : Gen.BlockCursor), RTT iv log s k l →
      l.getLast? = some (o, c) → RTCur iv log (RTG s k) c := by
  intro l o c h hl
  rcases List.eq_nil_or_concat l with hnil | ⟨init, last, hcat⟩
  · subst hnil; cases hl
  · rw [List.concat_eq_append] at hcat
    subst hcat
    simp only [List.getLast?_append, List.getLast?_singleton, Option.some_or, Option.some.injEq] at hl
    subst hl
    exact ((rtt_concat init o c).1 h).2

section
variable {cd : Codec} {file : Bytes} {iv : Nat} {log : List Emitted} {s : Store}
variable (hs : SmallBlocks cd file) (hB : ByteSim s (loadCursor cd file) (Rb iv log)) (m : Mov)
include hs hB

theorem rt_initM (ct : CompressionType) : ∀ (d : Nat) (rd : Src) (jump : Nat) (acc : List (Nat × Gen.BlockCursor)),
    rd.bytes = file → RTPt s d jump →
    RTOk (initM cd ct (genMove m) d rd jump acc) fun x =>
      x.2.bytes = file ∧ ∀ l, x.1 = some l → ∃ suf, l = acc ++ suf ∧ suf.length = d ∧ RTT iv log s 1 suf := by
  intro d
  induction d with
  | zero =>
    intro rd jump acc hrd _
    refine rtok_ok ⟨hrd, ?_⟩
    intro l hl
    cases hl
    exact ⟨[], by simp, rfl, trivial⟩
  | succ d ih =>
    intro rd jump acc hrd hp
    unfold initM
    refine rtok_bind (rt_load hs hB hp rd hrd ct) ?_
    rintro ⟨c, rd1⟩ ⟨hc, -, h1⟩
    refine rtok_bind (rt_move hc m) ?_
    rintro ⟨r, c'⟩ ⟨hc', hr⟩
    cases r with
    | none => exact rtok_ok ⟨h1, fun l hl => by cases hl⟩
    | some e =>
      obtain ⟨k, ob⟩ := e
      obtain ⟨h8, hpt⟩ := hr _ rfl
      simp only [rt_beValueN8 k ob h8, ok_bind]
      refine rtok_mono (ih rd1 _ (acc ++ [(_, c')]) h1 hpt) ?_
      rintro x ⟨hb, hx⟩
      refine ⟨hb, ?_⟩
      intro l hl
      obtain ⟨suf, h2, h3, h4⟩ := hx l hl
      refine ⟨(offOf (k, ob), c') :: suf, by rw [h2]; simp, by simp [h3], ?_, h4⟩
      rw [h3]; exact hc'

theorem rt_initial_index_blocks (sI : Gen.IndexBlockCursor) (hlv : sI.index_levels ≤ 255)
    (hroot : RTPt s (sI.index_levels + 1) sI.base_block_offset) (rd : Src) (hrd : rd.bytes = file) :
    RTOk (Gen.IndexBlockCursor.initial_index_blocks (fun _ => cd.decompress) sI rd (genMove m)) fun x =>
      x.2.1 = sI ∧ x.2.2.bytes = file ∧
        ∀ l, x.1 = some l → l.length = sI.index_levels + 1 ∧ RTT iv log s 1 l := by
  rw [initial_index_blocks_eq]
  have hadd : add 64 sI.index_levels 1 = .ok (sI.index_levels + 1) := by
    unfold add
    have : sI.index_levels + 1 < 2 ^ 64 := by omega
    simp only [this, if_true, pure, Except.pure]
  rw [hadd, ok_bind]
  refine rtok_bind (rt_initM hs hB m _ _ rd _ [] hrd hroot) ?_
  rintro ⟨r, rd'⟩ ⟨hb, hr⟩
  refine rtok_ok ⟨rfl, hb, ?_⟩
  intro l hl
  obtain ⟨suf, h2, h3, h4⟩ := hr l hl
  rw [List.nil_append] at h2
  subst h2
  exact ⟨h3, h4⟩

theorem rt_iterLevelsM (ct : CompressionType) : ∀ (suf : List (Nat × Gen.BlockCursor)) (jump : Nat) (rd : Src),
    RTT iv log s 1 suf → rd.bytes = file → RTPt s suf.length jump →
    RTOk (iterLevelsM cd ct (genMove m) jump suf rd) fun w =>
      w.1.length = suf.length ∧ RTT iv log s 1 w.1 ∧ w.2.2.bytes = file := by
  intro suf
  induction suf with
  | nil =>
    intro jump rd _ hrd _
    exact rtok_ok ⟨rfl, trivial, hrd⟩
  | cons x rest ih =>
    intro jump rd hT hrd hp
    obtain ⟨xo, xc⟩ := x
    unfold iterLevelsM
    have hreload : RTOk (if jump ≠ xo then genLoad cd rd jump ct else .ok (xc, rd)) fun x =>
        RTCur iv log (RTG s (rest.length + 1)) x.1 ∧ x.2.bytes = file := by
      split
      · exact rtok_mono (rt_load hs hB hp rd hrd ct) fun _ h => ⟨h.1, h.2.2⟩
      · exact rtok_ok ⟨hT.1, hrd⟩
    refine rtok_bind hreload ?_
    rintro ⟨c, rd1⟩ ⟨hc, h1⟩
    refine rtok_bind (rt_move hc m) ?_
    rintro ⟨r, c'⟩ ⟨hc', hr⟩
    cases r with
    | none => exact rtok_ok ⟨rfl, ⟨hc', hT.2⟩, h1⟩
    | some e =>
      obtain ⟨k, ob⟩ := e
      obtain ⟨h8, hpt⟩ := hr _ rfl
      simp only [rt_beValueN8 k ob h8, ok_bind]
      refine rtok_bind (ih _ rd1 hT.2 h1 hpt) ?_
      rintro ⟨rest', done, rd2⟩ ⟨g1, g2, g3⟩
      exact rtok_ok ⟨by simp [g1], ⟨by rw [g1]; exact hc', g2⟩, g3⟩

/-- the invariant of the translated `IndexBlockCursor` over the tree rooted at `root` with `levels + 1` index levels -/
def RTIdx (iv : Nat) (log : List Emitted) (s : Store) (root levels : Nat) (sI : Gen.IndexBlockCursor) : Prop :=
  sI.base_block_offset = root ∧ sI.index_levels = levels ∧
    ∀ l, sI.inner = some l → l.length = levels + 1 ∧ RTT iv log s 1 l

def RTIdxPost (file : Bytes) (iv : Nat) (log : List Emitted) (s : Store) (root levels : Nat)
    (x : Option (Bytes × Bytes) × Gen.IndexBlockCursor × Src) : Prop :=
  x.2.2.bytes = file ∧ RTIdx iv log s root levels x.2.1 ∧ ∀ e, x.1 = some e → RTG s 1 e

variable {root levels : Nat} (hlv : levels ≤ 255) (hroot : RTPt s (levels + 1) root)
include hlv hroot

omit hs hB hlv hroot in
theorem rt_lastM (sI : Gen.IndexBlockCursor) (rd : Src) (hrd : rd.bytes = file)
    (hI : RTIdx iv log s root levels sI) : RTOk (lastM sI rd) (RTIdxPost file iv log s root levels) := by
  unfold lastM
  cases hin : sI.inner with
  | none => exact rtok_ok ⟨hrd, hI, fun e he => by cases he⟩
  | some l =>
    simp only [Option.bind_some]
    cases hlast : l.getLast? with
    | none => exact rtok_ok ⟨hrd, hI, fun e he => by cases he⟩
    | some p =>
      obtain ⟨o, c⟩ := p
      refine rtok_bind (rt_current (rtt_getLast l o c (hI.2.2 l hin).2 hlast)) ?_
      intro v hv
      exact rtok_ok ⟨hrd, hI, hv⟩

theorem rt_iter_index_blocks (sI : Gen.IndexBlockCursor) (hI : RTIdx iv log s root levels sI) (rd : Src)
    (hrd : rd.bytes = file) :
    RTOk (Gen.IndexBlockCursor.iter_index_blocks (fun _ => cd.decompress) sI rd (genMove m))
      (RTIdxPost file iv log s root levels) := by
  obtain ⟨hbase, hlev, hinn⟩ := hI
  rw [iter_index_blocks_eq]
  cases hinner : sI.inner with
  | some inner =>
    obtain ⟨hlen, hT⟩ := hinn inner hinner
    refine rtok_bind (rt_iterLevelsM hs hB m _ inner _ rd hT hrd (by rw [hlen, hbase]; exact hroot)) ?_
    rintro ⟨suf', done, rd1⟩ ⟨g1, g2, g3⟩
    have hI1 : RTIdx iv log s root levels { sI with inner := some suf' } := by
      refine ⟨hbase, hlev, ?_⟩
      intro l hl
      simp only [Option.some.injEq] at hl
      subst hl
      exact ⟨by rw [g1, hlen], g2⟩
    cases done with
    | true => exact rt_lastM _ rd1 g3 hI1
    | false => exact rtok_ok ⟨g3, hI1, fun e he => by cases he⟩
  | none =>
    refine rtok_bind (rt_initial_index_blocks hs hB m sI (by rw [hlev]; exact hlv)
      (by rw [hlev, hbase]; exact hroot) rd hrd) ?_
    rintro ⟨ri, si, rdi⟩ ⟨h1, h2, h3⟩
    simp only at h1 h2 h3
    subst h1
    have hI1 : RTIdx iv log s root levels { si with inner := ri } := by
      refine ⟨hbase, hlev, ?_⟩
      intro l hl
      obtain ⟨a, b⟩ := h3 l hl
      exact ⟨by rw [a, hlev], b⟩
    exact rt_lastM _ rdi h2 hI1

omit hlv hroot in
theorem rt_recursive_go : ∀ (fuel : Nat) (blocks : List (Nat × Gen.BlockCursor)) (rd : Src)
    (ct : CompressionType) (k : Nat), blocks.length < fuel → RTT iv log s (k + 1) blocks → rd.bytes = file →
    RTOk (Gen.IndexBlockCursor.recursive_index_block.recursive.go (fun _ => cd.decompress) rd ct blocks
      (genMove m) fuel) fun x =>
      x.2.1.bytes = file ∧ x.2.2.length = blocks.length ∧ RTT iv log s (k + 1) x.2.2 ∧
        ∀ e, x.1 = some e → RTG s (k + 1) e := by
  intro fuel
  induction fuel with
  | zero => intro blocks rd ct k hlt; omega
  | succ fuel ih =>
    intro blocks rd ct k hlt hT hrd
    rw [Gen.IndexBlockCursor.recursive_index_block.recursive.go]
    simp only [bind, pure]
    rcases List.eq_nil_or_concat blocks with hnil | ⟨init, last, hcat⟩
    · subst hnil
      have hn : ¬ (0 < ([] : List (Nat × Gen.BlockCursor)).length) := by simp
      rw [if_neg hn]
      exact rtok_ok ⟨hrd, rfl, hT, fun e he => by cases he⟩
    · rw [List.concat_eq_append] at hcat
      subst hcat
      obtain ⟨lo, lc⟩ := last
      have hpos : 0 < (init ++ [(lo, lc)]).length := by simp
      have hj : (init ++ [(lo, lc)]).length - 1 = init.length := by simp
      obtain ⟨hTi, hlc⟩ := (rtt_concat init lo lc).1 hT
      simp only [hpos, if_true, hj, getElem!_append_cons _ _ rfl, set_append_cons _ _ rfl, List.take_left,
        List.drop_left]
      refine rtok_bind (rt_move hlc m) ?_
      rintro ⟨r2, a3⟩ ⟨ha3, hr2⟩
      cases r2 with
      | some e =>
        obtain ⟨k', ob⟩ := e
        simp only
        refine rtok_bind (rt_current ha3) ?_
        intro v hv
        exact rtok_ok ⟨hrd, by simp, (rtt_concat init lo a3).2 ⟨hTi, ha3⟩, hv⟩
      | none =>
        simp only
        have hlt' : init.length < fuel := by simp at hlt; omega
        refine rtok_bind (ih init rd ct (k + 1) hlt' hTi hrd) ?_
        rintro ⟨r4, rd1, m6⟩ ⟨h1, hlen, hT6, hr4⟩
        simp only at h1 hlen hT6 hr4
        cases r4 with
        | none =>
          exact rtok_ok ⟨h1, by simp [hlen], (rtt_concat m6 lo a3).2 ⟨hT6, ha3⟩, fun e he => by cases he⟩
        | some e =>
          obtain ⟨k', ob⟩ := e
          obtain ⟨h8, hpt⟩ := hr4 _ rfl
          simp only [rt_beValueN8 k' ob h8, ok_bind]
          rw [genLoad_bind]
          refine rtok_bind (rt_load hs hB hpt rd1 h1 _) ?_
          rintro ⟨c, rd2⟩ ⟨hc, -, hx0⟩
          have hl' := hlen.symm
          simp only [getElem!_append_cons m6 init.length hl', set_append_cons m6 init.length hl']
          refine rtok_bind (rt_move hc m) ?_
          rintro ⟨r11, a12⟩ ⟨ha12, hr11⟩
          exact rtok_ok ⟨hx0, by simp [hlen], (rtt_concat m6 _ a12).2 ⟨hT6, ha12⟩, hr11⟩

theorem rt_recursive_index_block (sI : Gen.IndexBlockCursor) (hI : RTIdx iv log s root levels sI) (rd : Src)
    (hrd : rd.bytes = file) :
    RTOk (Gen.IndexBlockCursor.recursive_index_block (fun _ => cd.decompress) sI rd (genMove m))
      (RTIdxPost file iv log s root levels) := by
  obtain ⟨hbase, hlev, hinn⟩ := hI
  -- the second phase, from a list of levels
  have phase2 : ∀ (sJ : Gen.IndexBlockCursor) (inner : List (Nat × Gen.BlockCursor)) (rdj : Src),
      sJ.base_block_offset = root → sJ.index_levels = levels → inner.length = levels + 1 →
      RTT iv log s 1 inner → rdj.bytes = file →
      RTOk (Except.bind (Gen.IndexBlockCursor.recursive_index_block.recursive (fun _ => cd.decompress) rdj
          sJ.compression_type inner (genMove m)) fun x =>
            Except.pure (x.1, { sJ with inner := some x.2.2 }, x.2.1)) (RTIdxPost file iv log s root levels) := by
    intro sJ inner rdj hb hl hlen hT hrdj
    unfold Gen.IndexBlockCursor.recursive_index_block.recursive
    refine rtok_bind (rt_recursive_go hs hB m _ inner rdj sJ.compression_type 0 (by omega) hT hrdj) ?_
    rintro ⟨r4, rd5, m6⟩ ⟨g1, g2, g3, g4⟩
    refine rtok_ok ⟨g1, ⟨hb, hl, ?_⟩, g4⟩
    intro l hl'
    simp only [Option.some.injEq] at hl'
    subst hl'
    exact ⟨by simp only at g2; rw [g2, hlen], g3⟩
  unfold Gen.IndexBlockCursor.recursive_index_block
  simp only [bind, pure]
  cases hinner : sI.inner with
  | some inner =>
    simp only [Option.isNone_some, Bool.false_eq_true, if_false, Option.getD_some, hinner]
    obtain ⟨hlen, hT⟩ := hinn inner hinner
    exact phase2 sI inner rd hbase hlev hlen hT hrd
  | none =>
    simp only [Option.isNone_none, if_true]
    refine rtok_bind (rt_initial_index_blocks hs hB m sI (by rw [hlev]; exact hlv)
      (by rw [hlev, hbase]; exact hroot) rd hrd) ?_
    rintro ⟨ri, si, rdi⟩ ⟨h1, h2, h3⟩
    simp only at h1 h2 h3
    subst h1
    cases ri with
    | none =>
      refine rtok_ok ⟨h2, ⟨hbase, hlev, ?_⟩, fun e he => by cases he⟩
      intro l hl; cases hl
    | some inner =>
      simp only [Option.getD_some]
      obtain ⟨a, b⟩ := h3 inner rfl
      exact phase2 _ inner rdi hbase hlev (by rw [a, hlev]) b h2

theorem rt_index_move_on_first (sI : Gen.IndexBlockCursor) (hI : RTIdx iv log s root levels sI) (rd : Src)
    (hrd : rd.bytes = file) :
    RTOk (Gen.IndexBlockCursor.move_on_first (fun _ => cd.decompress) sI rd)
      (RTIdxPost file iv log s root levels) := by
  rw [idx_move_on_first_eq _ sI rd]
  exact rt_iter_index_blocks hs hB .first hlv hroot sI hI rd hrd

theorem rt_index_move_on_last (sI : Gen.IndexBlockCursor) (hI : RTIdx iv log s root levels sI) (rd : Src)
    (hrd : rd.bytes = file) :
    RTOk (Gen.IndexBlockCursor.move_on_last (fun _ => cd.decompress) sI rd)
      (RTIdxPost file iv log s root levels) := by
  rw [idx_move_on_last_eq _ sI rd]
  exact rt_iter_index_blocks hs hB .last hlv hroot sI hI rd hrd

theorem rt_index_move_on_ge (sI : Gen.IndexBlockCursor) (hI : RTIdx iv log s root levels sI) (key : Bytes)
    (rd : Src) (hrd : rd.bytes = file) :
    RTOk (Gen.IndexBlockCursor.move_on_key_greater_than_or_equal_to (fun _ => cd.decompress) sI key rd)
      (RTIdxPost file iv log s root levels) := by
  rw [idx_move_on_ge_eq _ sI rd key]
  exact rt_iter_index_blocks hs hB (.ge key) hlv hroot sI hI rd hrd

theorem rt_index_move_on_next (sI : Gen.IndexBlockCursor) (hI : RTIdx iv log s root levels sI) (rd : Src)
    (hrd : rd.bytes = file) :
    RTOk (Gen.IndexBlockCursor.move_on_next (fun _ => cd.decompress) sI rd)
      (RTIdxPost file iv log s root levels) := by
  rw [idx_move_on_next_eq _ sI rd]
  exact rt_recursive_index_block hs hB .next hlv hroot sI hI rd hrd

theorem rt_index_move_on_prev (sI : Gen.IndexBlockCursor) (hI : RTIdx iv log s root levels sI) (rd : Src)
    (hrd : rd.bytes = file) :
    RTOk (Gen.IndexBlockCursor.move_on_prev (fun _ => cd.decompress) sI rd)
      (RTIdxPost file iv log s root levels) := by
  rw [idx_move_on_prev_eq _ sI rd]
  exact rt_recursive_index_block hs hB .prev hlv hroot sI hI rd hrd

end

end Grenad.SrcTie

section Audit
open Grenad.SrcTie
#print axioms rt_index_move_on_first
#print axioms rt_index_move_on_last
#print axioms rt_index_move_on_ge
#print axioms rt_index_move_on_next
#print axioms rt_index_move_on_prev
end Audit
