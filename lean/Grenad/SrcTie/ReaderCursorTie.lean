/-
  Grenad.SrcTie.ReaderCursorTie — translator tie for `ReaderCursor` (src/reader/reader_cursor.rs, regenerated into
  Generated/Src/SrcReaderCursor2.lean on every run): whenever a generated `ReaderCursor` operation returns, the model's
  `RC.first/last/next/prev/ge/le/eq/reset/current` (Model/Reader.lean) returns the same entry and the same state, given
  the tie of the index level (`IdxTie`).
-/
import Grenad.Generated.Src.SrcReaderCursor2
import Grenad.SrcTie.IndexCursorLoad

set_option linter.unusedSimpArgs false
set_option linter.unusedVariables false

namespace Grenad.SrcTie
open Grenad Grenad.R Grenad.Gen

/-- what the tie of `IndexBlockCursor` provides (proved in IndexCursor*.lean) -/
structure IdxTie (cd : Codec) (file : Bytes) (Q : Grenad.Block → Prop) (ops : BlockOps Grenad.BlockCursor) : Prop where
  iter_first : ∀ (s s' : Gen.IndexBlockCursor) (rd rd' : Src) (cur : Option Grenad.BlockCursor) (log : List Nat)
      (r : Option (Bytes × Bytes)), rd.bytes = file → GoodIdx Q s → s.index_levels ≤ 255 →
      Gen.IndexBlockCursor.move_on_first (fun _ => cd.decompress) s rd = .ok (r, s', rd') →
      rd'.bytes = file ∧ GoodIdx Q s' ∧ s'.base_block_offset = s.base_block_offset ∧ s'.index_levels = s.index_levels ∧
      s'.compression_type = s.compression_type ∧
      ∃ log', RC.iterIndex ops (loadCursor cd file) .first (toRC s cur log) = some (toRC s' cur log', r)
  iter_last : ∀ (s s' : Gen.IndexBlockCursor) (rd rd' : Src) (cur : Option Grenad.BlockCursor) (log : List Nat)
      (r : Option (Bytes × Bytes)), rd.bytes = file → GoodIdx Q s → s.index_levels ≤ 255 →
      Gen.IndexBlockCursor.move_on_last (fun _ => cd.decompress) s rd = .ok (r, s', rd') →
      rd'.bytes = file ∧ GoodIdx Q s' ∧ s'.base_block_offset = s.base_block_offset ∧ s'.index_levels = s.index_levels ∧
      s'.compression_type = s.compression_type ∧
      ∃ log', RC.iterIndex ops (loadCursor cd file) .last (toRC s cur log) = some (toRC s' cur log', r)
  iter_ge : ∀ (s s' : Gen.IndexBlockCursor) (rd rd' : Src) (key : Bytes) (cur : Option Grenad.BlockCursor)
      (log : List Nat) (r : Option (Bytes × Bytes)), rd.bytes = file → GoodIdx Q s → s.index_levels ≤ 255 →
      Gen.IndexBlockCursor.move_on_key_greater_than_or_equal_to (fun _ => cd.decompress) s key rd = .ok (r, s', rd') →
      rd'.bytes = file ∧ GoodIdx Q s' ∧ s'.base_block_offset = s.base_block_offset ∧ s'.index_levels = s.index_levels ∧
      s'.compression_type = s.compression_type ∧
      ∃ log', RC.iterIndex ops (loadCursor cd file) (.ge key) (toRC s cur log) = some (toRC s' cur log', r)
  recur_next : ∀ (s s' : Gen.IndexBlockCursor) (rd rd' : Src) (cur : Option Grenad.BlockCursor) (log : List Nat)
      (r : Option (Bytes × Bytes)), rd.bytes = file → GoodIdx Q s → s.index_levels ≤ 255 →
      Gen.IndexBlockCursor.move_on_next (fun _ => cd.decompress) s rd = .ok (r, s', rd') →
      rd'.bytes = file ∧ GoodIdx Q s' ∧ s'.base_block_offset = s.base_block_offset ∧ s'.index_levels = s.index_levels ∧
      s'.compression_type = s.compression_type ∧
      ∃ log', RC.recurIndex ops (loadCursor cd file) true .next (toRC s cur log) = some (toRC s' cur log', r)
  recur_prev : ∀ (s s' : Gen.IndexBlockCursor) (rd rd' : Src) (cur : Option Grenad.BlockCursor) (log : List Nat)
      (r : Option (Bytes × Bytes)), rd.bytes = file → GoodIdx Q s → s.index_levels ≤ 255 →
      Gen.IndexBlockCursor.move_on_prev (fun _ => cd.decompress) s rd = .ok (r, s', rd') →
      rd'.bytes = file ∧ GoodIdx Q s' ∧ s'.base_block_offset = s.base_block_offset ∧ s'.index_levels = s.index_levels ∧
      s'.compression_type = s.compression_type ∧
      ∃ log', RC.recurIndex ops (loadCursor cd file) true .prev (toRC s cur log) = some (toRC s' cur log', r)

/-- what the tie of the in-block cursor provides for the operations `ops` the model is run with: the five translated
    moves are `ops.apply`, and `ops.current` is the byte-level `current` -/
structure OpsTie (Q : Grenad.Block → Prop) (ops : BlockOps Grenad.BlockCursor) : Prop where
  current : ops.current = Grenad.BlockCursor.current
  first : MovTie Q (fun c => Gen.BlockCursor.move_on_first c) (ops.apply .first)
  last : MovTie Q (fun c => Gen.BlockCursor.move_on_last c) (ops.apply .last)
  next : MovTie Q (fun c => Gen.BlockCursor.move_on_next c) (ops.apply .next)
  prev : MovTie Q (fun c => Gen.BlockCursor.move_on_prev c) (ops.apply .prev)
  ge : ∀ key, MovTie Q (fun c => Gen.BlockCursor.move_on_key_greater_than_or_equal_to c key) (ops.apply (.ge key))

/-- no hypothesis on the blocks: the operations as the code computes them (binary searches of the standard library) -/
theorem opsTie_src (Q : Grenad.Block → Prop) : OpsTie Q srcOps :=
  ⟨srcOps_current, movTie_first Q, movTie_last Q, movTie_next Q, movTie_prev_src Q, movTie_ge_src Q⟩

/-- on sorted blocks: the specification-level operations -/
theorem opsTie_byte (Q : Grenad.Block → Prop) (hQ : ∀ b, Q b → SortedBlock b) : OpsTie Q byteOps :=
  ⟨byteOps_current, movTie_first Q, movTie_last Q, movTie_next Q, movTie_prev Q (fun b h => (hQ b h).1),
    movTie_ge Q (fun b h => (hQ b h).2)⟩

def toRCfull (s : Gen.ReaderCursor) (log : List Nat) : RC Grenad.BlockCursor :=
  toRC s.index_block_cursor (s.current_cursor.map toBC) log

def GoodRC (Q : Grenad.Block → Prop) (file : Bytes) (s : Gen.ReaderCursor) : Prop :=
  s.reader.reader.bytes = file ∧ GoodIdx Q s.index_block_cursor ∧ (∀ c, s.current_cursor = some c → Good Q c) ∧
    s.index_block_cursor.index_levels ≤ 255

/-! ### the shapes of the generated operations

  `move_on_first`, `move_on_last` and `move_on_key_greater_than_or_equal_to` are one text up to the index move `idx`,
  the in-block move `mov` and what happens to the data cursor when the index answers `None` (`genSeek`, the model's
  `RC.seek`). -/

/-- Arriving in a data block: read the offset the index entry carries, `seek` + `Block::new` + `into_cursor`,
    the in-block move `mov`; the cursor becomes the current one. -/
def genEnter (cd : Codec) (mov : Gen.BlockCursor → M (Option (Bytes × Bytes) × Gen.BlockCursor))
    (si : Gen.IndexBlockCursor) (md : Gen.Metadata) (rd : Src) (ob : Bytes) :
    M (Option (Bytes × Bytes) × Gen.ReaderCursor) :=
  Except.bind (beValueN 8 ob) fun off =>
  Except.bind (genLoad cd rd off md.compression_type) fun y =>
  Except.bind (mov y.1) fun z =>
    .ok (z.1, { index_block_cursor := si, current_cursor := some z.2, reader := { metadata := md, reader := y.2 } })

def genSeek (cd : Codec) (idx : Gen.IndexBlockCursor → Src → M (Option (Bytes × Bytes) × Gen.IndexBlockCursor × Src))
    (mov : Gen.BlockCursor → M (Option (Bytes × Bytes) × Gen.BlockCursor)) (keep : Bool) (s : Gen.ReaderCursor) :
    M (Option (Bytes × Bytes) × Gen.ReaderCursor) :=
  Except.bind (idx s.index_block_cursor s.reader.reader) fun x =>
    match x.1 with
    | some (_, ob) => genEnter cd mov x.2.1 s.reader.metadata x.2.2 ob
    | none =>
      .ok (none, { index_block_cursor := x.2.1, current_cursor := if keep then s.current_cursor else none,
                   reader := { metadata := s.reader.metadata, reader := x.2.2 } })

theorem rc_move_on_first_eq (cd : Codec) (s : Gen.ReaderCursor) :
    Gen.ReaderCursor.move_on_first (fun _ => cd.decompress) s =
      genSeek cd (Gen.IndexBlockCursor.move_on_first (fun _ => cd.decompress))
        (fun c => Gen.BlockCursor.move_on_first c) false s := by
  unfold Gen.ReaderCursor.move_on_first genSeek genEnter genLoad
  simp only [bind, pure, bind_assoc']
  refine bind_congr fun x => ?_
  obtain ⟨r, si, rd⟩ := x
  cases r <;> rfl

theorem rc_move_on_last_eq (cd : Codec) (s : Gen.ReaderCursor) :
    Gen.ReaderCursor.move_on_last (fun _ => cd.decompress) s =
      genSeek cd (Gen.IndexBlockCursor.move_on_last (fun _ => cd.decompress))
        (fun c => Gen.BlockCursor.move_on_last c) false s := by
  unfold Gen.ReaderCursor.move_on_last genSeek genEnter genLoad
  simp only [bind, pure, bind_assoc']
  refine bind_congr fun x => ?_
  obtain ⟨r, si, rd⟩ := x
  cases r <;> rfl

theorem rc_move_on_ge_eq (cd : Codec) (s : Gen.ReaderCursor) (key : Bytes) :
    Gen.ReaderCursor.move_on_key_greater_than_or_equal_to (fun _ => cd.decompress) s key =
      genSeek cd (fun si rd => Gen.IndexBlockCursor.move_on_key_greater_than_or_equal_to (fun _ => cd.decompress) si key rd)
        (fun c => Gen.BlockCursor.move_on_key_greater_than_or_equal_to c key) true s := by
  unfold Gen.ReaderCursor.move_on_key_greater_than_or_equal_to genSeek genEnter genLoad
  simp only [bind, pure, bind_assoc']
  refine bind_congr fun x => ?_
  obtain ⟨r, si, rd⟩ := x
  cases r <;> rfl

/-- `next_block_from_index` / `prev_block_from_index`: the index move `idx`, then `seek` + `Block::new` at the offset
    it answers; the data cursor held is not touched. -/
def genBlockFrom (cd : Codec) (idx : Gen.IndexBlockCursor → Src → M (Option (Bytes × Bytes) × Gen.IndexBlockCursor × Src))
    (s : Gen.ReaderCursor) : M (Option Gen.Block × Gen.ReaderCursor) :=
  Except.bind (idx s.index_block_cursor s.reader.reader) fun x =>
    match x.1 with
    | some (_, ob) =>
      Except.bind (beValueN 8 ob) fun off =>
      Except.bind (genLoad cd x.2.2 off s.reader.metadata.compression_type) fun y =>
        .ok (some y.1.block, { index_block_cursor := x.2.1, current_cursor := s.current_cursor,
                               reader := { metadata := s.reader.metadata, reader := y.2 } })
    | none =>
      .ok (none, { index_block_cursor := x.2.1, current_cursor := s.current_cursor,
                   reader := { metadata := s.reader.metadata, reader := x.2.2 } })

theorem rc_next_block_from_index_eq (cd : Codec) (s : Gen.ReaderCursor) :
    Gen.ReaderCursor.next_block_from_index (fun _ => cd.decompress) s =
      genBlockFrom cd (Gen.IndexBlockCursor.move_on_next (fun _ => cd.decompress)) s := by
  unfold Gen.ReaderCursor.next_block_from_index genBlockFrom genLoad
  simp only [bind, pure, bind_assoc']
  refine bind_congr fun x => ?_
  obtain ⟨r, si, rd⟩ := x
  cases r <;> rfl

theorem rc_prev_block_from_index_eq (cd : Codec) (s : Gen.ReaderCursor) :
    Gen.ReaderCursor.prev_block_from_index (fun _ => cd.decompress) s =
      genBlockFrom cd (Gen.IndexBlockCursor.move_on_prev (fun _ => cd.decompress)) s := by
  unfold Gen.ReaderCursor.prev_block_from_index genBlockFrom genLoad
  simp only [bind, pure, bind_assoc']
  refine bind_congr fun x => ?_
  obtain ⟨r, si, rd⟩ := x
  cases r <;> rfl

/-- `move_on_next` / `move_on_prev` are one text up to the in-block move `mov`, the neighbouring block `blk`
    (`next_block_from_index` / `prev_block_from_index`), the move `mov'` made on entering it, and the operation `fb` they
    fall back to when no data block is held (the model's `RC.rel`). -/
def genRel (mov : Gen.BlockCursor → M (Option (Bytes × Bytes) × Gen.BlockCursor))
    (blk : Gen.ReaderCursor → M (Option Gen.Block × Gen.ReaderCursor))
    (mov' : Gen.BlockCursor → M (Option (Bytes × Bytes) × Gen.BlockCursor))
    (fb : Gen.ReaderCursor → M (Option (Bytes × Bytes) × Gen.ReaderCursor)) (s : Gen.ReaderCursor) :
    M (Option (Bytes × Bytes) × Gen.ReaderCursor) :=
  match s.current_cursor with
  | some c =>
    Except.bind (mov c) fun z =>
      match z.1 with
      | some e => .ok (some e, { s with current_cursor := some z.2 })
      | none =>
        Except.bind (blk { s with current_cursor := some z.2 }) fun y =>
          match y.1 with
          | some b =>
            Except.bind (mov' { block := b, current_offset := none }) fun w =>
              .ok (w.1, { y.2 with current_cursor := some w.2 })
          | none => .ok (none, y.2)
  | none => fb s

theorem rc_move_on_next_eq (cd : Codec) (s : Gen.ReaderCursor) :
    Gen.ReaderCursor.move_on_next (fun _ => cd.decompress) s =
      genRel (fun c => Gen.BlockCursor.move_on_next c) (Gen.ReaderCursor.next_block_from_index (fun _ => cd.decompress))
        (fun c => Gen.BlockCursor.move_on_first c) (Gen.ReaderCursor.move_on_first (fun _ => cd.decompress)) s := by
  unfold Gen.ReaderCursor.move_on_next genRel
  cases hcur : s.current_cursor with
  | none =>
    have hse : ({ index_block_cursor := s.index_block_cursor, current_cursor := none, reader := s.reader } :
        Gen.ReaderCursor) = s := by rw [← hcur]
    simp only [bind, pure, optMapMut, hcur, Except.pure, ok_bind, hse]
    cases Gen.ReaderCursor.move_on_first (fun _ => cd.decompress) s <;> rfl
  | some c =>
    simp only [bind, pure, optMapMut, hcur, bind_assoc', Except.pure, ok_bind]
    refine bind_congr fun z => ?_
    obtain ⟨rz, cz⟩ := z
    cases rz with
    | some e => rfl
    | none =>
      refine bind_congr fun y => ?_
      obtain ⟨rb, s1⟩ := y
      cases rb <;> rfl

theorem rc_move_on_prev_eq (cd : Codec) (s : Gen.ReaderCursor) :
    Gen.ReaderCursor.move_on_prev (fun _ => cd.decompress) s =
      genRel (fun c => Gen.BlockCursor.move_on_prev c) (Gen.ReaderCursor.prev_block_from_index (fun _ => cd.decompress))
        (fun c => Gen.BlockCursor.move_on_last c) (Gen.ReaderCursor.move_on_last (fun _ => cd.decompress)) s := by
  unfold Gen.ReaderCursor.move_on_prev genRel
  cases hcur : s.current_cursor with
  | none =>
    have hse : ({ index_block_cursor := s.index_block_cursor, current_cursor := none, reader := s.reader } :
        Gen.ReaderCursor) = s := by rw [← hcur]
    simp only [bind, pure, optMapMut, hcur, Except.pure, ok_bind, hse]
    cases Gen.ReaderCursor.move_on_last (fun _ => cd.decompress) s <;> rfl
  | some c =>
    simp only [bind, pure, optMapMut, hcur, bind_assoc', Except.pure, ok_bind]
    refine bind_congr fun z => ?_
    obtain ⟨rz, cz⟩ := z
    cases rz with
    | some e => rfl
    | none =>
      refine bind_congr fun y => ?_
      obtain ⟨rb, s1⟩ := y
      cases rb <;> rfl

/-- what a field of `IdxTie` says of one index move `idx` and its model -/
def IdxMoveTie (file : Bytes) (Q : Grenad.Block → Prop)
    (idx : Gen.IndexBlockCursor → Src → M (Option (Bytes × Bytes) × Gen.IndexBlockCursor × Src))
    (model : RC Grenad.BlockCursor → Option (RC Grenad.BlockCursor × Option Entry)) : Prop :=
  ∀ (s s' : Gen.IndexBlockCursor) (rd rd' : Src) (cur : Option Grenad.BlockCursor) (log : List Nat)
    (r : Option (Bytes × Bytes)), rd.bytes = file → GoodIdx Q s → s.index_levels ≤ 255 →
    idx s rd = .ok (r, s', rd') →
    rd'.bytes = file ∧ GoodIdx Q s' ∧ s'.base_block_offset = s.base_block_offset ∧ s'.index_levels = s.index_levels ∧
    s'.compression_type = s.compression_type ∧ ∃ log', model (toRC s cur log) = some (toRC s' cur log', r)

/-- what `next_block_from_index` / `prev_block_from_index` (`blk`, with the index move `m`) do: the model's
    `recurIndex`, and the block returned is the one the model loads at the entry found; the data cursor is kept -/
def BlockFromTie (cd : Codec) (file : Bytes) (Q : Grenad.Block → Prop) (ops : BlockOps Grenad.BlockCursor) (m : Mov)
    (blk : Gen.ReaderCursor → M (Option Gen.Block × Gen.ReaderCursor)) : Prop :=
  ∀ (s s1 : Gen.ReaderCursor) (log : List Nat) (rb : Option Gen.Block) (cur : Option Grenad.BlockCursor),
    GoodRC Q file s → blk s = .ok (rb, s1) →
    GoodRC Q file s1 ∧ s1.reader.metadata = s.reader.metadata ∧ s1.current_cursor = s.current_cursor ∧
      ∃ log' ri, RC.recurIndex ops (loadCursor cd file) true m (toRC s.index_block_cursor cur log) =
          some (toRC s1.index_block_cursor cur log', ri) ∧
        ((rb = none ∧ ri = none) ∨
         ∃ c k ob, rb = some c.block ∧ c.current_offset = none ∧ ri = some (k, ob) ∧ Good Q c ∧
           loadCursor cd file (offOf (k, ob)) = some (toBC c))

section
variable (cd : Codec) (file : Bytes) (Q : Grenad.Block → Prop) (ops : BlockOps Grenad.BlockCursor)
variable (hs : SmallBlocks cd file) (hq : LoadsQ cd file Q) (hidx : IdxTie cd file Q ops) (hops : OpsTie Q ops)

include hs hq in
theorem genEnter_tie (m : Mov) (mov : Gen.BlockCursor → M (Option (Bytes × Bytes) × Gen.BlockCursor))
    (htie : MovTie Q mov (ops.apply m)) (rd : Src) (hrd : rd.bytes = file) (k ob : Bytes) (md : Gen.Metadata)
    (si : Gen.IndexBlockCursor) (r : Option (Bytes × Bytes)) (s' : Gen.ReaderCursor) (c1 : RC Grenad.BlockCursor)
    (h : genEnter cd mov si md rd ob = .ok (r, s')) :
    ∃ (c' : Gen.BlockCursor) (rd' : Src),
      s' = { index_block_cursor := si, current_cursor := some c', reader := { metadata := md, reader := rd' } } ∧
      rd'.bytes = file ∧ Good Q c' ∧
      RC.enterWith ops (loadCursor cd file) m c1 (k, ob) =
        (RC.withCur { c1 with log := offOf (k, ob) :: c1.log } (toBC c'), .ok r) := by
  unfold genEnter at h
  obtain ⟨off, hoff, h⟩ := bind_ok h
  have hoff' := beValueN8_ok ob off hoff k
  obtain ⟨y, hload, h⟩ := bind_ok h
  obtain ⟨c, rd1⟩ := y
  obtain ⟨hmodel, hgood, _, hrd1⟩ := src_load_cursor cd file Q hs hq rd hrd off _ c rd1 hload
  obtain ⟨z, hmov, h⟩ := bind_ok h
  obtain ⟨r2, c'⟩ := z
  obtain ⟨happ, hblk⟩ := htie c r2 c' hgood hmov
  cases h
  refine ⟨c', rd1, rfl, hrd1, hgood.of_block hblk, ?_⟩
  rw [RC.enterWith_ok (by rw [← hoff']; exact hmodel), ← happ]

include hs hq in
theorem genSeek_tie (m : Mov) (keep : Bool)
    (idx : Gen.IndexBlockCursor → Src → M (Option (Bytes × Bytes) × Gen.IndexBlockCursor × Src))
    (mov : Gen.BlockCursor → M (Option (Bytes × Bytes) × Gen.BlockCursor))
    (hidx : IdxMoveTie file Q idx (RC.iterIndex ops (loadCursor cd file) m)) (htie : MovTie Q mov (ops.apply m))
    (s s' : Gen.ReaderCursor) (log : List Nat) (r : Option (Bytes × Bytes)) (hg : GoodRC Q file s)
    (h : genSeek cd idx mov keep s = .ok (r, s')) :
    GoodRC Q file s' ∧ s'.reader.metadata = s.reader.metadata ∧
      ∃ log', RC.seek ops (loadCursor cd file) m keep (toRCfull s log) = (toRCfull s' log', .ok r) := by
  unfold genSeek at h
  obtain ⟨x, hx, h⟩ := bind_ok h
  obtain ⟨ri, si, rdi⟩ := x
  obtain ⟨hfile, hgi, hgc, hlv⟩ := hg
  obtain ⟨hrdi, hgsi, hbase, hlev, hct, log', hiter⟩ :=
    hidx s.index_block_cursor si s.reader.reader rdi (s.current_cursor.map toBC) log ri hfile hgi hlv hx
  have hlv' : si.index_levels ≤ 255 := by rw [hlev]; exact hlv
  cases ri with
  | none =>
    cases h
    unfold toRCfull
    rw [RC.seek_none hiter]
    cases keep
    · exact ⟨⟨hrdi, hgsi, fun c hc => (by cases hc), hlv'⟩, rfl, log', rfl⟩
    · exact ⟨⟨hrdi, hgsi, hgc, hlv'⟩, rfl, log', rfl⟩
  | some e =>
    obtain ⟨k, ob⟩ := e
    obtain ⟨c', rd', hs', hrd', hgc', hent⟩ := genEnter_tie cd file Q ops hs hq m mov htie rdi hrdi k ob _ si r s'
      (toRC si (s.current_cursor.map toBC) log') h
    subst hs'
    refine ⟨⟨hrd', hgsi, fun c0 hc0 => (by cases hc0; exact hgc'), hlv'⟩, rfl, offOf (k, ob) :: log', ?_⟩
    unfold toRCfull
    rw [RC.seek_some hiter, hent]
    rfl

include hs hq hidx hops in
theorem src_rc_first (s s' : Gen.ReaderCursor) (log : List Nat) (r : Option (Bytes × Bytes)) (hg : GoodRC Q file s)
    (h : Gen.ReaderCursor.move_on_first (fun _ => cd.decompress) s = .ok (r, s')) :
    GoodRC Q file s' ∧ s'.reader.metadata = s.reader.metadata ∧
      ∃ log', RC.first ops (loadCursor cd file) (toRCfull s log) = (toRCfull s' log', .ok r) := by
  rw [rc_move_on_first_eq] at h
  rw [RC.first_eq]
  exact genSeek_tie cd file Q ops hs hq .first false _ _ hidx.iter_first hops.first s s' log r hg h

include hs hq hidx hops in
theorem src_rc_last (s s' : Gen.ReaderCursor) (log : List Nat) (r : Option (Bytes × Bytes)) (hg : GoodRC Q file s)
    (h : Gen.ReaderCursor.move_on_last (fun _ => cd.decompress) s = .ok (r, s')) :
    GoodRC Q file s' ∧ s'.reader.metadata = s.reader.metadata ∧
      ∃ log', RC.last ops (loadCursor cd file) (toRCfull s log) = (toRCfull s' log', .ok r) := by
  rw [rc_move_on_last_eq] at h
  rw [RC.last_eq]
  exact genSeek_tie cd file Q ops hs hq .last false _ _ hidx.iter_last hops.last s s' log r hg h

include hs hq hidx hops in
theorem src_rc_ge (s s' : Gen.ReaderCursor) (key : Bytes) (log : List Nat) (r : Option (Bytes × Bytes))
    (hg : GoodRC Q file s)
    (h : Gen.ReaderCursor.move_on_key_greater_than_or_equal_to (fun _ => cd.decompress) s key = .ok (r, s')) :
    GoodRC Q file s' ∧ s'.reader.metadata = s.reader.metadata ∧
      ∃ log', RC.ge ops (loadCursor cd file) key (toRCfull s log) = (toRCfull s' log', .ok r) := by
  rw [rc_move_on_ge_eq] at h
  rw [RC.ge_eq]
  exact genSeek_tie cd file Q ops hs hq (.ge key) true _ _
    (fun s s' rd rd' cur log r => hidx.iter_ge s s' rd rd' key cur log r) (hops.ge key) s s' log r hg h

include hs hq in
theorem genBlockFrom_tie (m : Mov)
    (idx : Gen.IndexBlockCursor → Src → M (Option (Bytes × Bytes) × Gen.IndexBlockCursor × Src))
    (hidx : IdxMoveTie file Q idx (RC.recurIndex ops (loadCursor cd file) true m)) :
    BlockFromTie cd file Q ops m (genBlockFrom cd idx) := by
  intro s s1 log rb cur hg h
  unfold genBlockFrom at h
  obtain ⟨x, hx, h⟩ := bind_ok h
  obtain ⟨ri, si, rdi⟩ := x
  obtain ⟨hfile, hgi, hgc, hlv⟩ := hg
  obtain ⟨hrdi, hgsi, -, hlev, -, log', hiter⟩ :=
    hidx s.index_block_cursor si s.reader.reader rdi cur log ri hfile hgi hlv hx
  have hlv' : si.index_levels ≤ 255 := by rw [hlev]; exact hlv
  cases ri with
  | none =>
    cases h
    exact ⟨⟨hrdi, hgsi, hgc, hlv'⟩, rfl, rfl, log', none, hiter, Or.inl ⟨rfl, rfl⟩⟩
  | some e =>
    obtain ⟨k, ob⟩ := e
    obtain ⟨off, hoff, h⟩ := bind_ok h
    have hoff' := beValueN8_ok ob off hoff k
    obtain ⟨y, hload, h⟩ := bind_ok h
    obtain ⟨c, rd1⟩ := y
    obtain ⟨hmodel, hgood, hco, hrd1⟩ := src_load_cursor cd file Q hs hq rdi hrdi off _ c rd1 hload
    cases h
    exact ⟨⟨hrd1, hgsi, hgc, hlv'⟩, rfl, rfl, log', some (k, ob), hiter,
      Or.inr ⟨c, k, ob, rfl, hco, rfl, hgood, by rw [← hoff']; exact hmodel⟩⟩

include hs hq hidx in
theorem src_rc_next_block :
    BlockFromTie cd file Q ops .next (Gen.ReaderCursor.next_block_from_index (fun _ => cd.decompress)) := by
  intro s s1 log rb cur hg h
  rw [rc_next_block_from_index_eq] at h
  exact genBlockFrom_tie cd file Q ops hs hq .next _ hidx.recur_next s s1 log rb cur hg h

include hs hq hidx in
theorem src_rc_prev_block :
    BlockFromTie cd file Q ops .prev (Gen.ReaderCursor.prev_block_from_index (fun _ => cd.decompress)) := by
  intro s s1 log rb cur hg h
  rw [rc_prev_block_from_index_eq] at h
  exact genBlockFrom_tie cd file Q ops hs hq .prev _ hidx.recur_prev s s1 log rb cur hg h

theorem genRel_tie (m : Mov) (mov mov' : Gen.BlockCursor → M (Option (Bytes × Bytes) × Gen.BlockCursor))
    (blk : Gen.ReaderCursor → M (Option Gen.Block × Gen.ReaderCursor))
    (fb : Gen.ReaderCursor → M (Option (Bytes × Bytes) × Gen.ReaderCursor))
    (htie : MovTie Q mov (ops.apply m)) (htie' : MovTie Q mov' (ops.apply m.enter))
    (hblk : BlockFromTie cd file Q ops m blk)
    (hfb : ∀ (s s' : Gen.ReaderCursor) (log : List Nat) (r : Option (Bytes × Bytes)), GoodRC Q file s →
      fb s = .ok (r, s') → GoodRC Q file s' ∧ s'.reader.metadata = s.reader.metadata ∧
        ∃ log', RC.seek ops (loadCursor cd file) m.enter false (toRCfull s log) = (toRCfull s' log', .ok r))
    (s s' : Gen.ReaderCursor) (log : List Nat) (r : Option (Bytes × Bytes)) (hg : GoodRC Q file s)
    (h : genRel mov blk mov' fb s = .ok (r, s')) :
    GoodRC Q file s' ∧ s'.reader.metadata = s.reader.metadata ∧
      ∃ log', RC.rel ops (loadCursor cd file) true m (toRCfull s log) = (toRCfull s' log', .ok r) := by
  unfold genRel at h
  cases hcur : s.current_cursor with
  | none =>
    rw [hcur] at h
    obtain ⟨hg', hm, log', hmodel⟩ := hfb s s' log r hg h
    refine ⟨hg', hm, log', ?_⟩
    rw [RC.rel_none (by simp only [toRCfull, toRC, hcur, Option.map_none])]
    exact hmodel
  | some c =>
    rw [hcur] at h
    obtain ⟨hfile, hgi, hgc, hlv⟩ := hg
    obtain ⟨z, hz, h⟩ := bind_ok h
    obtain ⟨rz, cz⟩ := z
    obtain ⟨happ, hblk0⟩ := htie c rz cz (hgc c hcur) hz
    have hcur' : (toRCfull s log).cur = some (toBC c) := by simp only [toRCfull, toRC, hcur, Option.map_some]
    have hg1 : GoodRC Q file { s with current_cursor := some cz } :=
      ⟨hfile, hgi, fun c0 hc0 => (by cases hc0; exact (hgc c hcur).of_block hblk0), hlv⟩
    cases rz with
    | some e =>
      cases h
      refine ⟨hg1, rfl, log, ?_⟩
      rw [RC.rel_stay hcur' (by rw [← happ]), ← happ]
      rfl
    | none =>
      obtain ⟨y, hy, h⟩ := bind_ok h
      obtain ⟨rb, s1⟩ := y
      obtain ⟨⟨hfile1, hgi1, hgc1, hlv1⟩, hm1, hcc1, log', ri, hrec, hcase⟩ :=
        hblk _ s1 log rb (some (toBC cz)) hg1 hy
      rw [RC.rel_climb hcur' (by rw [← happ]), ← happ]
      have hrec' : RC.recurIndex ops (loadCursor cd file) true m ((toRCfull s log).withCur (toBC cz)) =
          some (toRC s1.index_block_cursor (some (toBC cz)) log', ri) := hrec
      simp only []
      rcases hcase with ⟨hrb, hri⟩ | ⟨nc, k, ob, hrb, hco, hri, hgnc, hload⟩
      · subst hrb hri
        cases h
        refine ⟨⟨hfile1, hgi1, hgc1, hlv1⟩, hm1, log', ?_⟩
        rw [RC.climb_none hrec']
        simp only [toRCfull, hcc1, Option.map_some]
      · subst hrb hri
        have hnc : ({ block := nc.block, current_offset := none } : Gen.BlockCursor) = nc := by
          cases nc; cases hco; rfl
        simp only [hnc] at h
        obtain ⟨w, hw, h⟩ := bind_ok h
        obtain ⟨rw_, cw⟩ := w
        obtain ⟨happ2, hblk2⟩ := htie' nc rw_ cw hgnc hw
        cases h
        refine ⟨⟨hfile1, hgi1, fun c0 hc0 => (by cases hc0; exact hgnc.of_block hblk2), hlv1⟩, hm1,
          offOf (k, ob) :: log', ?_⟩
        rw [RC.climb_some hrec', RC.enterWith_ok hload, ← happ2]
        rfl

include hs hq hidx hops in
theorem src_rc_next (s s' : Gen.ReaderCursor) (log : List Nat) (r : Option (Bytes × Bytes)) (hg : GoodRC Q file s)
    (h : Gen.ReaderCursor.move_on_next (fun _ => cd.decompress) s = .ok (r, s')) :
    GoodRC Q file s' ∧ s'.reader.metadata = s.reader.metadata ∧
      ∃ log', RC.next ops (loadCursor cd file) true (toRCfull s log) = (toRCfull s' log', .ok r) := by
  rw [rc_move_on_next_eq] at h
  rw [RC.next_eq]
  exact genRel_tie cd file Q ops .next _ _ _ _ hops.next hops.first (src_rc_next_block cd file Q ops hs hq hidx)
    (src_rc_first cd file Q ops hs hq hidx hops) s s' log r hg h

include hs hq hidx hops in
theorem src_rc_prev (s s' : Gen.ReaderCursor) (log : List Nat) (r : Option (Bytes × Bytes)) (hg : GoodRC Q file s)
    (h : Gen.ReaderCursor.move_on_prev (fun _ => cd.decompress) s = .ok (r, s')) :
    GoodRC Q file s' ∧ s'.reader.metadata = s.reader.metadata ∧
      ∃ log', RC.prev ops (loadCursor cd file) true (toRCfull s log) = (toRCfull s' log', .ok r) := by
  rw [rc_move_on_prev_eq] at h
  rw [RC.prev_eq]
  exact genRel_tie cd file Q ops .prev _ _ _ _ hops.prev hops.last (src_rc_prev_block cd file Q ops hs hq hidx)
    (src_rc_last cd file Q ops hs hq hidx hops) s s' log r hg h

include hs hq hidx hops in
theorem src_rc_le (s s' : Gen.ReaderCursor) (key : Bytes) (log : List Nat) (r : Option (Bytes × Bytes))
    (hg : GoodRC Q file s)
    (h : Gen.ReaderCursor.move_on_key_lower_than_or_equal_to (fun _ => cd.decompress) s key = .ok (r, s')) :
    GoodRC Q file s' ∧ s'.reader.metadata = s.reader.metadata ∧
      ∃ log', RC.le ops (loadCursor cd file) true key (toRCfull s log) = (toRCfull s' log', .ok r) := by
  unfold Gen.ReaderCursor.move_on_key_lower_than_or_equal_to at h
  simp only [bind, pure] at h
  obtain ⟨x, hx, h⟩ := bind_ok h
  obtain ⟨r1, s1⟩ := x
  obtain ⟨hg1, hm1, log1, hge⟩ := src_rc_ge cd file Q ops hs hq hidx hops s s1 key log r1 hg hx
  cases r1 with
  | none =>
    simp only at h
    obtain ⟨y, hy, h⟩ := bind_ok h
    obtain ⟨r2, s2⟩ := y
    obtain ⟨hg2, hm2, log2, hlast⟩ := src_rc_last cd file Q ops hs hq hidx hops s1 s2 log1 r2 hg1 hy
    cases h
    refine ⟨hg2, hm2.trans hm1, log2, ?_⟩
    unfold RC.le
    rw [hge]
    simp only [hlast]
  | some e =>
    obtain ⟨k, v⟩ := e
    simp only at h
    by_cases hk : k = key
    · subst hk
      simp only [beq_self_eq_true, if_true, Except.pure, Except.ok.injEq, Prod.mk.injEq] at h
      obtain ⟨h1, h2⟩ := h
      subst h1 h2
      refine ⟨hg1, hm1, log1, ?_⟩
      unfold RC.le
      rw [hge]
      simp only [if_true]
    · have hne : (k == key) = false := by simp [hk]
      simp only [hne, Bool.false_eq_true, if_false] at h
      obtain ⟨y, hy, h⟩ := bind_ok h
      obtain ⟨r2, s2⟩ := y
      obtain ⟨hg2, hm2, log2, hprev⟩ := src_rc_prev cd file Q ops hs hq hidx hops s1 s2 log1 r2 hg1 hy
      cases h
      refine ⟨hg2, hm2.trans hm1, log2, ?_⟩
      unfold RC.le
      rw [hge]
      simp only [hk, if_false]
      exact hprev

include hs hq hidx hops in
theorem src_rc_eq (s s' : Gen.ReaderCursor) (key : Bytes) (log : List Nat) (r : Option (Bytes × Bytes))
    (hg : GoodRC Q file s)
    (h : Gen.ReaderCursor.move_on_key_equal_to (fun _ => cd.decompress) s key = .ok (r, s')) :
    GoodRC Q file s' ∧ s'.reader.metadata = s.reader.metadata ∧
      ∃ log', RC.eq ops (loadCursor cd file) key (toRCfull s log) = (toRCfull s' log', .ok r) := by
  unfold Gen.ReaderCursor.move_on_key_equal_to at h
  simp only [bind, pure] at h
  obtain ⟨x, hx, h⟩ := bind_ok h
  obtain ⟨r1, s1⟩ := x
  obtain ⟨hg1, hm1, log1, hge⟩ := src_rc_ge cd file Q ops hs hq hidx hops s s1 key log r1 hg hx
  cases h
  refine ⟨hg1, hm1, log1, ?_⟩
  unfold RC.eq
  rw [hge]
  have hf : (fun (e : Entry) => decide (e.1 = key)) =
      (fun (x : List UInt8 × List UInt8) => match x with | (k, _) => k == key) := by
    funext e; obtain ⟨a, b⟩ := e
    by_cases hab : a = key <;> simp [hab]
  rw [hf]

include hops in
theorem src_rc_current (s : Gen.ReaderCursor) (log : List Nat) (r : Option (Bytes × Bytes)) (hg : GoodRC Q file s)
    (h : Gen.ReaderCursor.current s = .ok r) : r = RC.current ops (toRCfull s log) := by
  unfold Gen.ReaderCursor.current at h
  unfold RC.current toRCfull toRC
  cases hcur : s.current_cursor with
  | none =>
    rw [hcur] at h
    simp only [optBindM, pure, Except.pure, Except.ok.injEq] at h
    rw [← h]; rfl
  | some c =>
    rw [hcur] at h
    simp only [optBindM] at h
    simp only [Option.map_some, hops.current]
    exact src_bc_current c (hg.2.2.1 c hcur).1 r h

/-- `ReaderCursor::reset` is the model's `RC.reset` (and keeps the invariant; it touches neither the reader nor
    the load log) -/
theorem src_rc_reset (s s' : Gen.ReaderCursor) (log : List Nat) (hg : GoodRC Q file s)
    (h : Gen.ReaderCursor.reset s = .ok s') :
    GoodRC Q file s' ∧ s'.reader = s.reader ∧ toRCfull s' log = (toRCfull s log).reset := by
  unfold Gen.ReaderCursor.reset Gen.IndexBlockCursor.reset at h
  simp only [bind, pure, Except.pure, ok_bind, Except.ok.injEq] at h
  subst h
  obtain ⟨hfile, hgi, hgc, hlv⟩ := hg
  exact ⟨⟨hfile, fun l hl => (by cases hl), fun c hc => (by cases hc), hlv⟩, rfl, rfl⟩

theorem src_rc_reset_ok (s : Gen.ReaderCursor) : ∃ s', Gen.ReaderCursor.reset s = .ok s' := ⟨_, rfl⟩

end

/-- `ReaderCursor::new`: the model's `RC.new` of the metadata (`toModelMeta`, SrcTie/Meta.lean); it always
    returns, keeps the reader, and the invariant holds when the reader reads `file` and the metadata's
    `index_levels` is a `u8`. -/
theorem src_rc_new (rdr : Gen.Reader) (s : Gen.ReaderCursor) (h : Gen.ReaderCursor.new rdr = .ok s) :
    toRCfull s [] = RC.new (toModelMeta rdr.metadata) ∧ s.reader = rdr ∧ s.current_cursor = none ∧
      s.index_block_cursor.inner = none ∧
      s.index_block_cursor.base_block_offset = rdr.metadata.index_block_offset ∧
      s.index_block_cursor.index_levels = rdr.metadata.index_levels ∧
      s.index_block_cursor.compression_type = rdr.metadata.compression_type ∧
      ∀ (Q : Grenad.Block → Prop) (file : Bytes), rdr.reader.bytes = file → rdr.metadata.index_levels ≤ 255 →
        GoodRC Q file s := by
  unfold Gen.ReaderCursor.new Gen.IndexBlockCursor.new Gen.Reader.index_block_offset Gen.Reader.compression_type
    Gen.Reader.index_levels at h
  simp only [bind, pure, Except.pure, ok_bind, Except.ok.injEq] at h
  subst h
  refine ⟨rfl, rfl, rfl, rfl, rfl, rfl, rfl, ?_⟩
  intro Q file hf hl
  exact ⟨hf, fun l hl => (by cases hl), fun c hc => (by cases hc), hl⟩

theorem src_rc_new_ok (rdr : Gen.Reader) : ∃ s, Gen.ReaderCursor.new rdr = .ok s := ⟨_, rfl⟩

end Grenad.SrcTie
