/-
  Grenad.SrcTie.WriterRun — whole runs.  Any number of translated `insert`s followed by the translated
  `into_inner` produce exactly the bytes of the model's `W.run`; hence C01's round trip for the bytes the
  regenerated writer produces.  Also C18 on the translated `insert` (`src_C18_writer_rejects_unsorted`,
  `src_C18_writer_tracks_last_key`), and an instance (`cfgS`, `esS`) on which both runs are evaluated.
-/
import Grenad.SrcTie.WriterFinish
import Grenad.Props.C01
import Grenad.Proofs.WriterInvRun

set_option linter.unusedSimpArgs false
set_option linter.unusedVariables false

namespace Grenad.SrcTie
open Grenad Grenad.R Grenad.Gen

/-- size bounds on a model block writer under which the translated code cannot overflow a `usize` -/
def BWSmall (bw : BW) : Prop :=
  bw.counter ≤ bw.interval ∧ 1 ≤ bw.interval ∧ bw.interval < 2 ^ 64 ∧ bw.buffer.length < 2 ^ 61 ∧ bw.offsets.length < 2 ^ 30

/-- … on a model writer: every block writer below 2 EiB / 2^30 index offsets, fewer than 2^64 entries,
    at least the root index level -/
def WSmall (w : W) : Prop :=
  BWSmall w.bw ∧ (∀ i (h : i < w.idx.length), BWSmall w.idx[i]) ∧ w.count + 1 < 2 ^ 64 ∧ 0 < w.idx.length

theorem small_of_mBW {x : Gen.BlockWriter} {bw : BW} (h : mBW x bw) (hs : BWSmall bw) : Small (2 ^ 61) (2 ^ 30) x := by
  obtain ⟨a, b, c, d, e⟩ := hs
  obtain ⟨e1, e2, e3, e4⟩ := h.fields
  exact ⟨by rw [e4, e2]; exact a, by rw [e2]; exact b, by rw [e2]; exact c, by rw [e1]; exact d, by rw [e3]; exact e⟩

theorem smallW_of {g : Gen.Writer} {w : W} (hr : RW g w) (hw : WSmall w) : SmallW g := by
  obtain ⟨h1, h2, h3, h4⟩ := hw
  have hlen : g.index_block_writers.length = w.idx.length := hr.idx.1
  refine ⟨small_of_mBW hr.bw h1, ?_, by rw [hr.count]; exact h3, by rw [hlen]; exact h4⟩
  intro t ht
  have ht' : t < w.idx.length := by rw [← hlen]; exact ht
  rw [getElem!_pos _ t ht]
  exact small_of_mBW (hr.idx.2 t ht ht') (h2 t ht')

/-- the translated `insert` folded over a list of entries -/
def genWriterGo (C : CompressFn) : Gen.Writer → List Entry → M Gen.Writer
  | g, [] => pure g
  | g, (k, v) :: rest => do
    let g' ← Gen.Writer.insert C g k v
    genWriterGo C g' rest

/-- the translated writer run: all inserts, then `into_inner` -/
def genWriterRun (C : CompressFn) (g : Gen.Writer) (kvs : List Entry) : M Sink := do
  let g' ← genWriterGo C g kvs
  Gen.Writer.into_inner C g'

/-- the model's run from a given state (`W.run` is this from `W.new cfg`) -/
def runFrom (cd : Codec) (w : W) (kvs : List Entry) : Except Trap (Bytes × List Emitted) :=
  match W.run.go cd w kvs with
  | .error t => .error t
  | .ok w' => W.finish cd w'

/-- From related states, the translated `insert`s of `kvs` end in a state related to the model's
    (`W.run.go`), or panic where the model traps; provided the model's intermediate states stay within the `usize`
    bounds `WSmall`. -/
theorem mw_writer_go (cd : Codec) (hcd : ∀ b : Bytes, b.length < 2 ^ 63 → (cd.compress b).length < 2 ^ 64) :
    ∀ (kvs : List Entry) (g : Gen.Writer) (w : W), RW g w →
    (∀ pre w', pre <+: kvs → W.run.go cd w pre = .ok w' → WSmall w') →
    match W.run.go cd w kvs with
    | .ok w' => ∃ g', genWriterGo (codecFn cd) g kvs = .ok g' ∧ RW g' w' ∧
        g'.compression_type = g.compression_type ∧ g'.compression_level = g.compression_level
    | .error _ => ∃ msg, genWriterGo (codecFn cd) g kvs = .error (.panic msg) := by
  intro kvs
  induction kvs with
  | nil =>
    intro g w hr hsm
    exact ⟨g, rfl, hr, rfl, rfl⟩
  | cons kv rest ih =>
    intro g w hr hsm
    obtain ⟨k, v⟩ := kv
    have hw : WSmall w := hsm [] w (List.nil_prefix) rfl
    have hins := src_writer_insert cd hcd g w k v hr (smallW_of hr hw)
    simp only [W.run.go, genWriterGo, bind, Except.bind]
    cases hi : W.insert cd w k v with
    | error t =>
      rw [hi] at hins
      obtain ⟨msg, hmsg⟩ := hins
      exact ⟨msg, by simp only [hmsg]⟩
    | ok w1 =>
      rw [hi] at hins
      obtain ⟨g1, hg1, hr1, hc1, hc2, _⟩ := hins
      simp only [hg1]
      have hrec := ih g1 w1 hr1 (by
        intro pre w' hp hgo
        refine hsm ((k, v) :: pre) w' ?_ ?_
        · obtain ⟨t, ht⟩ := hp
          exact ⟨t, by rw [← ht]; rfl⟩
        · simp only [W.run.go, hi]; exact hgo)
      rw [hc1, hc2] at hrec
      exact hrec

/-- **Whole-run tie.**  From related states, the translated `insert`s followed by the translated
    `into_inner` produce exactly the model's file bytes — for every entry list, every number of index
    levels, every block size and every codec — or panic where the model traps; provided the model's
    intermediate states stay within the `usize` bounds `WSmall`. -/
theorem src_writer_run (cd : Codec) (hcd : ∀ b : Bytes, b.length < 2 ^ 63 → (cd.compress b).length < 2 ^ 64) :
    ∀ (kvs : List Entry) (g : Gen.Writer) (w : W), RW g w → g.compression_type.toNat = cd.id →
    (∀ pre w', pre <+: kvs → W.run.go cd w pre = .ok w' → WSmall w') →
    match runFrom cd w kvs with
    | .ok (file, _) => genWriterRun (codecFn cd) g kvs = .ok file
    | .error _ => ∃ msg, genWriterRun (codecFn cd) g kvs = .error (.panic msg) := by
  intro kvs g w hr hct hsm
  have hgo := mw_writer_go cd hcd kvs g w hr hsm
  simp only [runFrom, genWriterRun, bind, Except.bind]
  cases hw : W.run.go cd w kvs with
  | error t =>
    rw [hw] at hgo
    obtain ⟨msg, hmsg⟩ := hgo
    exact ⟨msg, by simp only [hmsg]⟩
  | ok w' =>
    rw [hw] at hgo
    obtain ⟨g', hg', hr', hc, -⟩ := hgo
    simp only [hg']
    exact src_writer_into_inner cd hcd g' w' hr' (smallW_of hr' (hsm kvs w' (List.prefix_refl _) hw))
      (by rw [hc]; exact hct)

/-- a fresh translated block writer (what `BlockWriterBuilder::build` constructs) -/
def bwNew (iv : Nat) : Gen.BlockWriter :=
  { buffer := [], last_key := none, index_key_interval := iv, index_offsets := [0], index_key_counter := 0 }

/-- the state `WriterBuilder::build` constructs (`src_writer_build`, SrcTie/WriterBuild): empty block writers,
    `index_levels + 1` index block writers, the clamped block size, an empty sink -/
def genWriterNew (cfg : WCfg) (ct : CompressionType) (lvl : Nat) : Gen.Writer :=
  { block_writer := bwNew cfg.interval, index_block_writers := List.replicate (cfg.levels + 1) (bwNew cfg.interval),
    compression_type := ct, compression_level := lvl, block_size := cfg.clamped, entries_count := 0, writer := [] }

theorem rw_new (cfg : WCfg) (ct : CompressionType) (lvl : Nat) : RW (genWriterNew cfg ct lvl) (W.new cfg) := by
  refine ⟨rfl, ⟨by simp [genWriterNew, W.new], ?_⟩, rfl, rfl, rfl⟩
  intro i h1 h2
  simp only [genWriterNew, W.new, List.getElem_replicate]
  rfl

/-- **C01 for the bytes the regenerated writer produces.**  For every lawful codec, configuration and
    strictly ascending input, the translated `Writer::insert`s followed by the translated
    `Writer::into_inner`, started from a fresh writer, return a file — the model's — that opens, reports
    count and codec, and scans back exactly the inserted entries, forwards and backwards (through the
    model's byte-level reader; its block level is tied to the source in `SrcTie.EndToEnd`). -/
theorem src_C01_writer_roundtrip (cd : Codec) (cfg : WCfg) (es : List Entry) (ct : CompressionType) (lvl : Nat)
    (hlaw : cd.Lawful) (hid : cd.id ≤ 5) (hlv : cfg.levels ≤ 255) (hiv : 1 ≤ cfg.interval)
    (hasc : StrictAsc es) (hlens : ∀ e ∈ es, e.1.length < 2 ^ 32 ∧ e.2.length < 2 ^ 32)
    (hcount : es.length < 2 ^ 64)
    (hcd : ∀ b : Bytes, b.length < 2 ^ 63 → (cd.compress b).length < 2 ^ 64) (hct : ct.toNat = cd.id)
    (hsmall : ∀ pre w', pre <+: es → W.run.go cd (W.new cfg) pre = .ok w' → WSmall w') :
    ∃ file log, genWriterRun (codecFn cd) (genWriterNew cfg ct lvl) es = .ok file ∧ W.run cd cfg es = .ok (file, log) ∧
      (file.length < 2 ^ 64 → (∀ e ∈ log, e.raw.length < 2 ^ 32) →
        ∃ m, Meta.parse file = .ok m ∧
          m.count = es.length ∧ m.codec = cd.id ∧ m.version = 2 ∧ m.levels = cfg.levels ∧
          Props.C01.scanForward cd file (es.length + 1) (RC.new m) =
            es.map (fun e => Res.ok (some e)) ++ [Res.ok none] ∧
          Props.C01.scanBackward cd file (es.length + 1) (RC.new m) =
            es.reverse.map (fun e => Res.ok (some e)) ++ [Res.ok none]) := by
  obtain ⟨file, log, hrun, hread⟩ := Props.C01.C01_roundtrip cd cfg es hlaw hid hlv hiv hasc hlens hcount
  have h := src_writer_run cd hcd es (genWriterNew cfg ct lvl) (W.new cfg) (rw_new cfg ct lvl) hct hsmall
  rw [show runFrom cd (W.new cfg) es = W.run cd cfg es from rfl, hrun] at h
  exact ⟨file, log, h, hrun, hread⟩

/-- **C18 on the regenerated `Writer::insert`**: a key that is not strictly above the last key of the block
    under construction makes the translated `insert` panic — nothing is written. -/
theorem src_C18_writer_rejects_unsorted (cd : Codec) (hcd : ∀ b : Bytes, b.length < 2 ^ 63 → (cd.compress b).length < 2 ^ 64) (g : Gen.Writer)
    (w : W) (k v lk : Bytes) (hr : RW g w) (hs : SmallW g) (hk : k.length ≤ u32Max) (hv : v.length ≤ u32Max)
    (hl : w.bw.lastKey = some lk) (hn : ¬ lk < k) :
    ∃ msg, Gen.Writer.insert (codecFn cd) g k v = .error (.panic msg) := by
  have h := src_writer_insert cd hcd g w k v hr hs
  rw [W.insert_keyOrder cd w hk hv hl hn] at h
  exact h

/-- … and the state the translated `insert` returns always carries the inserted key as the last key of the
    block under construction, or an empty block under construction (the block was cut): the next call is
    checked against it. -/
theorem src_C18_writer_tracks_last_key (cd : Codec) (hcd : ∀ b : Bytes, b.length < 2 ^ 63 → (cd.compress b).length < 2 ^ 64) (g g' : Gen.Writer)
    (w : W) (k v : Bytes) (hr : RW g w) (hs : SmallW g)
    (h : Gen.Writer.insert (codecFn cd) g k v = .ok g') :
    ∃ w', W.insert cd w k v = .ok w' ∧ RW g' w' ∧ g'.block_writer.last_key = w'.bw.lastKey := by
  have hsim := src_writer_insert cd hcd g w k v hr hs
  cases hi : W.insert cd w k v with
  | error t =>
    rw [hi] at hsim
    obtain ⟨msg, hmsg⟩ := hsim
    rw [hmsg] at h
    cases h
  | ok w' =>
    rw [hi] at hsim
    obtain ⟨g1, hg1, hr1, _⟩ := hsim
    rw [hg1] at h
    cases h
    refine ⟨w', rfl, hr1, ?_⟩
    have := hr1.bw
    rw [← this]
    rfl

/-! ### the hypotheses are met by real executions (kernel evaluation, a test) -/

namespace WriterSmoke

def cfgS : WCfg := { blockSize := 0, minBlock := 40, interval := 2, levels := 2 }

def esS : List Entry :=
  (List.range 12).map (fun i => ([i.toUInt8, 7], List.replicate (i % 5 * 3) (i.toUInt8)))

def okOf {α} : M α → Option α
  | .ok v => some v
  | .error _ => none

def fileOf : Except Trap (Bytes × List Emitted) → Option Bytes
  | .ok (f, _) => some f
  | .error _ => none

def blocksOf : Except Trap (Bytes × List Emitted) → Nat
  | .ok (_, l) => l.length
  | .error _ => 0

/-- twelve entries, 40-byte blocks, three index levels: the translated writer, evaluated by the kernel,
    returns the very bytes of the model's run (several data blocks and index levels are cut on the way) -/
example : okOf (genWriterRun (codecFn Codec.none) (genWriterNew cfgS .none 0) esS) = fileOf (W.run Codec.none cfgS esS) ∧
    (fileOf (W.run Codec.none cfgS esS)).isSome = true ∧ 5 ≤ blocksOf (W.run Codec.none cfgS esS) := by
  decide +kernel

end WriterSmoke

end Grenad.SrcTie
