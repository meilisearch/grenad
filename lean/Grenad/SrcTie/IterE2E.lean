/-
  Grenad.SrcTie.IterE2E — C04 / C05 with BOTH the iterator and the cursor regenerated from /repo/src.

  `src_C04_range` … (C04C05Src.lean) speak about the regenerated iterators over ANY cursor `mstep` that simulates the
  specification cursor.  Here the cursor is the regenerated `ReaderCursor` itself,

      ie_mstep cd s op := match genRcStep cd s op with | .ok (r, s') => (s', .ok r) | .error _ => (s, .err),

  and the simulation `Sim es (ie_mstep cd) ie_R` is obtained on every file of an `Assembly.Setting` from
    * total correctness of the regenerated cursor (`rt_rc_step`, ReaderTotal.lean): every call returns and keeps `RTState`;
    * the translator tie (`src_rc_step` through `e2e_gen_step`, ReaderE2EGen.lean): a returning call is the model's;
    * the model reader with `srcOps` simulates the specification cursor on `RS` (`Assembly.RS_sim` with `e2e_Rb_ops_src`).
  The side condition of the backward prefix iterator (`LostCurrentOK`) is discharged as in `C05_bytes_side_condition`.
-/
import Grenad.SrcTie.C04C05Src
import Grenad.SrcTie.IterNew
import Grenad.SrcTie.ReaderTotal
import Grenad.SrcTie.ReaderTotalSmoke

set_option linter.unusedSimpArgs false
set_option linter.unusedVariables false

namespace Grenad.SrcTie
open Grenad Grenad.R Grenad.Gen Grenad.Assembly Grenad.TCursor Grenad.IterP

/-- the regenerated `ReaderCursor` as a model-style cursor: a call that does not return is reported as `Err` -/
def ie_mstep (cd : Codec) : Gen.ReaderCursor → Op → Gen.ReaderCursor × Res := fun s op =>
  match genRcStep cd s op with
  | .ok (r, s') => (s', .ok r)
  | .error _ => (s, .err)

theorem ie_mstep_ok {cd : Codec} {s s' : Gen.ReaderCursor} {op : Op} {r : Option (Bytes × Bytes)}
    (h : genRcStep cd s op = .ok (r, s')) : ie_mstep cd s op = (s', .ok r) := by
  simp only [ie_mstep, h]

/-- the simulation relation: the total-correctness invariant of the generated cursor, and its abstraction is related
    (by the relation `R0` of the model reader) to the specification position -/
def ie_R (file : Bytes) (iv : Nat) (log : List Emitted) (st : Store) (root levels : Nat)
    (R0 : RC Grenad.BlockCursor → Spec.Pos → Prop) (s : Gen.ReaderCursor) (p : Spec.Pos) : Prop :=
  RTState file iv log st root levels s ∧ E2EGenAt file R0 s p

/-- **The regenerated cursor simulates the specification cursor.** -/
theorem ie_sim {cd : Codec} {file : Bytes} {iv : Nat} {log : List Emitted} {st : Store} {root levels : Nat}
    {es : List Entry} {R0 : RC Grenad.BlockCursor → Spec.Pos → Prop}
    (hs : SmallBlocks cd file) (hB : ByteSim st (loadCursor cd file) (Rb iv log))
    (hlv : levels ≤ 255) (hroot : RTPt st (levels + 1) root) (hsim0 : Sim es (srcReader cd file) R0) :
    Sim es (ie_mstep cd) (ie_R file iv log st root levels R0) := by
  rintro s p op ⟨hst, hat⟩
  obtain ⟨⟨r, s'⟩, h, hst'⟩ := rt_rc_step hs hB hlv hroot s hst op
  obtain ⟨hat', hag⟩ := e2e_gen_step hs hsim0 hat op r h
  rw [ie_mstep_ok h]
  exact ⟨⟨hst', hat'⟩, hag⟩

section
variable {cd : Codec} {cfg : WCfg} {es : List Entry} {file : Bytes} {log : List Emitted} {m : Meta.Meta}

/-- Everything the four theorems need: on a file of a `Setting`, a relation on which the regenerated cursor simulates
    the specification cursor, holding at the freshly opened cursor, and the side condition of C05 backward. -/
theorem ie_setup (S : Setting cd cfg es file log) (hm : Meta.parse file = .ok m)
    (hs : SmallBlocks cd file) (s0 : Gen.ReaderCursor) (hg : GoodRC (fun _ => True) file s0)
    (h0 : toRCfull s0 [] = RC.new m) :
    ∃ R : Gen.ReaderCursor → Spec.Pos → Prop, Sim es (ie_mstep cd) R ∧ R s0 .fresh ∧
      ∀ p, LostCurrentOK (ie_mstep cd) s0 p := by
  obtain ⟨hst, hlv, hroot⟩ := rt_state_open S hm s0 hg h0
  obtain ⟨root, hok, hparse⟩ := S.fileOK
  rw [hm] at hparse
  cases hparse
  have hsim0 : Sim es (srcReader cd file) (RS (storeOf log) root cfg.levels es (Rb cfg.interval log)) :=
    RS_sim hok S.byteSim (e2e_Rb_ops_src _ _)
  have hsim := ie_sim hs S.byteSim hlv hroot hsim0
  have hR : ie_R file cfg.interval log (storeOf log) root cfg.levels
      (RS (storeOf log) root cfg.levels es (Rb cfg.interval log)) s0 .fresh :=
    ⟨hst, hg, [], by rw [h0]; exact RS_new hok _ _ rfl rfl⟩
  refine ⟨_, hsim, hR, fun p => lostCurrentOK_of_mem hsim S.H.asc s0 .fresh hR p ?_⟩
  intro q c1 hle
  have h1 := (hsim s0 .fresh (.le q) hR).1
  rw [hle] at h1
  obtain ⟨hst1, hg1, lg, hR1⟩ := h1
  obtain ⟨⟨r, c2⟩, h, -⟩ := rt_rc_step hs S.byteSim hlv hroot c1 hst1 .current
  refine ⟨c2, r, ie_mstep_ok h, ?_⟩
  obtain ⟨-, -, lg', hstep⟩ := e2e_rc_step hs c1 c2 .current lg r hg1 h
  have e := e2e_RS_step_eq hok S.byteSim hR1 .current
  rw [hstep] at e
  have hr : Res.ok r = Res.ok ((toRCfull c1 lg).current byteOps) := congrArg Prod.snd e
  simp only [Res.ok.injEq] at hr
  intro e' he'
  exact RS_current_mem S.byteSim hR1 (by rw [← hr, he'])

/-! ### C04 / C05, iterator and cursor both regenerated -/

/-- **C04 forward, end to end on regenerated code.**  On a file the writer produced, over the regenerated
    `ReaderCursor` (from a cursor abstracting to the freshly opened one), the regenerated `RangeIter::new` returns an
    iterator, and calling the regenerated `RangeIter::next` until its first `None` returns — no panic, no `Err` —
    exactly the inserted entries within the bounds, in order. -/
theorem src_C04_range_e2e (S : Setting cd cfg es file log) (hm : Meta.parse file = .ok m)
    (hs : SmallBlocks cd file) (s0 : Gen.ReaderCursor) (hg : GoodRC (fun _ => True) file s0)
    (h0 : toRCfull s0 [] = RC.new m) (lo hi : Grenad.Bound) (fuel : Nat) (hfuel : fuel > es.length) :
    ∃ it, Gen.RangeIter.new s0 (toSrcBound lo, toSrcBound hi) = .ok it ∧
      collectM (Gen.RangeIter.next (gstep (ie_mstep cd))) fuel it [] = .ok (Spec.range es lo hi) := by
  obtain ⟨R, hsim, hR, -⟩ := ie_setup S hm hs s0 hg h0
  exact ⟨_, src_range_iter_new s0 lo hi,
    src_C04_range es S.H.asc (ie_mstep cd) R hsim s0 .fresh hR lo hi fuel hfuel⟩

theorem src_C04_range_rev_e2e (S : Setting cd cfg es file log) (hm : Meta.parse file = .ok m)
    (hs : SmallBlocks cd file) (s0 : Gen.ReaderCursor) (hg : GoodRC (fun _ => True) file s0)
    (h0 : toRCfull s0 [] = RC.new m) (lo hi : Grenad.Bound) (fuel : Nat) (hfuel : fuel > es.length) :
    ∃ it, Gen.RevRangeIter.new s0 (toSrcBound lo, toSrcBound hi) = .ok it ∧
      collectM (Gen.RevRangeIter.next (gstep (ie_mstep cd))) fuel it [] = .ok (Spec.range es lo hi).reverse := by
  obtain ⟨R, hsim, hR, -⟩ := ie_setup S hm hs s0 hg h0
  exact ⟨_, src_rev_range_iter_new s0 lo hi,
    src_C04_range_rev es S.H.asc (ie_mstep cd) R hsim s0 .fresh hR lo hi fuel hfuel⟩

theorem src_C05_prefix_e2e (S : Setting cd cfg es file log) (hm : Meta.parse file = .ok m)
    (hs : SmallBlocks cd file) (s0 : Gen.ReaderCursor) (hg : GoodRC (fun _ => True) file s0)
    (h0 : toRCfull s0 [] = RC.new m) (p : Bytes) (fuel : Nat) (hfuel : fuel > es.length) :
    ∃ it, Gen.PrefixIter.new s0 p = .ok it ∧
      collectM (Gen.PrefixIter.next (gstep (ie_mstep cd))) fuel it [] = .ok (Spec.withPrefix es p) := by
  obtain ⟨R, hsim, hR, -⟩ := ie_setup S hm hs s0 hg h0
  exact ⟨_, src_prefix_iter_new s0 p,
    src_C05_prefix es S.H.asc (ie_mstep cd) R hsim s0 .fresh hR p fuel hfuel⟩

/-- **C05 backward, end to end on regenerated code** — no side condition left: `LostCurrentOK` holds for the
    regenerated cursor on a written file (`ie_lostCurrentOK`). -/
theorem src_C05_prefix_rev_e2e (S : Setting cd cfg es file log) (hm : Meta.parse file = .ok m)
    (hs : SmallBlocks cd file) (s0 : Gen.ReaderCursor) (hg : GoodRC (fun _ => True) file s0)
    (h0 : toRCfull s0 [] = RC.new m) (p : Bytes) (fuel : Nat) (hfuel : fuel > es.length) :
    ∃ it, Gen.RevPrefixIter.new s0 p = .ok it ∧
      collectM (Gen.RevPrefixIter.next (gstep (ie_mstep cd))) fuel it [] = .ok (Spec.withPrefix es p).reverse := by
  obtain ⟨R, hsim, hR, hside⟩ := ie_setup S hm hs s0 hg h0
  exact ⟨_, src_rev_prefix_iter_new s0 p,
    src_C05_prefix_rev es S.H.asc (ie_mstep cd) R hsim s0 .fresh hR p (hside p) fuel hfuel⟩

/-- The side condition of the backward prefix iterator, for the regenerated cursor on a written file. -/
theorem ie_lostCurrentOK (S : Setting cd cfg es file log) (hm : Meta.parse file = .ok m)
    (hs : SmallBlocks cd file) (s0 : Gen.ReaderCursor) (hg : GoodRC (fun _ => True) file s0)
    (h0 : toRCfull s0 [] = RC.new m) (p : Bytes) : LostCurrentOK (ie_mstep cd) s0 p := by
  obtain ⟨R, hsim, hR, hside⟩ := ie_setup S hm hs s0 hg h0
  exact hside p

/-- **C04 from `Reader::new`, both directions.**  `Reader::new(Cursor::new(file))`, `into_cursor()`,
    `RangeIter::new` / `RevRangeIter::new`, then `next` until `None` — all regenerated code — return the inserted
    entries within the bounds, ascending resp. descending. -/
theorem src_C04_range_open_e2e (S : Setting cd cfg es file log) (hs : SmallBlocks cd file) (pos : Nat)
    (lo hi : Grenad.Bound) (fuel : Nat) (hfuel : fuel > es.length) :
    ∃ rdr s0 it rit, Gen.Reader.new { bytes := file, pos := pos } = .ok rdr ∧ Gen.Reader.into_cursor rdr = .ok s0 ∧
      Gen.RangeIter.new s0 (toSrcBound lo, toSrcBound hi) = .ok it ∧
      collectM (Gen.RangeIter.next (gstep (ie_mstep cd))) fuel it [] = .ok (Spec.range es lo hi) ∧
      Gen.RevRangeIter.new s0 (toSrcBound lo, toSrcBound hi) = .ok rit ∧
      collectM (Gen.RevRangeIter.next (gstep (ie_mstep cd))) fuel rit [] = .ok (Spec.range es lo hi).reverse := by
  obtain ⟨rdr, s0, m, hopen, hcur, hm, hg, h0, -⟩ := e2e_open S pos
  obtain ⟨it, h1, h2⟩ := src_C04_range_e2e S hm hs s0 hg h0 lo hi fuel hfuel
  obtain ⟨rit, h3, h4⟩ := src_C04_range_rev_e2e S hm hs s0 hg h0 lo hi fuel hfuel
  exact ⟨rdr, s0, it, rit, hopen, hcur, h1, h2, h3, h4⟩

theorem src_C05_prefix_open_e2e (S : Setting cd cfg es file log) (hs : SmallBlocks cd file) (pos : Nat)
    (p : Bytes) (fuel : Nat) (hfuel : fuel > es.length) :
    ∃ rdr s0 it rit, Gen.Reader.new { bytes := file, pos := pos } = .ok rdr ∧ Gen.Reader.into_cursor rdr = .ok s0 ∧
      Gen.PrefixIter.new s0 p = .ok it ∧
      collectM (Gen.PrefixIter.next (gstep (ie_mstep cd))) fuel it [] = .ok (Spec.withPrefix es p) ∧
      Gen.RevPrefixIter.new s0 p = .ok rit ∧
      collectM (Gen.RevPrefixIter.next (gstep (ie_mstep cd))) fuel rit [] = .ok (Spec.withPrefix es p).reverse := by
  obtain ⟨rdr, s0, m, hopen, hcur, hm, hg, h0, -⟩ := e2e_open S pos
  obtain ⟨it, h1, h2⟩ := src_C05_prefix_e2e S hm hs s0 hg h0 p fuel hfuel
  obtain ⟨rit, h3, h4⟩ := src_C05_prefix_rev_e2e S hm hs s0 hg h0 p fuel hfuel
  exact ⟨rdr, s0, it, rit, hopen, hcur, h1, h2, h3, h4⟩

/-- `gstep (ie_mstep cd)` is the regenerated cursor: where a generated call returns `(r, s')`, the cursor handed to the
    iterator returns `r` and moves to `s'` (it returns on every state the iterators reach: `ie_sim`). -/
theorem ie_gstep_ok {s s' : Gen.ReaderCursor} {o : CurOp} {r : Option (Bytes × Bytes)}
    (h : genRcStep cd s (opOf o) = .ok (r, s')) : gstep (ie_mstep cd) s o = (s', resOf (.ok r)) := by
  simp only [gstep, ie_mstep_ok h]

end

/-! ### the hypotheses are satisfiable: `Props.C01.exFile` (twelve entries, two index levels) -/

section
open Grenad.Props.C01 Grenad.SrcTie.E2ESmoke

example (lo hi : Grenad.Bound) :
    ∃ rdr s0 it rit, Gen.Reader.new { bytes := exFile, pos := 0 } = .ok rdr ∧ Gen.Reader.into_cursor rdr = .ok s0 ∧
      Gen.RangeIter.new s0 (toSrcBound lo, toSrcBound hi) = .ok it ∧
      collectM (Gen.RangeIter.next (gstep (ie_mstep Codec.none))) 13 it [] = .ok (Spec.range exEs lo hi) ∧
      Gen.RevRangeIter.new s0 (toSrcBound lo, toSrcBound hi) = .ok rit ∧
      collectM (Gen.RevRangeIter.next (gstep (ie_mstep Codec.none))) 13 rit [] = .ok (Spec.range exEs lo hi).reverse :=
  src_C04_range_open_e2e exSetting small 0 lo hi 13 (by decide)

example (p : Bytes) :
    ∃ rdr s0 it rit, Gen.Reader.new { bytes := exFile, pos := 0 } = .ok rdr ∧ Gen.Reader.into_cursor rdr = .ok s0 ∧
      Gen.PrefixIter.new s0 p = .ok it ∧
      collectM (Gen.PrefixIter.next (gstep (ie_mstep Codec.none))) 13 it [] = .ok (Spec.withPrefix exEs p) ∧
      Gen.RevPrefixIter.new s0 p = .ok rit ∧
      collectM (Gen.RevPrefixIter.next (gstep (ie_mstep Codec.none))) 13 rit [] = .ok (Spec.withPrefix exEs p).reverse :=
  src_C05_prefix_open_e2e exSetting small 0 p 13 (by decide)

example (m : Meta.Meta) (hm : Meta.parse exFile = .ok m) (s0 : Gen.ReaderCursor)
    (hg : GoodRC (fun _ => True) exFile s0) (h0 : toRCfull s0 [] = RC.new m) :
    ∃ it, Gen.RevPrefixIter.new s0 [7] = .ok it ∧
      collectM (Gen.RevPrefixIter.next (gstep (ie_mstep Codec.none))) 13 it [] = .ok [([7, 0], []), ([7], [70, 71])] := by
  obtain ⟨it, h1, h2⟩ := src_C05_prefix_rev_e2e exSetting hm small s0 hg h0 [7] 13 (by decide)
  have hv : (Spec.withPrefix exEs [7]).reverse = [([7, 0], []), ([7], [70, 71])] := by decide
  exact ⟨it, h1, by rw [h2, hv]⟩

end

end Grenad.SrcTie

section Audit
open Grenad.SrcTie
#print axioms ie_sim
#print axioms ie_setup
#print axioms ie_lostCurrentOK
#print axioms src_C04_range_e2e
#print axioms src_C04_range_rev_e2e
#print axioms src_C05_prefix_e2e
#print axioms src_C05_prefix_rev_e2e
#print axioms src_C04_range_open_e2e
#print axioms src_C05_prefix_open_e2e
end Audit
