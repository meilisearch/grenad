/-
  Grenad.SrcTie.MergerIterNext — translator tie for the k-way merger of src/merger.rs, part 2:
  the loops of `MergerIter::next` (the `while let Some(entry) = heap.peek()` loop, the values
  collected from `tmp_entries`, the `move_on_next` + push-back loop) against `popSame`, `MSrc.val`,
  `advance` of the model.
-/
import Grenad.SrcTie.MergerIter

set_option linter.unusedSimpArgs false
set_option linter.unusedVariables false

namespace Grenad.SrcTie
open Grenad Grenad.R Grenad.Gen Grenad.Wave3

/-! ### The `while let Some(entry) = self.heap.peek()` loop -/

/-- one iteration of the translated loop on live entries: pop while the head's key is `k` -/
theorem peekBody_live (k : List UInt8) (x : Nat) (st : Gen.MergerIter LCur × Bool)
    (hst : AllLive st.1.heap) :
    peekBody lstep k x st = .ok (match popE st.1.heap with
      | none => .done (st.1, true)
      | some (i, e) =>
        if k = (absE e).key then
          .yield ({ st.1 with heap := st.1.heap.eraseIdx i, tmp_entries := st.1.tmp_entries ++ [e] }, st.2)
        else .done (st.1, true)) := by
  simp only [peekBody, heapPeekM_live _ hst, heapPopM_live _ hst, bind, Except.bind, pure, Except.pure]
  cases hpe : popE st.fst.heap with
  | none => rfl
  | some p =>
    obtain ⟨i', e'⟩ := p
    have hle' : Live e' := hst e' (List.mem_of_getElem? (popE_get hpe))
    simp only [Option.map_some, lstep_current_live hle', liftCur, pure, Except.pure, beq_iff_eq]
    split <;> rfl

/-- the loop against `popSame`: the same entries are collected in the same order, the remaining heaps
    correspond; `heap.len() + 1` iterations are enough for the loop to end by `break` -/
theorem peek_loop_sim (k : List UInt8) : ∀ (l : List Nat) (it : Gen.MergerIter LCur) (h acc : List MSrc),
    AllLive it.heap → (it.heap.map absE).Perm h → KeyIdxNe h → it.heap.length + 1 ≤ l.length →
    ∃ T H2, forIn l (it, false) (peekBody lstep k) =
        .ok ({ it with heap := H2, tmp_entries := it.tmp_entries ++ T }, true) ∧
      (popSame k l.length h acc).1 = acc.reverse ++ T.map absE ∧
      (H2.map absE).Perm (popSame k l.length h acc).2 ∧ AllLive T ∧ AllLive H2 := by
  intro l
  induction l with
  | nil => intro it h acc _ _ _ hn; simp at hn
  | cons x l ih =>
    intro it h acc hl hp hne hn
    rw [List.forIn_cons, peekBody_live k x _ hl]
    simp only [List.length_cons, popSame]
    rcases pop_sim it.heap h hp hne with ⟨e1, e2⟩ | ⟨i, e, h1, e1, e2, hperm, hp1, hne1⟩
    · rw [e1, e2]
      exact ⟨[], it.heap, by simp [bind, Except.bind, pure, Except.pure], by simp, hp, AllLive.nil, hl⟩
    · rw [e1, e2]
      simp only
      by_cases hk : k = (absE e).key
      · subst hk
        simp only [if_true, bind, Except.bind]
        have hlen : (it.heap.eraseIdx i).length + 1 = it.heap.length := by
          have := hperm.length_eq; simp only [List.length_cons] at this; omega
        obtain ⟨T, H2, g1, g2, g3, g4, g5⟩ :=
          ih { it with heap := it.heap.eraseIdx i, tmp_entries := it.tmp_entries ++ [e] } h1
            (absE e :: acc) (hl.sublist (List.eraseIdx_sublist _ _)) hp1 hne1
            (by simp only [List.length_cons] at hn; simp only; omega)
        refine ⟨e :: T, H2, by rw [g1]; simp, by rw [g2]; simp, g3, ?_, g5⟩
        exact AllLive.cons.mpr ⟨hl e (hperm.symm.subset List.mem_cons_self), g4⟩
      · have hk' : ¬ (absE e).key = k := fun h => hk h.symm
        simp only [hk, hk', if_false]
        exact ⟨[], it.heap, by simp [bind, Except.bind, pure, Except.pure], by simp, hp, AllLive.nil, hl⟩

/-! ### The values of `tmp_entries` -/

theorem valueOf_live {e : Gen.Entry LCur} (he : Live e) : valueOf lstep e = .ok (some (absE e).val) := by
  simp only [valueOf, lstep_current_live he]
  rfl

theorem filterMapM_live : ∀ T : List (Gen.Entry LCur), AllLive T →
    List.filterMapM (valueOf lstep) T = .ok (T.map (fun e => (absE e).val)) := by
  intro T
  induction T with
  | nil => intro _; rfl
  | cons e T ih =>
    intro hl
    obtain ⟨he, hT⟩ := AllLive.cons.mp hl
    rw [List.filterMapM_cons, valueOf_live he, ih hT]
    rfl

/-! ### `move_on_next` and push back -/

/-- what `move_on_next` + push puts back on the heap (an un-fresh cursor) -/
def advE (e : Gen.Entry LCur) : Option (Gen.Entry LCur) :=
  match e.cursor.rest with
  | _ :: x :: r => some { cursor := { fresh := false, rest := x :: r }, source_index := e.source_index }
  | _ => none

theorem advE_abs (e : Gen.Entry LCur) : (advE e).map absE = adv (absE e) := by
  obtain ⟨⟨f, r⟩, i⟩ := e
  match r with
  | [] => rfl
  | [_] => rfl
  | _ :: _ :: _ => rfl

theorem advE_live {e e' : Gen.Entry LCur} (h : advE e = some e') : Live e' := by
  obtain ⟨⟨f, r⟩, i⟩ := e
  match r, h with
  | _ :: x :: r, h =>
    simp only [advE, Option.some.injEq] at h
    subst h
    exact ⟨rfl, by simp⟩

/-- one iteration of the translated loop on an un-fresh cursor -/
theorem advBody_unfresh (e : Gen.Entry LCur) (st : Gen.MergerIter LCur) (he : e.cursor.fresh = false) :
    advBody lstep e st = .ok (.yield { st with heap := st.heap ++ (advE e).toList }) := by
  obtain ⟨⟨f, r⟩, idx⟩ := e
  simp only at he
  subst he
  match r with
  | [] => simp [advBody, advE, lstep, liftCur, bind, Except.bind, pure, Except.pure]
  | [_] => simp [advBody, advE, lstep, liftCur, bind, Except.bind, pure, Except.pure]
  | _ :: _ :: _ => rfl

theorem adv_loop : ∀ (F : List (Gen.Entry LCur)) (st : Gen.MergerIter LCur),
    (∀ e ∈ F, e.cursor.fresh = false) →
    forIn F st (advBody lstep) = .ok { st with heap := st.heap ++ F.filterMap advE } := by
  intro F
  induction F with
  | nil => intro st _; simp [pure, Except.pure]
  | cons e F ih =>
    intro st hF
    rw [List.forIn_cons, advBody_unfresh e st (hF e List.mem_cons_self)]
    simp only [bind, Except.bind, List.filterMap_cons]
    rw [ih _ (fun x hx => hF x (List.mem_cons_of_mem _ hx))]
    cases advE e <;> simp

theorem filterMap_advE_abs (F : List (Gen.Entry LCur)) :
    (F.filterMap advE).map absE = (F.map absE).filterMap adv := by
  induction F with
  | nil => rfl
  | cons e F ih =>
    simp only [List.filterMap_cons, List.map_cons]
    rw [← advE_abs e]
    cases h : advE e with
    | none => simpa using ih
    | some e' => simp [ih]

theorem filterMap_advE_live (F : List (Gen.Entry LCur)) : AllLive (F.filterMap advE) := by
  intro e he
  obtain ⟨x, _, hx⟩ := List.mem_filterMap.mp he
  exact advE_live hx

/-- `move_on_next` on an un-fresh cursor -/
theorem lstep_next_unfresh (e : Gen.Entry LCur) (h : e.cursor.fresh = false) :
    lstep e.cursor CurOp.next =
      ({ fresh := false, rest := e.cursor.rest.tail }, some e.cursor.rest.tail.head?) := by
  simp [lstep, h]

end Grenad.SrcTie
