/-
  Grenad.SrcTie.WriterBlock — translator tie for `compress_and_write_block` of src/writer.rs (regenerated
  from /repo/src on every run), the one place where a block leaves a writer: finish the block writer,
  compress, write the 8-byte big-endian length and the body, and — through `BlockBuffer`'s `Drop`,
  whose shape the translator checks on the source — reset the block writer.
  The compressor is a parameter on both sides.  Composed with the tie of `Block::read_from`
  (SrcTie.BlockLoad) this gives the framed-block round trip on regenerated code for every lawful codec.
-/
import Grenad.Generated.Src.SrcWriterBlock
import Grenad.SrcTie.BlockWriter
import Grenad.SrcTie.BlockLoad
import Grenad.Proofs.WriterTreeBase
import Grenad.Proofs.TBlock2

set_option linter.unusedSimpArgs false
set_option linter.unusedVariables false

namespace Grenad.SrcTie
open Grenad Grenad.R Grenad.Gen

/-- `compress_and_write_block` appends exactly the model's `W.blockBytes` of the finished block to the
    sink and hands the block writer back reset (`BlockBuffer::drop`), whatever the codec and level. -/
theorem src_compress_and_write_block (cd : Codec) (out : Bytes) (w : Gen.BlockWriter) (items : List Entry)
    (ct : CompressionType) (lvl : Nat)
    (h : w.index_offsets.length < 2 ^ 32)
    (hlen : (cd.compress (BW.finish (toBW w items))).length < 2 ^ 64) :
    ∃ w', Gen.compress_and_write_block (fun _ _ b => some (cd.compress b)) out w ct lvl
        = .ok (out ++ W.blockBytes cd (BW.finish (toBW w items)), w')
      ∧ toBW w' [] = (toBW w items).reset := by
  have hf := src_bw_finish w items h
  unfold Gen.compress_and_write_block
  cases hfin : BlockWriter.finish w with
  | error e => rw [hfin] at hf; simp [Except.map] at hf
  | ok w1 =>
    rw [hfin] at hf
    simp only [Except.map, Except.ok.injEq] at hf
    have hw1 : w1.index_key_interval = w.index_key_interval ∧ w1.index_offsets = w.index_offsets := by
      simp only [BlockWriter.finish, bind, Except.bind, pure, Except.pure, tryInto, h, if_true] at hfin
      cases hfin; exact ⟨rfl, rfl⟩
    obtain ⟨w', hr, hr2⟩ := src_bw_reset w1 items
    have hlen' : (cd.compress (toBW w items).finish).length < 18446744073709551616 := hlen
    simp only [bind, Except.bind, hfin, pure, Except.pure, liftCompress, hf, tryInto, hlen, hlen', if_true, hr, beBytes8_eq]
    refine ⟨w', ?_, ?_⟩
    · simp [W.blockBytes, List.append_assoc]
    · rw [hr2]
      simp [toBW, BW.reset, hw1.1, hw1.2]

/-- **Framed-block round trip on regenerated code**: what the translated `compress_and_write_block`
    appended at the end of `pre`, followed by anything, is read back by the translated
    `Block::read_from` positioned at `pre.length` as the block writer's payload and offset table —
    for every lawful codec (`decompress ∘ compress = id`). -/
theorem src_block_written_then_read (cd : Codec) (hcd : cd.Lawful) (pre post : Bytes) (w : Gen.BlockWriter)
    (items : List Entry) (ct : CompressionType) (lvl : Nat) (b0 : Gen.Block)
    (h : w.index_offsets.length < 2 ^ 32) (h2 : ∀ x ∈ w.index_offsets, x < 2 ^ 64)
    (hlen : (pre ++ W.blockBytes cd (BW.finish (toBW w items)) ++ post).length < 2 ^ 64) :
    ∃ w' file b',
      Gen.compress_and_write_block (fun _ _ b => some (cd.compress b)) pre w ct lvl = .ok (file, w')
      ∧ Gen.Block.read_from (fun _ => cd.decompress) b0 { bytes := file ++ post, pos := pre.length } = .ok b'
      ∧ toBlock b' = { payload := w.buffer, offsets := w.index_offsets }
      ∧ b'.payload_size ≤ b'.buffer.length := by
  have hc : (cd.compress (BW.finish (toBW w items))).length < 2 ^ 64 := by
    simp [blockBytes_length] at hlen; omega
  obtain ⟨w', hw, _⟩ := src_compress_and_write_block cd pre w items ct lvl h hc
  have hload := loadBlock_of_split cd hcd pre post (BW.finish (toBW w items)) hlen
  have hparse := parse_finish (toBW w items) (by simpa [toBW] using h) (by simpa [toBW] using h2)
  have hrd := src_block_read_from cd b0 (pre ++ W.blockBytes cd (BW.finish (toBW w items)) ++ post) pre.length
  rw [hparse] at hload
  unfold loadBlock at hload
  cases hl : loadBlockLen cd (pre ++ W.blockBytes cd (BW.finish (toBW w items)) ++ post) pre.length with
  | none => rw [hl] at hload; simp at hload
  | some r =>
    obtain ⟨blk, n⟩ := r
    rw [hl] at hload hrd
    simp only [Option.map_some, Option.some.injEq] at hload
    obtain ⟨b', hb1, hb2, hb3, _⟩ := hrd
    refine ⟨w', _, b', hw, hb1, ?_, hb3⟩
    rw [hb2, hload]
    simp [toBW]

end Grenad.SrcTie
