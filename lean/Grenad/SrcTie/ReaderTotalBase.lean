/-
  Grenad.SrcTie.ReaderTotalBase — total correctness of the regenerated reader on written files:
  the invariant under which no generated call can panic or fail, and the three primitive facts
  (in-block moves, `current`, loading a block) in "returns and re-establishes the invariant" form.

  Everything is stated with `RTOk` (Prim.lean): the translated computation returns, with a result satisfying the
  postcondition.
  `RTPt s k off`: in the abstract store `s`, `off` holds a block all of whose entries (when `k > 0`) carry an
     8-byte value pointing to a block with the same property at depth `k - 1`.
  `RTCur G c`: the generated in-block cursor `c` is over a writer-built block (`Assembly.Rb`) all of whose
     entries satisfy `G`, and the block's sizes exclude `usize` overflow (`OKBlock`).
-/
import Grenad.SrcTie.ReaderE2EGen
import Grenad.SrcTie.NoPanic

set_option linter.unusedSimpArgs false
set_option linter.unusedVariables false

namespace Grenad.SrcTie
open Grenad Grenad.R Grenad.Gen Grenad.Assembly Grenad.TCursor

/-- what an entry of a block at depth `k` satisfies: nothing for a data block (`k = 0`); for an index block, an
    8-byte value that is the offset of a stored block whose entries satisfy the same at depth `k - 1` -/
def RTG (s : Store) : Nat → Entry → Prop
  | 0, _ => True
  | k + 1, e => e.2.length = 8 ∧ ∃ blk, s (offOf e) = some blk ∧ ∀ e' ∈ blk, RTG s k e'

/-- `off` holds a block of depth `k` -/
def RTPt (s : Store) (k off : Nat) : Prop := ∃ blk, s off = some blk ∧ ∀ e ∈ blk, RTG s k e

theorem rtg_succ (s : Store) (k : Nat) (e : Entry) : RTG s (k + 1) e ↔ e.2.length = 8 ∧ RTPt s k (offOf e) :=
  Iff.rfl

/-- a subtree of a well-formed file is a tree in the sense of `RTPt` -/
theorem rtpt_of_sub {s : Store} {lvl : Nat → Nat} (hlt : ∀ off blk, s off = some blk → off < 2 ^ 64) :
    ∀ (k off : Nat) (fl : List Entry), Sub s lvl k off fl → RTPt s k off
  | 0, off, fl, h => ⟨fl, Sub.inv_leaf h, fun _ _ => trivial⟩
  | k + 1, off, fl, h => by
    obtain ⟨kids, -, hblk, hkids, -⟩ := Sub.inv_node h
    refine ⟨idx kids, hblk, ?_⟩
    intro e he
    simp only [List.mem_map] at he
    obtain ⟨kid, hk, rfl⟩ := he
    have hsk := hkids kid hk
    obtain ⟨b, hb⟩ := Sub.stored hsk
    refine ⟨be64_length _, ?_⟩
    rw [offOf_mk _ (hlt _ _ hb)]
    exact rtpt_of_sub hlt k kid.1 kid.2 hsk

section
variable (iv : Nat) (log : List Emitted)

/-- a generated in-block cursor over a writer-built block whose entries all satisfy `G` -/
def RTCur (G : Entry → Prop) (c : Gen.BlockCursor) : Prop :=
  OKBlock c.block ∧ ∃ l, Rb iv log (toBC c) l ∧ ∀ e ∈ l.es, G e

variable {iv log}

theorem RTCur.good {G : Entry → Prop} {c : Gen.BlockCursor} (h : RTCur iv log G c) : Good (fun _ => True) c :=
  ⟨h.1, trivial⟩

/-- **every in-block move returns**, keeps the invariant, and returns an entry of the block -/
theorem rt_move {G : Entry → Prop} {c : Gen.BlockCursor} (h : RTCur iv log G c) (m : Mov) :
    RTOk (genMove m c) fun x => RTCur iv log G x.2 ∧ ∀ e, x.1 = some e → G e := by
  obtain ⟨hok, l, ⟨e0, he0, b, hb, hr⟩, hG⟩ := h
  have hbb : toBlock c.block = b := hr.1
  subst hbb
  obtain ⟨c', hmv, hrep', hblk⟩ := src_tblock_total c hok hb hr m
  refine ⟨_, hmv, ⟨by rw [hblk]; exact hok, (LC.ops.apply m l).1, ⟨e0, he0, toBlock c'.block, ?_, hrep'⟩, ?_⟩, ?_⟩
  · rw [hblk]; exact hb
  · rw [apply_es]; exact hG
  · intro e he
    exact hG e (apply_mem m l he)

/-- **`current` returns** an entry of the block -/
theorem rt_current {G : Entry → Prop} {c : Gen.BlockCursor} (h : RTCur iv log G c) :
    RTOk (Gen.BlockCursor.current c) fun r => ∀ e, r = some e → G e := by
  obtain ⟨hok, l, ⟨e0, he0, b, hb, hr⟩, hG⟩ := h
  have hbb : toBlock c.block = b := hr.1
  subst hbb
  obtain ⟨r, hcur⟩ := current_total c hok hb (goodPos_of_brepr hr)
  refine ⟨r, hcur, ?_⟩
  intro e he
  have h1 := src_bc_current c hok r hcur
  have h2 : (toBC c).current = l.current := current_sim hb hr
  rw [h1, h2] at he
  exact hG e (Assembly.current_mem he)

end

/-- where the model loads a block, the emitted load sequence returns -/
theorem rt_genLoad_ok (cd : Codec) (file : Bytes) (rd : Src) (hrd : rd.bytes = file) (off : Nat)
    (ct : CompressionType) (b : Grenad.BlockCursor) (h : loadCursor cd file off = some b) :
    ∃ x, genLoad cd rd off ct = .ok x := by
  have hmodel := src_block_read_from cd
    ({ compression_type := ct, buffer := [], payload_size := 0, index_offsets := [] } : Gen.Block) file off
  cases hl : loadBlockLen cd file off with
  | none => simp [loadCursor, loadBlock, hl] at h
  | some p =>
    obtain ⟨blk, n⟩ := p
    rw [hl] at hmodel
    obtain ⟨b', hb', -⟩ := hmodel
    rw [genLoad_eq, hrd, hb']
    exact ⟨_, rfl⟩

section
variable {cd : Codec} {file : Bytes} {iv : Nat} {log : List Emitted} {s : Store}

/-- **loading a block of the tree returns** a fresh cursor satisfying the invariant of its depth -/
theorem rt_load (hs : SmallBlocks cd file) (hB : ByteSim s (loadCursor cd file) (Rb iv log))
    {k off : Nat} (hp : RTPt s k off) (rd : Src) (hrd : rd.bytes = file) (ct : CompressionType) :
    RTOk (genLoad cd rd off ct) fun x =>
      RTCur iv log (RTG s k) x.1 ∧ x.1.current_offset = none ∧ x.2.bytes = file := by
  obtain ⟨blk, hblk, hG⟩ := hp
  obtain ⟨b, hload, hrb⟩ := hB.load off blk hblk
  obtain ⟨⟨c, rd'⟩, hgen⟩ := rt_genLoad_ok cd file rd hrd off ct b hload
  obtain ⟨hmodel, hgood, hco, hrd'⟩ :=
    src_load_cursor cd file (fun _ => True) hs (loadsQ_true cd file) rd hrd off ct c rd' hgen
  rw [hload] at hmodel
  simp only [Option.some.injEq] at hmodel
  subst hmodel
  exact ⟨_, hgen, ⟨hgood.1, LC.ofList blk, hrb, hG⟩, hco, hrd'⟩

end

/-- the value of an index entry as the code reads it, on 8 bytes -/
theorem rt_beValueN8 (k ob : Bytes) (h : ob.length = 8) : beValueN 8 ob = .ok (offOf (k, ob)) := by
  unfold beValueN
  simp only [h, if_true, pure, Except.pure, beValue_eq_beVal]
  rfl

end Grenad.SrcTie
